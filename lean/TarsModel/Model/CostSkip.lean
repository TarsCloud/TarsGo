/-
  Instrumented variant of the skip family (C05): the same computation as in `Model/Wire.lean`,
  returning in addition the Go call depth of the `skipField` recursion (skipField → skipFieldList /
  skipFieldMap / SkipToStructEnd → skipField → …), counted in `skipField` frames.
  `Proofs/WireSkip.lean` (`skipD_run`) proves that the first component is exactly the original
  result.  Core Lean only.
-/
import TarsModel.Model.Wire

namespace Tars
open Consts

/-! ## call depth of the skip family -/

mutual
/-- `skipField` with the depth of nested `skipField` frames (this frame included) -/
def skipFieldD : Nat → Nat → Reader → Res Unit × Nat
  | 0, _, r => ((.error .fuel, r), 0)
  | fuel+1, ty, r =>
    if ty = tyMAP then
      match readLen r with
      | (.error e, r') => ((.error e, r'), 1)
      | (.ok len, r1) =>
        let x := skipElemsD fuel (wrapS 32 (len * 2)) r1
        (x.1, x.2 + 1)
    else if ty = tyLIST then
      match readLen r with
      | (.error e, r') => ((.error e, r'), 1)
      | (.ok len, r1) =>
        let x := skipElemsD fuel len r1
        (x.1, x.2 + 1)
    else if ty = tyStructBegin then
      let x := skipToStructEndD fuel r
      (x.1, x.2 + 1)
    else
      -- the remaining wire types do not recurse
      (skipField 1 ty r, 1)

/-- element loop of `skipFieldList`/`skipFieldMap`: the deepest element -/
def skipElemsD : Nat → Int → Reader → Res Unit × Nat
  | 0, _, r => ((.error .fuel, r), 0)
  | fuel+1, n, r =>
    if n ≤ 0 then ((.ok (), r), 0)
    else
      match readHead r with
      | (.error e, r') => ((.error e, r'), 0)
      | (.ok (tyCur, _), r1) =>
        let x := skipFieldD fuel tyCur r1
        let y := skipElemsD fuel (n - 1) x.1.2
        (y.1, max x.2 y.2)

/-- `SkipToStructEnd`: the deepest field -/
def skipToStructEndD : Nat → Reader → Res Unit × Nat
  | 0, r => ((.error .fuel, r), 0)
  | fuel+1, r =>
    match readHead r with
    | (.error e, r') => ((.error e, r'), 0)
    | (.ok (ty, _), r1) =>
      let x := skipFieldD fuel ty r1
      match x.1 with
      | (.error e, r') => ((.error e, r'), x.2)
      | (.ok (), r2) =>
        if ty = tyStructEnd then ((.ok (), r2), x.2)
        else
          let y := skipToStructEndD fuel r2
          (y.1, max x.2 y.2)
end

/-- Go call depth (in `skipField` frames) of skipping one field of wire type `ty` -/
def skipDepth (ty : Nat) (r : Reader) : Nat := (skipFieldD r.fuel ty r).2

/-- Go call depth (in `skipField` frames) below one `SkipToStructEnd` call -/
def structEndDepth (r : Reader) : Nat := (skipToStructEndD r.fuel r).2

end Tars
