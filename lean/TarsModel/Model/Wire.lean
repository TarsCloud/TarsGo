/-
  Model of tars/protocol/codec/codec.go: Buffer writers and Reader (bytes.Reader semantics).
  Every definition mirrors one Go function; names follow the Go names.
-/
import TarsModel.Model.Bytes
import TarsModel.Generated.Consts

namespace Tars

open Consts

/-! ## Writers (`codec.Buffer`): each returns the bytes appended to the buffer -/

/-- `Buffer.WriteHead` -/
def writeHead (ty tag : Nat) : Bytes :=
  if tag < extTagThreshold then [byte (tag * 16 + ty)]
  else [byte (extTagMarker * 16 + ty), byte tag]

/-- `Buffer.WriteInt8` (`data` is the int8 value as an integer) -/
def writeInt8 (v : Int) (tag : Nat) : Bytes :=
  if v = 0 then writeHead tyZeroTag tag
  else writeHead tyBYTE tag ++ [byte (toU 8 v)]

/-- `Buffer.WriteInt16` -/
def writeInt16 (v : Int) (tag : Nat) : Bytes :=
  if -128 ≤ v ∧ v ≤ 127 then writeInt8 v tag
  else writeHead tySHORT tag ++ be 2 (toU 16 v)

/-- `Buffer.WriteInt32` -/
def writeInt32 (v : Int) (tag : Nat) : Bytes :=
  if -32768 ≤ v ∧ v ≤ 32767 then writeInt16 v tag
  else writeHead tyINT tag ++ be 4 (toU 32 v)

/-- `Buffer.WriteInt64` -/
def writeInt64 (v : Int) (tag : Nat) : Bytes :=
  if -2147483648 ≤ v ∧ v ≤ 2147483647 then writeInt32 v tag
  else writeHead tyLONG tag ++ be 8 (toU 64 v)

/-- `Buffer.WriteUint8`: via `WriteInt16(int16(data))` -/
def writeUint8 (v : Nat) (tag : Nat) : Bytes := writeInt16 (v : Int) tag
/-- `Buffer.WriteUint16`: via `WriteInt32(int32(data))` -/
def writeUint16 (v : Nat) (tag : Nat) : Bytes := writeInt32 (v : Int) tag
/-- `Buffer.WriteUint32`: via `WriteInt64(int64(data))` -/
def writeUint32 (v : Nat) (tag : Nat) : Bytes := writeInt64 (v : Int) tag

/-- `Buffer.WriteBool` -/
def writeBool (b : Bool) (tag : Nat) : Bytes := writeInt8 (if b then 1 else 0) tag

/-- `Buffer.WriteFloat32`: `bits = math.Float32bits(data)` -/
def writeFloat32 (bits : Nat) (tag : Nat) : Bytes := writeHead tyFLOAT tag ++ be 4 bits
/-- `Buffer.WriteFloat64` -/
def writeFloat64 (bits : Nat) (tag : Nat) : Bytes := writeHead tyDOUBLE tag ++ be 8 bits

/-- `Buffer.WriteString` (`uint32(len)` / `byte(len)` truncations are literal) -/
def writeString (s : Bytes) (tag : Nat) : Bytes :=
  if s.length > str1Max then writeHead tySTRING4 tag ++ be 4 s.length ++ s
  else writeHead tySTRING1 tag ++ [byte s.length] ++ s

/-! ## Reader (`codec.Reader` over `bytes.Reader`) -/

structure Reader where
  data : Array Byte -- `Reader.ref`: the whole input (an array so that the compiled driver reads in O(1))
  pos  : Nat        -- may exceed `data.size` after `Seek`
deriving Repr, DecidableEq

/-- `n` bytes starting at index `i` (fewer if the input ends): `data[i : min(i+n, len)]` -/
def takeFrom (a : Array Byte) (i : Nat) : Nat → Bytes
  | 0 => []
  | n+1 =>
    match a[i]? with
    | some b => b :: takeFrom a (i+1) n
    | none => []

inductive Err where
  | eof          -- io.EOF from the underlying reader
  | require      -- "can not find Tag … But require"
  | mismatch     -- "type mismatch" / "type not match" / "need string" / "require vector, but not"
  | invalid      -- "invalid type" in skipField
  | slhead       -- "simple list need byte head"
  | fuel         -- model artefact: never produced for fuel ≥ bound (theorem)
  | panic (site : String)   -- Go run-time panic (makeslice, index out of range, …)
deriving Repr, DecidableEq

/-- Result of a reader operation: outcome and the reader state afterwards (kept on error too,
    because the skip loops ignore inner errors and continue). -/
abbrev Res (α : Type) := Except Err α × Reader

def RM (α : Type) := Reader → Res α

@[inline] def RM.pure (a : α) : RM α := fun r => (.ok a, r)
@[inline] def RM.bind (m : RM α) (f : α → RM β) : RM β := fun r =>
  match m r with
  | (.ok a, r') => f a r'
  | (.error e, r') => (.error e, r')
@[inline] def RM.fail (e : Err) : RM α := fun r => (.error e, r)

instance : Monad RM where
  pure := RM.pure
  bind := RM.bind

namespace Reader

def mk0 (data : Bytes) : Reader := ⟨data.toArray, 0⟩

/-- `bytes.Reader.Len()` -/
def remaining (r : Reader) : Nat := r.data.size - r.pos

/-- unread portion -/
def rest (r : Reader) : Bytes := r.data.toList.drop r.pos

end Reader

/-- `bytes.Reader.ReadByte` -/
def readByte : RM Byte := fun r =>
  match r.data[r.pos]? with
  | some b => (.ok b, { r with pos := r.pos + 1 })
  | none => (.error .eof, r)

/-- `bytes.Reader.UnreadByte` (error ignored by the caller) -/
def unreadByte : RM Unit := fun r =>
  if r.pos = 0 then (.ok (), r) else (.ok (), { r with pos := r.pos - 1 })

/-- `bytes.Reader.Seek(n, io.SeekCurrent)` for `n ≥ 0` -/
def seekCur (n : Nat) : RM Unit := fun r => (.ok (), { r with pos := r.pos + n })

/-- `io.ReadFull(r, buf)` with `len(buf) = n` on a `bytes.Reader`: all `n` bytes or an error
    (`io.EOF` when nothing is left, `io.ErrUnexpectedEOF` on a short read — both `.eof` here); the
    position advances by what was available. An empty buffer reads nothing and succeeds. -/
def readFull (n : Nat) : RM Bytes := fun r =>
  if n = 0 then (.ok [], r)
  else if r.pos ≥ r.data.size then (.error .eof, r)
  else
    let got := takeFrom r.data r.pos n
    if got.length < n then (.error .eof, { r with pos := r.pos + got.length })
    else (.ok got, { r with pos := r.pos + got.length })

/-- `bReadU16/32/64` (the value is assigned also on error; callers use it only when `err == nil`) -/
def bReadU (n : Nat) : RM Nat := fun r =>
  match readFull n r with
  | (.ok buf, r') => (.ok (beVal buf), r')
  | (.error e, r') => (.error e, r')

/-- `bReadU8` -/
def bReadU8 : RM Nat := fun r =>
  match readByte r with
  | (.ok b, r') => (.ok b.val, r')
  | (.error e, r') => (.error e, r')

/-- `Reader.readHead`: returns `(ty, tag)` -/
def readHead : RM (Nat × Nat) := fun r =>
  match readByte r with
  | (.error e, r') => (.error e, r')
  | (.ok d, r1) =>
    let ty := d.val % 16
    let tag := d.val / 16
    if tag = extTagRead then
      match readByte r1 with
      | (.error e, r') => (.error e, r')
      | (.ok d2, r2) => (.ok (ty, d2.val), r2)
    else (.ok (ty, tag), r1)

/-- `Reader.unreadHead` -/
def unreadHead (curTag : Nat) : RM Unit := fun r =>
  let (_, r1) := unreadByte r
  if curTag ≥ extTagUnread then unreadByte r1 else (.ok (), r1)

/-- `Reader.Skip(n)` for the Go `int` argument `n` -/
def skip (n : Int) : RM Unit := fun r =>
  if n ≤ 0 then (.ok (), r) else seekCur n.toNat r

/-- `Reader.Next(n)` -/
def next (n : Int) : RM Bytes := fun r =>
  if n ≤ 0 then (.ok [], r)
  else
    let beg := r.data.size - r.remaining
    let r' : Reader := { r with pos := r.pos + n.toNat }
    let end_ := r.data.size - r'.remaining
    (.ok (takeFrom r.data beg (end_ - beg)), r')

/-- The first iteration of `SkipToNoCheck(0, true)` (which is the only one: no tag is `< 0`),
    followed by the `ReadInt32` switch: this is `ReadInt32(&length, 0, true)` as used for every
    length prefix.  Kept separate so that the skip family does not depend on the general
    `skipToNoCheck`; `readLen_eq` proves the two agree. -/
def readLen : RM Int := fun r =>
  match readHead r with
  | (.error _, r') => (.error .require, r')
  | (.ok (ty, tag), r1) =>
    if ty = tyStructEnd ∨ tag > 0 then (.error .require, r1)
    else if ty = tyZeroTag then (.ok 0, r1)
    else if ty = tyBYTE then
      match bReadU8 r1 with
      | (.ok v, r2) => (.ok (toS 8 v), r2)
      | (.error e, r2) => (.error e, r2)
    else if ty = tySHORT then
      match bReadU 2 r1 with
      | (.ok v, r2) => (.ok (toS 16 v), r2)
      | (.error e, r2) => (.error e, r2)
    else if ty = tyINT then
      match bReadU 4 r1 with
      | (.ok v, r2) => (.ok (toS 32 v), r2)
      | (.error e, r2) => (.error e, r2)
    else (.error .mismatch, r1)

/-! ### skip family (`skipField`, `skipFieldMap`, `skipFieldList`, `skipFieldSimpleList`,
    `SkipToStructEnd`) — mutual recursion in Go; here one fuel-indexed family.  Every recursive
    call and every loop iteration consumes one unit of fuel. -/

mutual
/-- `Reader.skipField(ty)` -/
def skipField : Nat → Nat → RM Unit
  | 0, _ => RM.fail .fuel
  | fuel+1, ty => fun r =>
    if ty = tyBYTE then skip 1 r
    else if ty = tySHORT then skip 2 r
    else if ty = tyINT then skip 4 r
    else if ty = tyLONG then skip 8 r
    else if ty = tyFLOAT then skip 4 r
    else if ty = tyDOUBLE then skip 8 r
    else if ty = tySTRING1 then
      match readByte r with
      | (.error e, r') => (.error e, r')
      | (.ok d, r1) => skip (d.val : Int) r1
    else if ty = tySTRING4 then
      match bReadU 4 r with
      | (.error e, r') => (.error e, r')
      | (.ok l, r1) => skip (l : Int) r1
    else if ty = tyMAP then
      -- skipFieldMap
      match readLen r with
      | (.error e, r') => (.error e, r')
      | (.ok len, r1) => skipElems fuel (wrapS 32 (len * 2)) r1
    else if ty = tyLIST then
      -- skipFieldList
      match readLen r with
      | (.error e, r') => (.error e, r')
      | (.ok len, r1) => skipElems fuel len r1
    else if ty = tySimpleList then
      -- skipFieldSimpleList: the type test comes before the error test
      match readHead r with
      | (.error e, r') =>
        -- Go tests `tyCur != BYTE` before `err`: `tyCur` is 0 (= BYTE) when the first byte is
        -- missing, and the low nibble of the first byte when the extended tag byte is missing
        match r.data[r.pos]? with
        | none => (.error e, r')
        | some d => if d.val % 16 ≠ tyBYTE then (.error .slhead, r') else (.error e, r')
      | (.ok (tyCur, _), r1) =>
        if tyCur ≠ tyBYTE then (.error .slhead, r1)
        else
          match readLen r1 with
          | (.error e, r') => (.error e, r')
          | (.ok len, r2) => skip len r2
    else if ty = tyStructBegin then skipToStructEnd fuel r
    else if ty = tyStructEnd then (.ok (), r)
    else if ty = tyZeroTag then (.ok (), r)
    else (.error .invalid, r)

/-- the loop `for i := 0; i < n; i++ { readHead; _ = skipField }` of skipFieldMap / skipFieldList -/
def skipElems : Nat → Int → RM Unit
  | 0, _ => RM.fail .fuel
  | fuel+1, n => fun r =>
    if n ≤ 0 then (.ok (), r)
    else
      match readHead r with
      | (.error e, r') => (.error e, r')
      | (.ok (tyCur, _), r1) =>
        -- inner error ignored, state kept
        let (_, r2) := skipField fuel tyCur r1
        skipElems fuel (n - 1) r2

/-- `Reader.SkipToStructEnd` -/
def skipToStructEnd : Nat → RM Unit
  | 0 => RM.fail .fuel
  | fuel+1 => fun r =>
    match readHead r with
    | (.error e, r') => (.error e, r')
    | (.ok (ty, _), r1) =>
      match skipField fuel ty r1 with
      | (.error e, r') => (.error e, r')
      | (.ok (), r2) => if ty = tyStructEnd then (.ok (), r2) else skipToStructEnd fuel r2
end

/-- fuel that is always sufficient for a reader (theorem `C05_skip_fuel_suffices`) -/
def Reader.fuel (r : Reader) : Nat := 2 * r.data.size + 8

/-- `Reader.SkipToNoCheck(tag, require)`: returns `(have, tyCur)` -/
def skipToNoCheckF : Nat → Nat → Bool → RM (Bool × Nat)
  | 0, _, _ => RM.fail .fuel
  | fuel+1, tag, require => fun r =>
    match readHead r with
    | (.error _, r') => if require then (.error .require, r') else (.ok (false, 0), r')
    | (.ok (tyCur, tagCur), r1) =>
      if tyCur = tyStructEnd ∨ tagCur > tag then
        if require then (.error .require, r1)
        else
          let (_, r2) := unreadHead tagCur r1
          (.ok (false, tyCur), r2)
      else if tagCur = tag then (.ok (true, tyCur), r1)
      else
        match skipField r1.fuel tyCur r1 with
        | (.error e, r') => (.error e, r')
        | (.ok (), r2) => skipToNoCheckF fuel tag require r2

def skipToNoCheck (tag : Nat) (require : Bool) : RM (Bool × Nat) := fun r =>
  skipToNoCheckF r.fuel tag require r

/-- `Reader.SkipTo(ty, tag, require)` -/
def skipTo (ty tag : Nat) (require : Bool) : RM Bool := fun r =>
  match skipToNoCheck tag require r with
  | (.error e, r') => (.error e, r')
  | (.ok (have_, tyCur), r1) =>
    if have_ ∧ ty ≠ tyCur then (.error .mismatch, r1) else (.ok have_, r1)

/-- helper: apply a conversion to the result of a raw read -/
@[inline] def mapRes (f : α → β) (x : Res α) : Res β :=
  match x with
  | (.ok a, r) => (.ok (f a), r)
  | (.error e, r) => (.error e, r)

/-- `Reader.ReadInt8(&data, tag, require)`; `old` is the previous value of `*data` -/
def readInt8 (old : Int) (tag : Nat) (require : Bool) : RM Int := fun r =>
  match skipToNoCheck tag require r with
  | (.error e, r') => (.error e, r')
  | (.ok (false, _), r1) => (.ok old, r1)
  | (.ok (true, ty), r1) =>
    if ty = tyZeroTag then (.ok 0, r1)
    else if ty = tyBYTE then mapRes (toS 8) (bReadU8 r1)
    else (.error .mismatch, r1)

/-- `Reader.ReadInt16` -/
def readInt16 (old : Int) (tag : Nat) (require : Bool) : RM Int := fun r =>
  match skipToNoCheck tag require r with
  | (.error e, r') => (.error e, r')
  | (.ok (false, _), r1) => (.ok old, r1)
  | (.ok (true, ty), r1) =>
    if ty = tyZeroTag then (.ok 0, r1)
    else if ty = tyBYTE then mapRes (toS 8) (bReadU8 r1)
    else if ty = tySHORT then mapRes (toS 16) (bReadU 2 r1)
    else (.error .mismatch, r1)

/-- `Reader.ReadInt32` -/
def readInt32 (old : Int) (tag : Nat) (require : Bool) : RM Int := fun r =>
  match skipToNoCheck tag require r with
  | (.error e, r') => (.error e, r')
  | (.ok (false, _), r1) => (.ok old, r1)
  | (.ok (true, ty), r1) =>
    if ty = tyZeroTag then (.ok 0, r1)
    else if ty = tyBYTE then mapRes (toS 8) (bReadU8 r1)
    else if ty = tySHORT then mapRes (toS 16) (bReadU 2 r1)
    else if ty = tyINT then mapRes (toS 32) (bReadU 4 r1)
    else (.error .mismatch, r1)

/-- `Reader.ReadInt64` -/
def readInt64 (old : Int) (tag : Nat) (require : Bool) : RM Int := fun r =>
  match skipToNoCheck tag require r with
  | (.error e, r') => (.error e, r')
  | (.ok (false, _), r1) => (.ok old, r1)
  | (.ok (true, ty), r1) =>
    if ty = tyZeroTag then (.ok 0, r1)
    else if ty = tyBYTE then mapRes (toS 8) (bReadU8 r1)
    else if ty = tySHORT then mapRes (toS 16) (bReadU 2 r1)
    else if ty = tyINT then mapRes (toS 32) (bReadU 4 r1)
    else if ty = tyLONG then mapRes (toS 64) (bReadU 8 r1)
    else (.error .mismatch, r1)

/-- `Reader.ReadUint8`: `n := int16(*data); ReadInt16(&n); *data = uint8(n)` -/
def readUint8 (old : Nat) (tag : Nat) (require : Bool) : RM Nat := fun r =>
  mapRes (fun n => toU 8 n) (readInt16 (old : Int) tag require r)
/-- `Reader.ReadUint16` -/
def readUint16 (old : Nat) (tag : Nat) (require : Bool) : RM Nat := fun r =>
  mapRes (fun n => toU 16 n) (readInt32 (old : Int) tag require r)
/-- `Reader.ReadUint32` -/
def readUint32 (old : Nat) (tag : Nat) (require : Bool) : RM Nat := fun r =>
  mapRes (fun n => toU 32 n) (readInt64 (old : Int) tag require r)

/-- `Reader.ReadBool` -/
def readBool (old : Bool) (tag : Nat) (require : Bool) : RM Bool := fun r =>
  mapRes (fun (n : Int) => !(n == 0)) (readInt8 (if old then 1 else 0) tag require r)

/-- float32 → float64 conversion on bit patterns (Go `float64(float32)`, exact; NaNs are quieted
    as the hardware conversion does). -/
def widenF32 (b : Nat) : Nat :=
  let sign := (b / 2 ^ 31) % 2
  let e := (b / 2 ^ 23) % 256
  let m := b % 2 ^ 23
  if e = 255 then
    if m = 0 then sign * 2 ^ 63 + 2047 * 2 ^ 52
    else sign * 2 ^ 63 + 2047 * 2 ^ 52 + ((m * 2 ^ 29) ||| 2 ^ 51)
  else if e = 0 then
    if m = 0 then sign * 2 ^ 63
    else
      -- subnormal: normalise
      let k := Nat.log2 m          -- position of the leading one, 0..22
      let e' := k + 874
      let m' := (m * 2 ^ (52 - k)) % 2 ^ 52
      sign * 2 ^ 63 + e' * 2 ^ 52 + m'
  else sign * 2 ^ 63 + (e + 896) * 2 ^ 52 + m * 2 ^ 29

/-- `Reader.ReadFloat32` (bit pattern) -/
def readFloat32 (old : Nat) (tag : Nat) (require : Bool) : RM Nat := fun r =>
  match skipToNoCheck tag require r with
  | (.error e, r') => (.error e, r')
  | (.ok (false, _), r1) => (.ok old, r1)
  | (.ok (true, ty), r1) =>
    if ty = tyZeroTag then (.ok 0, r1)
    else if ty = tyFLOAT then bReadU 4 r1
    else (.error .mismatch, r1)

/-- `Reader.ReadFloat64` (bit pattern) -/
def readFloat64 (old : Nat) (tag : Nat) (require : Bool) : RM Nat := fun r =>
  match skipToNoCheck tag require r with
  | (.error e, r') => (.error e, r')
  | (.ok (false, _), r1) => (.ok old, r1)
  | (.ok (true, ty), r1) =>
    if ty = tyZeroTag then (.ok 0, r1)
    else if ty = tyFLOAT then mapRes widenF32 (bReadU 4 r1)
    else if ty = tyDOUBLE then bReadU 8 r1
    else (.error .mismatch, r1)

/-- `buff := b.Next(int(length)); if len(buff) != length { return error }` in `ReadString` -/
def nextExact (l : Nat) : RM Bytes := fun r =>
  match next (l : Int) r with
  | (.error e, r') => (.error e, r')
  | (.ok buff, r') => if buff.length ≠ l then (.error .eof, r') else (.ok buff, r')

/-- `Reader.ReadString` -/
def readString (old : Bytes) (tag : Nat) (require : Bool) : RM Bytes := fun r =>
  match skipToNoCheck tag require r with
  | (.error e, r') => (.error e, r')
  | (.ok (false, _), r1) => (.ok old, r1)
  | (.ok (true, ty), r1) =>
    if ty = tySTRING4 then
      match bReadU 4 r1 with
      | (.error e, r') => (.error e, r')
      | (.ok l, r2) => nextExact l r2
    else if ty = tySTRING1 then
      match bReadU8 r1 with
      | (.error e, r') => (.error e, r')
      | (.ok l, r2) => nextExact l r2
    else (.error .mismatch, r1)

/-- `Reader.CheckLength(length)`: a length or element count read from the input must not be
    negative and cannot exceed the bytes left (every element takes at least one byte). -/
def checkLength (len : Int) : RM Unit := fun r =>
  if len < 0 ∨ len > (r.remaining : Int) then (.error .eof, r) else (.ok (), r)

/-- `Reader.ReadSliceInt8 / ReadSliceUint8` (`len` is the int32 argument); returns the new slice
    (`nil` when `len ≤ 0`; the previous content `old` of the target is irrelevant since the fix
    "an empty byte vector on the wire clears the target"); the length is validated before the
    slice is allocated. -/
def readSlice8 (_old : Bytes) (len : Int) : RM Bytes := fun r =>
  if len ≤ 0 then (.ok [], r)
  else
    match checkLength len r with
    | (.error e, r') => (.error e, r')
    | (.ok (), r') => readFull len.toNat r'

/-- `Reader.ReadBytes`: the length is validated (negative lengths are an error, no longer a
    `make` panic) before the slice is allocated. -/
def readBytes (len : Int) : RM Bytes := fun r =>
  match checkLength len r with
  | (.error e, r') => (.error e, r')
  | (.ok (), r') => readFull len.toNat r'

end Tars
