/-
  Model of the client call path of TarsGo (C08, C09) as a labelled transition system. Core Lean only.

  Go sources mirrored (statement order kept; one LTS action = one atomic shared-memory or channel
  operation of one goroutine, local computation is merged into the adjacent atomic operation):

  * `ServantProxy.genRequestID` (tars/servant.go)
        atomic.CompareAndSwapInt32(&msgID, maxInt32, 1)          -- pc `genCas`  (action `cas`)
        for { if v := atomic.AddInt32(&msgID, 1); v != 0 {       -- pc `genAdd`  (action `add`)
                  return v } }
    `msgID` is a process-wide int32; `AddInt32` wraps in two's complement.
  * `ServantProxy.TarsInvoke`
        IRequestId: s.genRequestID()                             -- `cas`, `add`
        (effective deadline: local, see Model/Call.lean)
        s.manager.preInvoke()        -- atomic.AddInt32(&e.invokeNum, 1)   pc `pre`    (action `pre`)
        err = s.doInvoke(ctx, msg, timeout)      (no client filters installed: assumption)
        s.manager.postInvoke()       -- atomic.AddInt32(&e.invokeNum, -1)  pc `post o` (action `post`)
  * `ServantProxy.doInvoke`
        adp, _ := s.manager.SelectAdapterProxy(msg); adp == nil → return error   pc `select` (`selectAdp none/some a`)
        if s.queueLen > ObjQueueMax → return error               -- pc `gate`   (action `gate`, a plain read)
        atomic.AddInt32(&s.queueLen, 1)                          -- pc `incQ`   (action `incQ`)
            (`s` is the ServantProxy the call was made on — `Params.proxy`; several ServantProxy objects
             of one object share the endpoint manager and its adapters, so calls of different proxies
             meet in the same pending-reply table; the deferred decrement is on the same receiver `s`:
             `Consts.callQueueLenDecSameReceiver`, re-extracted)
        readCh := make(chan *ResponsePacket)     (unbuffered: `Consts.callReplyChanCap = 0`)
        adp.resp.Store(msg.Req.IRequestId, readCh)               -- pc `store`  (action `store`)
        defer { atomic.AddInt32(&s.queueLen, -1)                 -- pc `decQ o` (action `decQ`)
                adp.resp.Delete(msg.Req.IRequestId) }            -- pc `del o`  (action `del`)
        adp.Send(req) → TarsClient.Send:
            ReConnect(): connLock.Lock(); if isClosed { dial } ; Unlock
                                                                 -- pc `lock`   (action `lockAcq`)
                                                                 -- pc `dial`   (`dialOk` / `dialFail`)
            select { <-timerC (only if WriteTimeout > 0) → error -- pc `enq`    (action `writeTimeout`)
                   | sendQueue <- msg }                          --             (action `enqueue`)
        error → return err (deferred cleanup runs)
        CPacketType == TARSONEWAY → return nil
        select { <-ctx.Done() → timeout error                    -- pc `wait`   (action `timeout`)
               | msg.Resp = <-readCh }                           --             (joint action `deliver r`)
  * `AdapterProxy.Recv` — one goroutine per received frame (`go c.client.protocol.Recv(pkg)`):
        ResponseUnpack error → return                            -- action `garbage`
        IRequestId == 0 → onPush; CPacketType == TARSONEWAY → return; chIF, ok := c.resp.Load(id)
                                                                 -- pc `decoded` (action `lookup`)
        select { ch <- packet                                    -- pc `offer i` (joint action `deliver r`)
               | <-rtimer.After(ReadTimeout) }                   --              (action `giveUp`)
  * peer / connection: `emit a p` (the peer sends ANY response packet on adapter a at ANY time),
    `drain a` (the sender goroutine takes the head of `sendQueue`), `connClose a`
    (`connection.close`: isClosed := true, by a read error, a framing error, the peer closing, idling).

  The channel of a call is identified with the call (index into `calls`): `make(chan …)` is fresh for
  every `doInvoke`.  Timers are unconstrained here (`timeout`, `writeTimeout`, `giveUp` may happen at
  any time they are armed); the timed refinement is `Model/Call.lean`.

  * `AdapterProxy.doKeepAlive` (a tick of `autoKeepAlive`, or `checkStatus` when keep-alive-interval > 0):
        if c.servantProxy.queueLen > ObjQueueMax { return }      -- a plain read; not modelled: the tick may be
                                                                 -- admitted whatever the counter is (over-approximation,
                                                                 -- the read races with doInvoke anyway)
        IRequestId: c.servantProxy.genRequestID()                -- actions `kaCas`, `kaAdd`
        atomic.AddInt32(&c.servantProxy.queueLen, 1)             -- action `kaTake p`
        defer { atomic.AddInt32(&c.servantProxy.queueLen, -1) }  -- action `kaRelease p`
        c.Send(msg.Req) …                                        -- (the one-way ping itself is not modelled)
    Every way out after the increment runs the deferred decrement (`Consts.callKeepAliveSlotReleased`,
    re-extracted): a tick in flight is an element of `kaHeld`.

  Not modelled (assumptions of checks/C08.json, C09.json): client filters; the push callback and the
  reconnect push (`onPush` replaces the transport client); the health counters (C15); `sendFailQueue`
  and re-sending (C11); panics inside `Recv` (recovered there).
-/
import TarsModel.Generated.Consts

namespace Tars.Route

/-! ## genRequestID -/

/-- `maxInt32` of servant.go (re-extracted) -/
abbrev maxInt32 : Int := Consts.callMaxInt32
abbrev minInt32 : Int := -maxInt32 - 1

/-- two's-complement result of an int32 addition that overflowed upwards by less than 2^32 -/
def wrap32 (x : Int) : Int := if x > maxInt32 then x - 2 * (maxInt32 + 1) else x

/-- `atomic.CompareAndSwapInt32(&msgID, maxInt32, 1)`: the new counter value -/
def casStep (ctr : Int) : Int := if ctr = maxInt32 then Consts.callCasNew else ctr

/-- `atomic.AddInt32(&msgID, 1)`: the new counter value, which is also the value returned -/
def addStep (ctr : Int) : Int := wrap32 (ctr + Consts.callAddDelta)

/-- `v != 0`: the value is returned as a request id -/
def issues (v : Int) : Bool := v != Consts.callZeroSkip

/-- the counter and (ghost) the ids returned so far, most recent first -/
structure Gen where
  ctr : Int
  issued : List Int
  deriving DecidableEq, Hashable, Repr

inductive GenAct
  | cas | add
  deriving DecidableEq, Repr

def Gen.cas (g : Gen) : Gen := { g with ctr := casStep g.ctr }

def Gen.add (g : Gen) : Gen :=
  let v := addStep g.ctr
  { ctr := v, issued := if issues v then v :: g.issued else g.issued }

def Gen.step (g : Gen) : GenAct → Gen
  | .cas => g.cas
  | .add => g.add

def Gen.run (g : Gen) : List GenAct → Gen
  | [] => g
  | a :: as => (g.step a).run as

/-- the loop of `genRequestID` executed by one goroutine without interference
    (fuel = loop iterations allowed; two suffice: an add that lands on 0 is followed by one that lands on 1) -/
def genLoop (g : Gen) : Nat → Gen × Option Int
  | 0 => (g, none)
  | k + 1 => let g' := g.add; if issues g'.ctr then (g', some g'.ctr) else genLoop g' k

/-- `genRequestID` executed by one goroutine without interference -/
def genSeq (g : Gen) (fuel : Nat) : Gen × Option Int := genLoop g.cas fuel

/-! ## packets, calls, receivers -/

/-- the property-relevant part of a `ResponsePacket` -/
structure Pkt where
  id : Int          -- IRequestId
  oneway : Bool     -- CPacketType == TARSONEWAY
  body : Nat        -- payload tag
  deriving DecidableEq, Hashable, Repr

inductive Outcome
  | reply (p : Pkt)   -- `msg.Resp = <-readCh` (whatever iRet says: error mapping is C01)
  | timeout           -- `<-ctx.Done()`
  | sendErr           -- `adp.Send` failed: dial error or "tars client write timeout"
  | noAdapter         -- `SelectAdapterProxy` returned nil
  | queueFull         -- `s.queueLen > ObjQueueMax`
  | onewayOk          -- one-way request enqueued
  deriving DecidableEq, Hashable, Repr

inductive Pc
  | idle | genCas | genAdd | pre | select | gate | incQ | store | lock | dial | enq | wait
  | decQ (o : Outcome) | del (o : Outcome) | post (o : Outcome) | done (o : Outcome)
  deriving DecidableEq, Hashable, Repr

/-- between `preInvoke` and `postInvoke` -/
def Pc.inInvoke : Pc → Bool
  | .select | .gate | .incQ | .store | .lock | .dial | .enq | .wait | .decQ _ | .del _ | .post _ => true
  | _ => false

/-- between `queueLen + 1` and the deferred `queueLen - 1` -/
def Pc.inQueue : Pc → Bool
  | .store | .lock | .dial | .enq | .wait | .decQ _ => true
  | _ => false

/-- between `resp.Store` and the deferred `resp.Delete` -/
def Pc.registered : Pc → Bool
  | .lock | .dial | .enq | .wait | .decQ _ | .del _ => true
  | _ => false

/-- `genRequestID` has returned -/
def Pc.hasId : Pc → Bool
  | .idle | .genCas | .genAdd => false
  | _ => true

/-- `resp.Store` has been executed -/
def Pc.stored : Pc → Bool
  | .lock | .dial | .enq | .wait | .decQ _ | .del _ | .post _ | .done _ => true
  | _ => false

/-- `msg.Adp` is set and will still be used (`adp.Send`, the deferred `adp.resp.Delete`) -/
def Pc.needsAdp : Pc → Bool
  | .gate | .incQ | .store | .lock | .dial | .enq | .wait | .decQ _ | .del _ => true
  | _ => false

/-- the outcome `doInvoke` is returning with -/
def Pc.outcome? : Pc → Option Outcome
  | .decQ o | .del o | .post o | .done o => some o
  | _ => none

/-- arguments of `TarsInvoke` / what the caller's context carries -/
structure Params where
  oneway : Bool                 -- cType == TARSONEWAY
  body : Nat                    -- payload tag
  ctxDeadline : Option Nat      -- `ctx.Deadline()` (absolute model time)
  callTimeout : Option Nat      -- `current.GetClientTimeout(ctx)`
  proxy : Nat                   -- which `ServantProxy` object (receiver `s`) makes the call; all proxies of the
                                -- object share the endpoint manager and its adapters, each has its own `queueLen`
  deriving DecidableEq, Hashable, Repr

structure Call where
  par : Params
  pc : Pc
  id : Int      -- msg.Req.IRequestId
  seq : Nat     -- ghost: number of ids issued before this one
  adp : Nat     -- adapter returned by SelectAdapterProxy
  deriving DecidableEq, Hashable, Repr

inductive RPc
  | decoded            -- ResponseUnpack succeeded
  | offer (i : Nat)    -- `Load` found the channel of call i; in the select
  | pushed | dropped | delivered
  deriving DecidableEq, Hashable, Repr

/-- a `Recv` goroutine -/
structure Rcv where
  adp : Nat
  pkt : Pkt
  pc : RPc
  deriving DecidableEq, Hashable, Repr

/-- the transport client of one adapter -/
structure Conn where
  closed : Bool       -- connection.isClosed
  locked : Bool       -- connLock held (by a dialling caller)
  sendQ : List Int    -- ids of the requests in sendQueue
  deriving DecidableEq, Hashable, Repr

/-- an entry of `AdapterProxy.resp` (per adapter; ids are process-wide) -/
structure Entry where
  adp : Nat
  id : Int
  call : Nat
  deriving DecidableEq, Hashable, Repr

structure Cfg where
  nAdp : Nat            -- adapters of the proxy's endpoint manager
  objQueueMax : Int     -- comm.Client.ObjQueueMax
  queueCap : Nat        -- cap(sendQueue) (effective: NewTarsClient replaces values ≤ 0 by 100)
  writeTimeout : Nat    -- conf.WriteTimeout (0 = no timer in Send)
  dialTimeout : Nat     -- conf.DialTimeout
  timeout : Nat         -- s.timeout
  deriving DecidableEq, Hashable, Repr

structure State where
  gen : Gen
  calls : List Call
  table : List Entry
  queueLens : List Int         -- `s.queueLen` of every ServantProxy object (index = `Params.proxy`)
  kaHeld : List Nat            -- keep-alive ticks between their `queueLen+1` and the deferred `queueLen-1` (their proxies)
  invokeNum : Int
  conns : List Conn
  rcvs : List Rcv
  emitted : List (Nat × Pkt)   -- ghost: everything the peers sent
  deriving DecidableEq, Hashable, Repr

def Entry.is (e : Entry) (a : Nat) (id : Int) : Bool := e.adp == a && e.id == id

/-- `sync.Map.Load` -/
def tLoad (t : List Entry) (a : Nat) (id : Int) : Option Nat :=
  match t.find? (fun e => e.is a id) with
  | some e => some e.call
  | none => none

/-- `sync.Map.Delete` -/
def tDelete (t : List Entry) (a : Nat) (id : Int) : List Entry := t.filter (fun e => !e.is a id)

/-- `sync.Map.Store` (replaces) -/
def tStore (t : List Entry) (a : Nat) (id : Int) (i : Nat) : List Entry := ⟨a, id, i⟩ :: tDelete t a id

/-- `s.queueLen` of proxy `p` (0 for a proxy that has not been created) -/
def qGet (l : List Int) (p : Nat) : Int := l[p]?.getD 0

/-- `atomic.AddInt32(&s.queueLen, d)` on proxy `p` -/
def qAdd (l : List Int) (p : Nat) (d : Int) : List Int := l.set p (qGet l p + d)

/-- make room for the counter of proxy `p` (a new `ServantProxy` starts with `queueLen = 0`) -/
def qPad (l : List Int) (p : Nat) : List Int := l ++ List.replicate (p + 1 - l.length) 0

def init (cfg : Cfg) (ctr : Int) : State :=
  { gen := ⟨ctr, []⟩, calls := [], table := [], queueLens := [], kaHeld := [], invokeNum := 0,
    conns := List.replicate cfg.nAdp ⟨true, false, []⟩, rcvs := [], emitted := [] }

inductive CallAct
  | begin | cas | add | pre | selectAdp (a : Option Nat) | gate | incQ | store
  | lockAcq | dialOk | dialFail | enqueue | writeTimeout | timeout | decQ | del | post
  deriving DecidableEq, Repr

inductive Action
  | spawn (par : Params)            -- a caller goroutine about to enter TarsInvoke
  | call (i : Nat) (a : CallAct)
  | emit (a : Nat) (p : Pkt)        -- the peer of adapter a sends a decodable response frame
  | garbage (a : Nat)               -- … an undecodable one (`ResponseUnpack` error)
  | lookup (r : Nat)
  | deliver (r : Nat)
  | giveUp (r : Nat)
  | drain (a : Nat)
  | connClose (a : Nat)
  | kaCas | kaAdd                   -- `genRequestID` executed by a keep-alive tick (`doKeepAlive`)
  | kaTake (p : Nat)                -- … its `atomic.AddInt32(&c.servantProxy.queueLen, 1)`
  | kaRelease (p : Nat)             -- … its deferred `atomic.AddInt32(&c.servantProxy.queueLen, -1)`
  deriving DecidableEq, Repr

def State.setCall (s : State) (i : Nat) (c : Call) : State := { s with calls := s.calls.set i c }
def State.setConn (s : State) (a : Nat) (k : Conn) : State := { s with conns := s.conns.set a k }
def State.setRcv (s : State) (r : Nat) (x : Rcv) : State := { s with rcvs := s.rcvs.set r x }

/-- one atomic step of the caller goroutine of call `i` (whose record is `c`) -/
def callStep (cfg : Cfg) (s : State) (i : Nat) (c : Call) : CallAct → Option State
  | .begin =>
    match c.pc with
    | .idle => some (s.setCall i { c with pc := .genCas })
    | _ => none
  | .cas =>
    match c.pc with
    | .genCas => some { s.setCall i { c with pc := .genAdd } with gen := s.gen.cas }
    | _ => none
  | .add =>
    match c.pc with
    | .genAdd =>
      let v := addStep s.gen.ctr
      if issues v then
        some { s.setCall i { c with pc := .pre, id := v, seq := s.gen.issued.length } with gen := s.gen.add }
      else some { s with gen := s.gen.add }
    | _ => none
  | .pre =>
    match c.pc with
    | .pre => some { s.setCall i { c with pc := .select } with invokeNum := s.invokeNum + Consts.callInvokeNumInc }
    | _ => none
  | .selectAdp none =>
    match c.pc with
    | .select => some (s.setCall i { c with pc := .post .noAdapter })
    | _ => none
  | .selectAdp (some a) =>
    match c.pc with
    | .select => if a < s.conns.length then some (s.setCall i { c with pc := .gate, adp := a }) else none
    | _ => none
  | .gate =>
    match c.pc with
    | .gate =>
      if qGet s.queueLens c.par.proxy > cfg.objQueueMax then some (s.setCall i { c with pc := .post .queueFull })
      else some (s.setCall i { c with pc := .incQ })
    | _ => none
  | .incQ =>
    match c.pc with
    | .incQ => some { s.setCall i { c with pc := .store } with queueLens := qAdd s.queueLens c.par.proxy Consts.callQueueLenInc }
    | _ => none
  | .store =>
    match c.pc with
    | .store => some { s.setCall i { c with pc := .lock } with table := tStore s.table c.adp c.id i }
    | _ => none
  | .lockAcq =>
    match c.pc, s.conns[c.adp]? with
    | .lock, some k =>
      if k.locked then none
      else if k.closed then some ((s.setCall i { c with pc := .dial }).setConn c.adp { k with locked := true })
      else some (s.setCall i { c with pc := .enq })
    | _, _ => none
  | .dialOk =>
    match c.pc, s.conns[c.adp]? with
    | .dial, some k => some ((s.setCall i { c with pc := .enq }).setConn c.adp { k with closed := false, locked := false })
    | _, _ => none
  | .dialFail =>
    match c.pc, s.conns[c.adp]? with
    | .dial, some k => some ((s.setCall i { c with pc := .decQ .sendErr }).setConn c.adp { k with locked := false })
    | _, _ => none
  | .enqueue =>
    match c.pc, s.conns[c.adp]? with
    | .enq, some k =>
      if k.sendQ.length < cfg.queueCap then
        some ((s.setCall i { c with pc := if c.par.oneway then .decQ .onewayOk else .wait }).setConn c.adp
                { k with sendQ := k.sendQ ++ [c.id] })
      else none
    | _, _ => none
  | .writeTimeout =>
    match c.pc with
    | .enq => if cfg.writeTimeout > 0 then some (s.setCall i { c with pc := .decQ .sendErr }) else none
    | _ => none
  | .timeout =>
    match c.pc with
    | .wait => some (s.setCall i { c with pc := .decQ .timeout })
    | _ => none
  | .decQ =>
    match c.pc with
    | .decQ o => some { s.setCall i { c with pc := .del o } with queueLens := qAdd s.queueLens c.par.proxy (-(Consts.callQueueLenInc : Int)) }
    | _ => none
  | .del =>
    match c.pc with
    | .del o => some { s.setCall i { c with pc := .post o } with table := tDelete s.table c.adp c.id }
    | _ => none
  | .post =>
    match c.pc with
    | .post o => some { s.setCall i { c with pc := .done o } with invokeNum := s.invokeNum - Consts.callInvokeNumInc }
    | _ => none

/-- `AdapterProxy.Recv` up to and including `c.resp.Load` -/
def lookupPc (t : List Entry) (a : Nat) (p : Pkt) : RPc :=
  if p.id = Consts.callPushId then .pushed
  else if p.oneway then .dropped
  else match tLoad t a p.id with
    | some i => .offer i
    | none => .dropped

def step (cfg : Cfg) (s : State) : Action → Option State
  | .spawn par => some { s with calls := s.calls ++ [⟨par, .idle, 0, 0, 0⟩], queueLens := qPad s.queueLens par.proxy }
  | .call i a =>
    match s.calls[i]? with
    | some c => callStep cfg s i c a
    | none => none
  | .emit a p =>
    if a < s.conns.length then
      some { s with rcvs := s.rcvs ++ [⟨a, p, .decoded⟩], emitted := (a, p) :: s.emitted }
    else none
  | .garbage a => if a < s.conns.length then some s else none
  | .lookup r =>
    match s.rcvs[r]? with
    | some x =>
      match x.pc with
      | .decoded => some (s.setRcv r { x with pc := lookupPc s.table x.adp x.pkt })
      | _ => none
    | none => none
  | .deliver r =>
    match s.rcvs[r]? with
    | some x =>
      match x.pc with
      | .offer i =>
        match s.calls[i]? with
        | some c =>
          match c.pc with
          | .wait => some ((s.setCall i { c with pc := .decQ (.reply x.pkt) }).setRcv r { x with pc := .delivered })
          | _ => none
        | none => none
      | _ => none
    | none => none
  | .giveUp r =>
    match s.rcvs[r]? with
    | some x =>
      match x.pc with
      | .offer _ => some (s.setRcv r { x with pc := .dropped })
      | _ => none
    | none => none
  | .drain a =>
    match s.conns[a]? with
    | some k =>
      match k.sendQ with
      | _ :: rest => some (s.setConn a { k with sendQ := rest })
      | [] => none
    | none => none
  | .connClose a =>
    match s.conns[a]? with
    | some k => if k.locked then none else some (s.setConn a { k with closed := true })
    | none => none
  | .kaCas => some { s with gen := s.gen.cas }
  | .kaAdd => some { s with gen := s.gen.add }
  | .kaTake p =>
    if p < s.queueLens.length then
      some { s with queueLens := qAdd s.queueLens p Consts.callQueueLenInc, kaHeld := p :: s.kaHeld }
    else none
  | .kaRelease p =>
    if p ∈ s.kaHeld then
      some { s with queueLens := qAdd s.queueLens p (-(Consts.callQueueLenInc : Int)), kaHeld := s.kaHeld.erase p }
    else none

/-- all schedules = all action lists -/
def run (cfg : Cfg) (s : State) : List Action → Option State
  | [] => some s
  | a :: as => match step cfg s a with
    | some s' => run cfg s' as
    | none => none

/-- reachable from an initial state with an arbitrary counter value -/
inductive Reachable (cfg : Cfg) (ctr : Int) : State → Prop
  | init : Reachable cfg ctr (init cfg ctr)
  | step {s s' : State} (a : Action) : Reachable cfg ctr s → step cfg s a = some s' → Reachable cfg ctr s'

end Tars.Route
