/-
  Model of the client connection of `tars/transport/tarsclient.go` (property C11).
  Core Lean only (no Mathlib) so that the driver links.

  One `TarsClient` = one shared `connection` object (`isClosed`, the current `net.Conn`, the lock),
  the `sendQueue`, the `sendFailQueue` (capacity 1) and, per `net.Conn` ever dialled (index `k`,
  in dial order; the current one is the last), one `recv` goroutine, one `send` goroutine and one
  `connDone` channel (capacity 1).  Each LTS action is one shared-memory / channel / socket
  operation of one goroutine; `select` chooses among the enabled cases, `default` only when none is
  enabled; the 1 s ticker is an environment action that may fire whenever the goroutine waits in the
  inner `select` (time is abstract).  "All interleavings" = all action lists.

  Go code mirrored (statement by statement):

  * `TarsClient.Send`
        callBegin id      the call is issued (visible); the request remembers which connections the
                          client already knew to be closed at that moment (`Msg.dead`, history only)
        callReconnect id  `tc.ReConnect()` — `connection.ReConnect` under `connLock`, atomic:
                          `if c.isClosed { dial; c.isClosed = false; go c.recv; go c.send }`
                          (the server is reachable: the dial succeeds). The lock is held from the
                          test of the flag over the dial to the installation of the new connection.
        callCheckClosed id / callInstall id   NOT the code as found: `ReConnect` with the dial
                          outside the lock (configuration `unlockedDial`, see `initUnlocked`): the
                          flag is read under the lock, the dial runs unlocked, then the lock is taken
                          again and the new connection is installed without looking at the flag
                          again, the socket of the connection it replaces being closed directly
                          (`c.conn.Close()`, not `close()`)
        markReconnected id  [verif yield point "Send.reconnected"]
        callEnq id        `tc.sendQueue <- sendMsg{req}` (enabled iff the queue is not full)
        callFail id       `<-timerC` "tars client write timeout" (only when the queue is full)
        callRet id        `Send` returns nil (visible)
  * `connection.send(conn_k, connDone_k)`
        mark top k        [yield "send.top"]
        sTopDone k / sTopGo k       loop-top poll `select { case <-connDone: return; default: }`
        sTakeFail k / sNoFail k     `select { case m = <-sendFailQueue: …; default: … }`
        mark inner k      [yield "send.inner"]
        sTakeQ k          inner select, `case m = <-sendQueue`
        sTickClosed k     `case <-t.C: if c.isClosed { return }`
        sTickIdle k       `… if invokeNum == 0 && idle time exceeded {` (guard abstracted: may happen
                          at any tick at which the flag is not set — an over-approximation — unless
                          the configuration `idleOK = false` says the idle timeout is out of reach)
        sIdleClose k      `c.close(conn); return }`
        sTickCont k       `continue`
        mark got k        [yield "send.got", directly in front of the write]
        sWriteOk k / sWriteLost k / sWriteFail k    `conn.Write(m.req)`: fails for certain on a
                          connection the client has closed itself, succeeds for certain on a live one;
                          on a connection the server has closed but the client has not yet, the bytes
                          may be accepted by the kernel and be lost, or the write may fail
        sRequeue k        `c.client.sendFailQueue <- m` (blocks while the queue holds an entry)
        sFailClose k      `c.close(conn)`; `err != net.ErrClosed` (always, the error is a
                          `*net.OpError`) → `return`
  * `connection.recv(conn_k, connDone_k)`
        rEof k            `conn.Read` returns `io.EOF` (orderly close by the server, FIN): the second
                          error branch of `recv`
        rErr k            `conn.Read` returns a `*net.OpError`: the server reset the connection
                          (`ECONNRESET`: abortive close, killed / restarted server, close with unread
                          input) or the client closed the socket itself: the first error branch
        mark closing k    [yield "recv.closing"]
        rClose k          `c.close(conn)`
        rSignal k         deferred `connDone <- true`
  * `connection.close(conn_k)` under the lock, atomic:  as found  `c.isClosed = true; conn.Close()`
        — the flag is the SHARED one, whichever connection is being closed.
  * peer:  `pClose k` the server stops reading connection `k` and closes it (FIN);
           `pReset k` the server stops reading connection `k` and aborts it (RST).
  * observations of the scripted server (lag behind the client's action): `obsAccept k`, `obsRecv k id`.

  Not modelled: the response path (`recv` → `ClientProtocol.Recv`; property C08), `TarsClient.Close`
  / `GraceClose`, TLS (`err == net.ErrClosed` → `ReConnect` inside `send`), dial failures.

  `Variant.repaired` is the code after `pending/C11-fix.patch`:
    (1) `close(conn)` sets the shared flag only when `conn` is the current connection,
    (2) the inner `select` of `send` also receives from `sendFailQueue` and from `connDone`,
    (3) after a dequeue the sender asks `c.lost(conn)` (under the lock: `c.isClosed || c.conn != conn`)
        and, if so, hands the request back through `sendFailQueue` and returns
        (`sCheckOk k` / `sCheckLost k`, `sHandback k`).
-/
import TarsModel.Generated.Consts

namespace Tars.ClientConn

inductive Variant
  | asFound
  | repaired
deriving DecidableEq, Repr

/-- Which variant the source tree is, as far as the extractor can see (guard in `close`, number of
receives from `sendFailQueue` in `send`, call of `lost` in `send`). -/
def treeVariant : Variant :=
  if Tars.Consts.clientCloseGuardsCurrent = 1 ∧ 2 ≤ Tars.Consts.clientSendFailQueueRecvs ∧
     1 ≤ Tars.Consts.clientSendLostChecks then .repaired else .asFound

/-- Does `connection.ReConnect` of the source tree leave the lock for the dial, or close a socket
itself? (extractor: the dial sits between `connLock.Lock()` and its `Unlock`, and `ReConnect`
contains no `.Close()` call). The theorems about `run` / `init` are about a tree for which this is
`false`; the harness replays histories of a tree for which it is `true` from `initUnlocked`-like
start states. -/
def treeUnlockedDial : Bool :=
  !(Tars.Consts.clientReConnectDialUnderLock == 1 && Tars.Consts.clientReConnectSocketCloses == 0)

/-- `sendFailQueue` is modelled as `Option Msg`: its capacity is 1 in the source. -/
example : Tars.Consts.clientSendFailQueueCap = 1 := rfl

/-- A request: its id and (history only) the connections the client had already closed when the
call was issued. -/
structure Msg where
  id : Nat
  dead : List Nat
deriving DecidableEq, Repr

/-- program counter of `connection.send` for one connection -/
inductive SPc
  | atTop                -- before the yield point at the top of the loop
  | top                  -- before the poll of `connDone`
  | pickFail             -- before the `sendFailQueue`-first select
  | atInner              -- before the yield point in front of the inner select
  | inner                -- in the inner select
  | got (m : Msg)        -- repaired only: has a request, before `c.lost(conn)`
  | atGot (m : Msg)      -- has a request it is going to write, before the yield point
  | ready (m : Msg)      -- before `conn.Write`
  | failed (m : Msg)     -- write failed, before `sendFailQueue <- m`
  | failClosing          -- before `c.close(conn)` after a failed write
  | idleClosing          -- before `c.close(conn)` on idle timeout
  | handback (m : Msg)   -- repaired only: before `sendFailQueue <- m; return`
  | exited
deriving DecidableEq, Repr

/-- program counter of `connection.recv` -/
inductive RPc
  | reading
  | atClosing
  | closing
  | signalling
  | done
deriving DecidableEq, Repr

structure Conn where
  /-- the server still reads this connection -/
  alive : Bool := true
  /-- the server has aborted the connection (RST): the pending `Read` fails with a `*net.OpError` -/
  reset : Bool := false
  /-- `close(conn)` has run for it: the client knows it is dead and has closed its socket -/
  known : Bool := false
  /-- buffer of `connDone` (capacity 1, one writer) -/
  connDone : Bool := false
  rpc : RPc := .reading
  spc : SPc := .atTop
deriving DecidableEq, Repr

inductive CallPc
  | begun
  | dialing
  | atConnected
  | connected
  | queued
deriving DecidableEq, Repr

structure State where
  /-- `connection.isClosed` (initially true: `NewTarsClient`) -/
  isClosed : Bool := true
  /-- every `net.Conn` dialled so far, in dial order; the last one is `connection.conn` -/
  conns : List Conn := []
  sendQ : List Msg := []
  failQ : Option Msg := none
  /-- `Send` calls in progress -/
  calls : List (Msg × CallPc) := []
  /-- history: ids of all calls ever issued -/
  issued : List Nat := []
  /-- history: every `conn.Write(m)` attempted, with the connection it was attempted on -/
  attempts : List (Msg × Nat) := []
  /-- history: requests written to a connection the server was still reading (id, connection) -/
  arrived : List (Nat × Nat) := []
  /-- history: requests whose bytes were accepted for a connection the server had left -/
  lost : List (Nat × Nat) := []
  /-- observations made by the server so far -/
  accepted : Nat := 0
  seen : List (Nat × Nat) := []
  /-- configuration: `IdleTimeout` is short enough for the idle close to be possible at all -/
  idleOK : Bool := true
  /-- configuration: `ReConnect` dials WITHOUT holding `connLock` (not the code as found; the
  extractor checks that the dial sits between `Lock` and its `Unlock`) -/
  unlockedDial : Bool := false
deriving DecidableEq, Repr

def init : State := {}

/-- a client whose `IdleTimeout` is so long that the idle close cannot happen during the run -/
def initNoIdle : State := { idleOK := false }

/-- a client whose `ReConnect` dials outside the lock (and whose idle close is out of reach) -/
def initUnlocked : State := { idleOK := false, unlockedDial := true }

/-- yield points of the `verif` hook -/
inductive Point
  | top
  | inner
  | got
  | closing
deriving DecidableEq, Repr

inductive Action
  | callBegin (id : Nat)
  | callReconnect (id : Nat)
  | callCheckClosed (id : Nat)
  | callInstall (id : Nat)
  | markReconnected (id : Nat)
  | callEnq (id : Nat)
  | callFail (id : Nat)
  | callRet (id : Nat)
  | pClose (k : Nat)
  | pReset (k : Nat)
  | rEof (k : Nat)
  | rErr (k : Nat)
  | rClose (k : Nat)
  | rSignal (k : Nat)
  | mark (p : Point) (k : Nat)
  | sTopDone (k : Nat)
  | sTopGo (k : Nat)
  | sTakeFail (k : Nat)
  | sNoFail (k : Nat)
  | sTakeQ (k : Nat)
  | sTickClosed (k : Nat)
  | sTickIdle (k : Nat)
  | sTickCont (k : Nat)
  | sIdleClose (k : Nat)
  | sInnerFail (k : Nat)
  | sInnerDone (k : Nat)
  | sCheckOk (k : Nat)
  | sCheckLost (k : Nat)
  | sHandback (k : Nat)
  | sWriteOk (k : Nat)
  | sWriteLost (k : Nat)
  | sWriteFail (k : Nat)
  | sRequeue (k : Nat)
  | sFailClose (k : Nat)
  | obsAccept (k : Nat)
  | obsRecv (k : Nat) (id : Nat)
deriving DecidableEq, Repr

/-- has the client run `close` for connection `j`? -/
def knownAt (s : State) (j : Nat) : Bool :=
  match s.conns[j]? with
  | some c => c.known
  | none => false

/-- the connections the client knows to be closed -/
def knownList (s : State) : List Nat := (List.range s.conns.length).filter (knownAt s)

/-- `k` is the current connection (`c.conn`) -/
def isCur (s : State) (k : Nat) : Bool := k + 1 == s.conns.length

def setConn (s : State) (k : Nat) (c : Conn) : State := { s with conns := s.conns.set k c }

/-- `connection.close(conn_k)` (under the lock; atomic) -/
def closeConn (v : Variant) (s : State) (k : Nat) (c : Conn) : State :=
  { s with conns := s.conns.set k { c with known := true },
           isClosed := match v with
             | .asFound => true
             | .repaired => if isCur s k then true else s.isClosed }

def findCall (s : State) (id : Nat) : Option (Msg × CallPc) := s.calls.find? (fun x => x.1.id == id)

def setCall (s : State) (m : Msg) (pc : CallPc) : State :=
  { s with calls := s.calls.map (fun x => if x.1.id == m.id then (m, pc) else x) }

/-- `c.conn.Close()` on the connection that is current (the last one), if any -/
def closeLast (l : List Conn) : List Conn :=
  match l.reverse with
  | [] => []
  | c :: r => ({ c with known := true } :: r).reverse

def dropCall (s : State) (id : Nat) : State :=
  { s with calls := s.calls.filter (fun x => !(x.1.id == id)) }

/-- where a sender goes once it has a request: as found straight to the yield point in front of the
`Write`, repaired to the `c.lost(conn)` check first -/
def afterDequeue (v : Variant) (m : Msg) : SPc :=
  match v with
  | .asFound => .atGot m
  | .repaired => .got m

/-- One atomic step; `none` = the action is not enabled in this state. `cap` = `cap(sendQueue)`. -/
def step (v : Variant) (cap : Nat) (s : State) : Action → Option State
  | .callBegin id =>
    if s.issued.contains id then none
    else some { s with calls := s.calls ++ [(⟨id, knownList s⟩, .begun)], issued := s.issued ++ [id] }
  | .callReconnect id =>
    match findCall s id with
    | some (m, .begun) =>
      if s.isClosed then
        some { setCall s m .atConnected with conns := s.conns ++ [{}], isClosed := false }
      else some (setCall s m .atConnected)
    | _ => none
  | .callCheckClosed id =>
    if s.unlockedDial = true then
      match findCall s id with
      | some (m, .begun) => some (setCall s m (if s.isClosed then .dialing else .atConnected))
      | _ => none
    else none
  | .callInstall id =>
    if s.unlockedDial = true then
      match findCall s id with
      | some (m, .dialing) =>
        some { setCall s m .atConnected with conns := closeLast s.conns ++ [{}], isClosed := false }
      | _ => none
    else none
  | .markReconnected id =>
    match findCall s id with
    | some (m, .atConnected) => some (setCall s m .connected)
    | _ => none
  | .callEnq id =>
    match findCall s id with
    | some (m, .connected) =>
      if s.sendQ.length < cap then some { setCall s m .queued with sendQ := s.sendQ ++ [m] } else none
    | _ => none
  | .callFail id =>
    match findCall s id with
    | some (_, .connected) => if s.sendQ.length < cap then none else some (dropCall s id)
    | _ => none
  | .callRet id =>
    match findCall s id with
    | some (_, .queued) => some (dropCall s id)
    | _ => none
  | .pClose k =>
    match s.conns[k]? with
    | some c => if c.alive then some (setConn s k { c with alive := false }) else none
    | none => none
  | .pReset k =>
    match s.conns[k]? with
    | some c => if c.alive then some (setConn s k { c with alive := false, reset := true }) else none
    | none => none
  | .rEof k =>
    match s.conns[k]? with
    | some c =>
      if c.rpc = .reading ∧ c.alive = false ∧ c.reset = false ∧ c.known = false then
        some (setConn s k { c with rpc := .atClosing }) else none
    | none => none
  | .rErr k =>
    match s.conns[k]? with
    | some c =>
      if c.rpc = .reading ∧ (c.reset = true ∨ c.known = true) then
        some (setConn s k { c with rpc := .atClosing }) else none
    | none => none
  | .rClose k =>
    match s.conns[k]? with
    | some c => if c.rpc = .closing then some (closeConn v s k { c with rpc := .signalling }) else none
    | none => none
  | .rSignal k =>
    match s.conns[k]? with
    | some c =>
      if c.rpc = .signalling then some (setConn s k { c with rpc := .done, connDone := true }) else none
    | none => none
  | .mark p k =>
    match s.conns[k]? with
    | some c =>
      match p, c.spc, c.rpc with
      | .top, .atTop, _ => some (setConn s k { c with spc := .top })
      | .inner, .atInner, _ => some (setConn s k { c with spc := .inner })
      | .got, .atGot m, _ => some (setConn s k { c with spc := .ready m })
      | .closing, _, .atClosing => some (setConn s k { c with rpc := .closing })
      | _, _, _ => none
    | none => none
  | .sTopDone k =>
    match s.conns[k]? with
    | some c =>
      if c.spc = .top ∧ c.connDone = true then
        some (setConn s k { c with spc := .exited, connDone := false }) else none
    | none => none
  | .sTopGo k =>
    match s.conns[k]? with
    | some c =>
      if c.spc = .top ∧ c.connDone = false then some (setConn s k { c with spc := .pickFail }) else none
    | none => none
  | .sTakeFail k =>
    match s.conns[k]? with
    | some c =>
      match c.spc, s.failQ with
      | .pickFail, some m => some { setConn s k { c with spc := afterDequeue v m } with failQ := none }
      | _, _ => none
    | none => none
  | .sNoFail k =>
    match s.conns[k]? with
    | some c =>
      match c.spc, s.failQ with
      | .pickFail, none => some (setConn s k { c with spc := .atInner })
      | _, _ => none
    | none => none
  | .sTakeQ k =>
    match s.conns[k]? with
    | some c =>
      match c.spc, s.sendQ with
      | .inner, m :: q => some { setConn s k { c with spc := afterDequeue v m } with sendQ := q }
      | _, _ => none
    | none => none
  | .sTickClosed k =>
    match s.conns[k]? with
    | some c =>
      if c.spc = .inner ∧ s.isClosed = true then some (setConn s k { c with spc := .exited }) else none
    | none => none
  | .sTickIdle k =>
    match s.conns[k]? with
    | some c =>
      if c.spc = .inner ∧ s.isClosed = false ∧ s.idleOK = true then
        some (setConn s k { c with spc := .idleClosing })
      else none
    | none => none
  | .sTickCont k =>
    match s.conns[k]? with
    | some c =>
      if c.spc = .inner ∧ s.isClosed = false then some (setConn s k { c with spc := .atTop }) else none
    | none => none
  | .sIdleClose k =>
    match s.conns[k]? with
    | some c =>
      if c.spc = .idleClosing then some (closeConn v s k { c with spc := .exited }) else none
    | none => none
  | .sInnerFail k =>
    match v, s.conns[k]? with
    | .repaired, some c =>
      match c.spc, s.failQ with
      | .inner, some m => some { setConn s k { c with spc := afterDequeue v m } with failQ := none }
      | _, _ => none
    | _, _ => none
  | .sInnerDone k =>
    match v, s.conns[k]? with
    | .repaired, some c =>
      if c.spc = .inner ∧ c.connDone = true then
        some (setConn s k { c with spc := .exited, connDone := false }) else none
    | _, _ => none
  | .sCheckOk k =>
    match s.conns[k]? with
    | some c =>
      match c.spc with
      | .got m =>
        if s.isClosed = false ∧ isCur s k = true then some (setConn s k { c with spc := .atGot m })
        else none
      | _ => none
    | none => none
  | .sCheckLost k =>
    match s.conns[k]? with
    | some c =>
      match c.spc with
      | .got m =>
        if s.isClosed = false ∧ isCur s k = true then none
        else some (setConn s k { c with spc := .handback m })
      | _ => none
    | none => none
  | .sHandback k =>
    match s.conns[k]? with
    | some c =>
      match c.spc, s.failQ with
      | .handback m, none => some { setConn s k { c with spc := .exited } with failQ := some m }
      | _, _ => none
    | none => none
  | .sWriteOk k =>
    match s.conns[k]? with
    | some c =>
      match c.spc with
      | .ready m =>
        if c.alive = true ∧ c.known = false then
          some { setConn s k { c with spc := .atTop } with
                 attempts := s.attempts ++ [(m, k)], arrived := s.arrived ++ [(m.id, k)] }
        else none
      | _ => none
    | none => none
  | .sWriteLost k =>
    match s.conns[k]? with
    | some c =>
      match c.spc with
      | .ready m =>
        if c.alive = false ∧ c.known = false then
          some { setConn s k { c with spc := .atTop } with
                 attempts := s.attempts ++ [(m, k)], lost := s.lost ++ [(m.id, k)] }
        else none
      | _ => none
    | none => none
  | .sWriteFail k =>
    match s.conns[k]? with
    | some c =>
      match c.spc with
      | .ready m =>
        if c.alive = false ∨ c.known = true then
          some { setConn s k { c with spc := .failed m } with attempts := s.attempts ++ [(m, k)] }
        else none
      | _ => none
    | none => none
  | .sRequeue k =>
    match s.conns[k]? with
    | some c =>
      match c.spc, s.failQ with
      | .failed m, none => some { setConn s k { c with spc := .failClosing } with failQ := some m }
      | _, _ => none
    | none => none
  | .sFailClose k =>
    match s.conns[k]? with
    | some c =>
      if c.spc = .failClosing then some (closeConn v s k { c with spc := .exited }) else none
    | none => none
  | .obsAccept k =>
    if k = s.accepted ∧ k < s.conns.length then some { s with accepted := s.accepted + 1 } else none
  | .obsRecv k id =>
    if s.arrived.contains (id, k) ∧ !s.seen.contains (id, k) then
      some { s with seen := s.seen ++ [(id, k)] } else none

/-- run a schedule (a list of actions) from `s`; `none` if some action was not enabled -/
def runFrom (v : Variant) (cap : Nat) (s : State) : List Action → Option State
  | [] => some s
  | a :: as =>
    match step v cap s a with
    | none => none
    | some s' => runFrom v cap s' as

def run (v : Variant) (cap : Nat) (acts : List Action) : Option State := runFrom v cap init acts

/-- the states reachable under any interleaving -/
inductive Reachable (v : Variant) (cap : Nat) : State → Prop
  | init : Reachable v cap init
  | initNoIdle : Reachable v cap initNoIdle
  | step {s s' : State} (a : Action) : Reachable v cap s → step v cap s a = some s' → Reachable v cap s'

/-! ### The side condition of the partial theorem: no late step of an old connection

`timely s a`: if `a` is a dequeue by sender `k` (from either queue), the client has not yet closed
connection `k` ("no sender outlives its connection by a dequeue"); if `a` is a `close(conn_k)`, `k`
is still the current connection (no `ReConnect` has happened since the connection was lost). -/
def timely (s : State) : Action → Bool
  | .sTakeFail k | .sTakeQ k | .sInnerFail k => !knownAt s k
  | .rClose k | .sIdleClose k | .sFailClose k => isCur s k
  | _ => true

/-- every step of the schedule `acts`, run from `s`, is timely -/
def TimelyFrom (v : Variant) (cap : Nat) : State → List Action → Prop
  | _, [] => True
  | s, a :: as =>
    timely s a = true ∧
      match step v cap s a with
      | some s' => TimelyFrom v cap s' as
      | none => True

def Timely (v : Variant) (cap : Nat) (acts : List Action) : Prop := TimelyFrom v cap init acts

/-! ### Observed histories (`admits`)

What the harness sees of a run of the real code: `Send` entered / returned, the goroutines passing
the yield points, the server closing a connection, the server accepting a connection / reading a
request, and probes of the shared state taken while nothing runs. Everything else is internal. -/

inductive Event
  | callBegin (id : Nat)
  | callRet (id : Nat)
  | callFail (id : Nat)
  | reconnected            -- some `Send` passed "Send.reconnected"
  | mark (p : Point) (k : Nat)
  | pClose (k : Nat)
  | pReset (k : Nat)
  | accept (k : Nat)
  | recv (k : Nat) (id : Nat)
  | probe (closed : Bool) (sendQ failQ conns : Nat)
deriving DecidableEq, Repr

def optLen : Option Msg → Nat
  | none => 0
  | some _ => 1

/-- the states reached by the visible step(s) matching an observed event -/
def fire (v : Variant) (cap : Nat) (s : State) : Event → List State
  | .callBegin id => (step v cap s (.callBegin id)).toList
  | .callRet id => (step v cap s (.callRet id)).toList
  | .callFail id => (step v cap s (.callFail id)).toList
  | .reconnected => s.calls.filterMap (fun x => step v cap s (.markReconnected x.1.id))
  | .mark p k => (step v cap s (.mark p k)).toList
  | .pClose k => (step v cap s (.pClose k)).toList
  | .pReset k => (step v cap s (.pReset k)).toList
  | .accept k => (step v cap s (.obsAccept k)).toList
  | .recv k id => (step v cap s (.obsRecv k id)).toList
  | .probe c q f n =>
    if s.isClosed = c ∧ s.sendQ.length = q ∧ optLen s.failQ = f ∧ s.conns.length = n then [s] else []

/-- internal (unobservable) actions -/
def Action.isTau : Action → Bool
  | .callBegin _ | .markReconnected _ | .callFail _ | .callRet _ | .pClose _ | .pReset _ | .mark _ _
  | .obsAccept _ | .obsRecv _ _ => false
  | _ => true

/-- the internal actions that may be enabled in `s` -/
def tauActions (s : State) : List Action :=
  (s.calls.map (fun x => [Action.callReconnect x.1.id, .callCheckClosed x.1.id, .callInstall x.1.id,
      .callEnq x.1.id])).flatten ++
  ((List.range s.conns.length).map (fun k =>
    [Action.rEof k, .rErr k, .rClose k, .rSignal k, .sTopDone k, .sTopGo k, .sTakeFail k, .sNoFail k, .sTakeQ k,
     .sTickClosed k, .sTickIdle k, .sTickCont k, .sIdleClose k, .sInnerFail k, .sInnerDone k,
     .sCheckOk k, .sCheckLost k, .sHandback k, .sWriteOk k, .sWriteLost k, .sWriteFail k,
     .sRequeue k, .sFailClose k])).flatten

def tauSucc (v : Variant) (cap : Nat) (s : State) : List State :=
  (tauActions s).filterMap (step v cap s)

def insertNew (seen : List State) (s : State) : List State :=
  if seen.contains s then seen else s :: seen

/-- breadth-first closure under internal steps, at most `fuel` rounds -/
def closure (v : Variant) (cap : Nat) : Nat → List State → List State → List State
  | 0, _, seen => seen
  | _ + 1, [], seen => seen
  | fuel + 1, frontier, seen =>
    let next := frontier.foldl (fun acc s => (tauSucc v cap s).foldl insertNew acc) []
    let fresh := next.filter (fun s => !seen.contains s)
    closure v cap fuel fresh (fresh ++ seen)

/-- every goroutine passes a yield point (visible) after at most a handful of internal steps, so the
depth of the closure is bounded by a small multiple of the number of goroutines -/
def closureOf (v : Variant) (cap : Nat) (ss : List State) : List State :=
  let fuel := ss.foldl (fun m s => max m (8 * s.conns.length + 2 * s.calls.length)) 0 + 8
  closure v cap fuel ss ss

/-- `.error (i, 0)`: no state of the current set can perform event `i`; `.error (i, n)`: the state
set grew to `n > limit` (nothing decided); otherwise the set after the whole history and the size
of the largest set met -/
def admitsFrom (v : Variant) (cap : Nat) (limit : Nat) :
    List State → List Event → Nat → Nat → Except (Nat × Nat) (List State × Nat)
  | ss, [], _, mx => .ok (ss, mx)
  | ss, ev :: rest, i, mx =>
    let cl := closureOf v cap ss
    if cl.length > limit then .error (i, cl.length)
    else
      let nxt := cl.foldl (fun acc s => (fire v cap s ev).foldl insertNew acc) []
      if nxt.isEmpty then .error (i, 0)
      else admitsFrom v cap limit nxt rest (i + 1) (max mx cl.length)

/-- Does the LTS have a run whose visible history is exactly `h`, for a client whose idle close is
possible (`idle`) or out of reach? (`false` also when the search exceeded `limit` states: nothing
decided.) -/
def admits (v : Variant) (cap : Nat) (idle : Bool) (h : List Event) (limit : Nat := 100000) : Bool :=
  match admitsFrom v cap limit [if idle then init else initNoIdle] h 0 1 with
  | .ok _ => true
  | .error _ => false

end Tars.ClientConn
