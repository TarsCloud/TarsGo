/-
  Instrumented variants of the decoders (C05): the same computations as `Model/Wire.lean` and
  `Model/Schema.lean`, returning in addition
    * `depth`: the Go call depth of the `skipField` recursion, counted in `skipField` frames
      (`Model/CostSkip.lean`: it needs no schema);
    * `Cost`: the allocation requested by the generated decoders (`make([]T, n)` elements, bytes
      of `[]int8`/`[]uint8`/strings, map entries) and the maximal nesting of not-yet-filled
      slices.  Every `make` happens after `CheckLength` (fix 040488e), as in the model.
    * `AsFound.vecMake`: the LIST head of `genReadVector` as found before that fix (no check).
  `Proofs/WireSkip.lean` (`skipD_run`) and `Proofs/TotalDec.lean` (`decA_eq`, `decStructA_eq`) prove
  that the first component is exactly the original result.
  Core Lean only.
-/
import TarsModel.Model.Schema
import TarsModel.Model.CostSkip

namespace Tars
open Consts

/-! ## allocation of the generated decoders -/

structure Cost where
  /-- elements requested from `make([]T, n)` + bytes of byte slices and strings + map entries -/
  alloc : Nat
  /-- maximal number of nested slices allocated but not yet completely filled -/
  nest  : Nat
deriving Repr, DecidableEq

namespace Cost
def zero : Cost := ⟨0, 0⟩
/-- two computations one after the other -/
def seq (a b : Cost) : Cost := ⟨a.alloc + b.alloc, max a.nest b.nest⟩
/-- `make([]T, n)`, then filling it at cost `c` -/
def make (n : Nat) (c : Cost) : Cost := ⟨n + c.alloc, c.nest + 1⟩
/-- a flat allocation of `n` bytes -/
def flat (n : Nat) : Cost := ⟨n, 1⟩
end Cost

/-- bytes of the Go string allocated by `ReadString`: only when the field was found and read -/
def strAlloc (tag : Nat) (req : Bool) (r : Reader) (x : Res Val) : Nat :=
  match skipToNoCheck tag req r, x with
  | (.ok (true, _), _), (.ok (.str s), _) => s.length
  | _, _ => 0

mutual
/-- `decVar` with allocation accounting -/
def decVarA (env : Env) : Nat → Nat → Bool → Ty → Val → Reader → Res Val × Cost
  | 0, _, _, _, _, r => ((.error .fuel, r), Cost.zero)
  | fuel+1, tag, req, ty, old, r =>
    match ty with
    | .vec e =>
      match skipToNoCheck tag req r with
      | (.error er, r') => ((.error er, r'), Cost.zero)
      | (.ok (have_, tyCur), r1) =>
        if !req && !have_ then ((.ok old, r1), Cost.zero)
        else if tyCur = tyLIST then
          match readLen r1 with
          | (.error er, r') => ((.error er, r'), Cost.zero)
          | (.ok len, r2) =>
            match checkLength len r2 with
            | (.error er, r') => ((.error er, r'), Cost.zero)
            | (.ok (), r3) =>
              -- x = make([]e, length), after CheckLength
              let x := decElemsA env fuel e len.toNat [] r3
              (x.1, Cost.make len.toNat x.2)
        else if tyCur = tySimpleList then
          if e = .i8 ∨ e = .u8 then
            match skipTo tyBYTE 0 true r1 with
            | (.error er, r') => ((.error er, r'), Cost.zero)
            | (.ok _, r2) =>
              match readLen r2 with
              | (.error er, r') => ((.error er, r'), Cost.zero)
              | (.ok len, r3) =>
                let oldBytes := match old with
                  | .list vs => int8Bytes vs
                  | _ => []
                -- ReadSliceInt8/Uint8: `make([]int8, len)` when `len > 0` and CheckLength passed
                let c := if len ≤ 0 then Cost.zero else
                  match checkLength len r3 with
                  | (.ok (), _) => Cost.flat len.toNat
                  | (.error _, _) => Cost.zero
                match readSlice8 oldBytes len r3 with
                | (.error er, r') => ((.error er, r'), c)
                | (.ok bs, r4) => ((.ok (.list (bytesToVals (e = .i8) bs)), r4), c)
          else ((.error .mismatch, r1), Cost.zero)
        else ((.error .mismatch, r1), Cost.zero)
    | .arr n e =>
      match skipToNoCheck tag req r with
      | (.error er, r') => ((.error er, r'), Cost.zero)
      | (.ok (have_, tyCur), r1) =>
        if !req && !have_ then ((.ok old, r1), Cost.zero)
        else if tyCur = tyLIST then
          match readLen r1 with
          | (.error er, r') => ((.error er, r'), Cost.zero)
          | (.ok len, r2) =>
            let oldVs := match old with
              | .list vs => vs
              | _ => []
            -- fixed array: no allocation of its own
            if len > (n : Int) then ((.error .mismatch, r2), Cost.zero)
            else decArrA env fuel e n 0 len oldVs r2
        else ((.error .mismatch, r1), Cost.zero)
    | .map k v =>
      match skipTo tyMAP tag req r with
      | (.error er, r') => ((.error er, r'), Cost.zero)
      | (.ok have_, r1) =>
        if !req && !have_ then ((.ok old, r1), Cost.zero)
        else
          match readLen r1 with
          | (.error er, r') => ((.error er, r'), Cost.zero)
          | (.ok len, r2) =>
            match checkLength len r2 with
            | (.error er, r') => ((.error er, r'), Cost.zero)
            | (.ok (), r3) => decPairsA env fuel k v len [] r3
    | .struct name =>
      match env.find name, old with
      | some fs, .struct ovs =>
        let o1 := resetDefault env fuel fs ovs
        match skipTo tyStructBegin tag req r with
        | (.error er, r') => ((.error er, r'), Cost.zero)
        | (.ok have_, r1) =>
          if !have_ then
            if req then ((.error .require, r1), Cost.zero) else ((.ok (.struct o1), r1), Cost.zero)
          else
            let x := decMembersA env fuel fs (resetDefault env fuel fs o1) r1
            match x.1 with
            | (.error er, r') => ((.error er, r'), x.2)
            | (.ok vs, r2) =>
              match skipToStructEnd r2.fuel r2 with
              | (.error er, r') => ((.error er, r'), x.2)
              | (.ok (), r3) => ((.ok (.struct vs), r3), x.2)
      | _, _ => ((.error (.panic "model: ill-typed target"), r), Cost.zero)
    | t =>
      let x := readScalar t old tag req r
      (x, ⟨strAlloc tag req r x, 0⟩)

def decElemsA (env : Env) : Nat → Ty → Nat → List Val → Reader → Res Val × Cost
  | 0, _, _, _, r => ((.error .fuel, r), Cost.zero)
  | fuel+1, e, n, acc, r =>
    match n with
    | 0 => ((.ok (.list acc.reverse), r), Cost.zero)
    | n'+1 =>
      let x := decVarA env fuel 0 true e (zeroOf env e) r
      match x.1 with
      | (.error er, r') => ((.error er, r'), x.2)
      | (.ok v, r1) =>
        let y := decElemsA env fuel e n' (v :: acc) r1
        (y.1, Cost.seq x.2 y.2)

def decArrA (env : Env) : Nat → Ty → Nat → Nat → Int → List Val → Reader → Res Val × Cost
  | 0, _, _, _, _, _, r => ((.error .fuel, r), Cost.zero)
  | fuel+1, e, n, i, len, cur, r =>
    if (i : Int) ≥ len then ((.ok (.list cur), r), Cost.zero)
    else if i ≥ n then (arrOverflow e r, Cost.zero)
    else
      let x := decVarA env fuel 0 true e (cur.getD i (zeroOf env e)) r
      match x.1 with
      | (.error er, r') => ((.error er, r'), x.2)
      | (.ok v, r1) =>
        let y := decArrA env fuel e n (i+1) len (listSet cur i v) r1
        (y.1, Cost.seq x.2 y.2)

def decPairsA (env : Env) : Nat → Ty → Ty → Int → List (Val × Val) → Reader → Res Val × Cost
  | 0, _, _, _, _, r => ((.error .fuel, r), Cost.zero)
  | fuel+1, k, v, len, acc, r =>
    if len ≤ 0 then ((.ok (.map acc), r), Cost.zero)
    else
      let x := decVarA env fuel 0 true k (zeroOf env k) r
      match x.1 with
      | (.error er, r') => ((.error er, r'), x.2)
      | (.ok a, r1) =>
        let y := decVarA env fuel 1 true v (zeroOf env v) r1
        match y.1 with
        | (.error er, r') => ((.error er, r'), Cost.seq x.2 y.2)
        | (.ok b, r2) =>
          -- m[k] = v : one map entry
          let z := decPairsA env fuel k v (len - 1) (mapInsert acc a b keyEq) r2
          (z.1, Cost.seq (Cost.seq x.2 y.2) (Cost.seq ⟨1, 0⟩ z.2))

def decMembersA (env : Env) : Nat → List Field → List Val → Reader → Res (List Val) × Cost
  | 0, _, _, r => ((.error .fuel, r), Cost.zero)
  | fuel+1, fs, olds, r =>
    match fs, olds with
    | f :: fs', o :: os =>
      let x := decVarA env fuel f.tag f.req f.ty o r
      match x.1 with
      | (.error er, r') => ((.error er, r'), x.2)
      | (.ok v, r1) =>
        let y := decMembersA env fuel fs' os r1
        match y.1 with
        | (.error er, r') => ((.error er, r'), Cost.seq x.2 y.2)
        | (.ok vs, r2) => ((.ok (v :: vs), r2), Cost.seq x.2 y.2)
    | _, _ => ((.ok [], r), Cost.zero)
end

/-- `decStruct` with allocation accounting -/
def decStructA (env : Env) (name : String) (old : Val) (r : Reader) : Res Val × Cost :=
  match env.find name, old with
  | some fs, .struct ovs =>
    let fuel := decFuel env r
    let x := decMembersA env fuel fs (resetDefault env fuel fs ovs) r
    match x.1 with
    | (.error er, r') => ((.error er, r'), x.2)
    | (.ok vs, r1) => ((.ok (.struct vs), r1), x.2)
  | _, _ => ((.error (.panic "model: ill-typed target"), r), Cost.zero)

/-! ## the vector head as found (before fix 040488e), for the D11 counterexamples -/

/-- `genReadVector`, LIST branch, AS FOUND: `ReadInt32(&length, 0, true)` directly followed by
    `make([]T, length)`: a negative length panics, any other length is requested from the
    allocator without looking at the input.  Returns the number of elements requested. -/
def AsFound.vecMake (tag : Nat) (req : Bool) : RM Nat := fun r =>
  match skipToNoCheck tag req r with
  | (.error er, r') => (.error er, r')
  | (.ok (_, tyCur), r1) =>
    if tyCur = tyLIST then
      match readLen r1 with
      | (.error er, r') => (.error er, r')
      | (.ok len, r2) =>
        if len < 0 then (.error (.panic "makeslice"), r2) else (.ok len.toNat, r2)
    else (.error .mismatch, r1)

/-- `genReadArray`, LIST branch, AS FOUND: the element loop was entered without comparing the
    announced length with the array size `n` -/
def AsFound.arrLoop (env : Env) (fuel : Nat) (e : Ty) (n : Nat) (old : List Val) : RM Val := fun r =>
  match readLen r with
  | (.error er, r') => (.error er, r')
  | (.ok len, r2) => decArr env fuel e n 0 len old r2

end Tars
