/-
  The inductive invariant of the call-path LTS `Tars.Route.step` (C08, C09).

  `Summary` collects, for one step of the caller goroutine of call `i`, every fact the invariant
  needs (how the call record, the counters, the table and the id counter change); a step that only
  moves the program counter has its summary from `Summary.of_pc` (which shared variable it writes) or
  `Summary.move` (none).  `callStep_summary` is the only place where a successful `callStep` is taken
  apart; besides the summary it names the edge of the caller's control flow that was taken (`Edge`),
  which is what the timing invariant of `Proofs/CallTime.lean` follows.  The invariant is preserved along
  every summary by one argument (`inv_of_summary`).
-/
import TarsModel.Proofs.RouteGen
import TarsModel.Proofs.ListAux
import TarsModel.Proofs.RouteStep

namespace Tars.Route

/-- what a call at `pc` contributes to its proxy's `queueLen` -/
def qd (pc : Pc) : Int := if pc.inQueue then 1 else 0
/-- what a call at `pc` contributes to `invokeNum` -/
def nd (pc : Pc) : Int := if pc.inInvoke then 1 else 0

theorem Pc.stored_of_registered {pc : Pc} (h : pc.registered = true) : pc.stored = true := by
  cases pc <;> simp_all [Pc.registered, Pc.stored]

theorem Pc.hasId_of_stored {pc : Pc} (h : pc.stored = true) : pc.hasId = true := by
  cases pc <;> simp_all [Pc.hasId, Pc.stored]

theorem Pc.stored_of_outcome {pc : Pc} {o : Outcome} (h : pc.outcome? = some o) : pc.stored = true := by
  cases pc <;> simp_all [Pc.stored, Pc.outcome?]

theorem Pc.ne_select_of_stored {pc : Pc} (h : pc.stored = true) : pc ≠ .select := by
  cases pc <;> simp_all [Pc.stored]

theorem Pc.at_rest {pc : Pc} (h : pc = .idle ∨ ∃ o, pc = .done o) :
    pc.inQueue = false ∧ pc.inInvoke = false ∧ pc.registered = false := by
  rcases h with rfl | ⟨o, rfl⟩ <;> exact ⟨rfl, rfl, rfl⟩

/-! ### what one step of a caller goroutine does -/

structure Summary (s : State) (i : Nat) (c : Call) (s' : State) (c' : Call) : Prop where
  calls : s'.calls = s.calls.set i c'
  emitted : s'.emitted = s.emitted
  par : c'.par = c.par
  ka : s'.kaHeld = s.kaHeld
  ql : c.par.proxy < s.queueLens.length → ∀ p : Nat,
         qGet s'.queueLens p = qGet s.queueLens p + (if c.par.proxy = p then qd c'.pc - qd c.pc else 0)
  qlen : s'.queueLens.length = s.queueLens.length
  inv : s'.invokeNum = s.invokeNum - nd c.pc + nd c'.pc
  table : (c.pc = .store ∧ c'.pc = .lock ∧ s'.table = tStore s.table c.adp c.id i) ∨
          (∃ o, c.pc = .del o ∧ c'.pc = .post o ∧ s'.table = tDelete s.table c.adp c.id) ∨
          (s'.table = s.table ∧ c'.pc.registered = c.pc.registered)
  ident : c.pc.hasId = true → c'.pc.hasId = true ∧ c'.id = c.id ∧ c'.seq = c.seq
  stored : c.pc.stored = true → c'.pc.stored = true
  adp : c.pc ≠ .select → c'.adp = c.adp
  gen : (s'.gen = s.gen ∧ c'.pc.hasId = c.pc.hasId) ∨
        (s'.gen = s.gen.cas ∧ c.pc.hasId = false ∧ c'.pc.hasId = false) ∨
        (s'.gen = s.gen.add ∧ c.pc.hasId = false ∧
          ((c' = c ∧ issues (addStep s.gen.ctr) = false) ∨
           (c'.pc.hasId = true ∧ issues (addStep s.gen.ctr) = true ∧ c'.id = addStep s.gen.ctr ∧
            c'.seq = s.gen.issued.length)))
  reply : ∀ p : Pkt, c'.pc.outcome? = some (Outcome.reply p) → c.pc.outcome? = some (Outcome.reply p) ∨
            (c.pc = .wait ∧ p.id = c.id ∧ (c.adp, p) ∈ s.emitted ∧ p.id ≠ 0 ∧ p.oneway = false)
  adpOk : c'.pc.needsAdp = true → (c.pc.needsAdp = true ∧ c.pc ≠ .select) ∨ c'.adp < s.conns.length
  clen : s'.conns.length = s.conns.length

/-- what holds of every move `p → p'` of a caller's program counter: the id, the table entry and the
    adapter are acquired once and kept -/
abbrev Pc.Flow (p p' : Pc) : Prop :=
  (p.hasId = true → p'.hasId = true) ∧ (p.stored = true → p'.stored = true) ∧
  (p'.needsAdp = true → p.needsAdp = true ∧ p ≠ .select)

theorem Summary.of_pc {s : State} {i : Nat} {c : Call} (p : Pc) {p' : Pc} {g' : Gen} {t' : List Entry} {q' : List Int}
    {n' : Int} {k' : List Conn} (hp : c.pc = p) (hf : Pc.Flow p p')
    (hg : (g' = s.gen ∧ p'.hasId = p.hasId) ∨ (g' = s.gen.cas ∧ p.hasId = false ∧ p'.hasId = false))
    (hq : (q' = s.queueLens ∧ p'.inQueue = p.inQueue) ∨ q' = qAdd s.queueLens c.par.proxy (qd p' - qd p))
    (hn : (n' = s.invokeNum ∧ p'.inInvoke = p.inInvoke) ∨ n' = s.invokeNum + (nd p' - nd p))
    (ht : (p = .store ∧ p' = .lock ∧ t' = tStore s.table c.adp c.id i) ∨
          (∃ o, p = .del o ∧ p' = .post o ∧ t' = tDelete s.table c.adp c.id) ∨
          (t' = s.table ∧ p'.registered = p.registered))
    (hr : ∀ x : Pkt, p'.outcome? = some (.reply x) → p.outcome? = some (.reply x) ∨
            (p = .wait ∧ x.id = c.id ∧ (c.adp, x) ∈ s.emitted ∧ x.id ≠ 0 ∧ x.oneway = false))
    (hk : k'.length = s.conns.length) :
    Summary s i c ⟨g', s.calls.set i { c with pc := p' }, t', q', s.kaHeld, n', k', s.rcvs, s.emitted⟩
      { c with pc := p' } := by
  subst hp
  exact {
    calls := rfl, emitted := rfl, par := rfl, ka := rfl, table := ht, reply := hr, clen := hk
    ident := fun h => ⟨hf.1 h, rfl, rfl⟩, stored := hf.2.1, adp := fun _ => rfl
    adpOk := fun h => Or.inl (hf.2.2 h)
    ql := fun hp p => by
      rcases hq with ⟨rfl, h⟩ | rfl
      · simp [qd, h]
      · exact qGet_qAdd hp
    qlen := by
      rcases hq with ⟨rfl, _⟩ | rfl
      · rfl
      · exact qAdd_length _ _ _
    inv := by
      rcases hn with ⟨rfl, h⟩ | rfl
      · simp [nd, h]
      · show s.invokeNum + (nd p' - nd c.pc) = s.invokeNum - nd c.pc + nd p'; omega
    gen := hg.imp id Or.inl }

/-- a move that crosses none of the bracketing operations and does not end with a reply -/
abbrev Pc.Quiet (p p' : Pc) : Prop :=
  Pc.Flow p p' ∧ p'.hasId = p.hasId ∧ p'.inQueue = p.inQueue ∧ p'.inInvoke = p.inInvoke ∧
  p'.registered = p.registered ∧
  p'.outcome? ∈ [none, some .timeout, some .sendErr, some .noAdapter, some .queueFull, some .onewayOk]

theorem Summary.move {s : State} {i : Nat} {c : Call} (p : Pc) {p' : Pc} (hp : c.pc = p) (h : Pc.Quiet p p')
    {k' : List Conn} (hk : k'.length = s.conns.length) :
    Summary s i c { s.setCall i { c with pc := p' } with conns := k' } { c with pc := p' } :=
  .of_pc p hp h.1 (.inl ⟨rfl, h.2.1⟩) (.inl ⟨rfl, h.2.2.1⟩) (.inl ⟨rfl, h.2.2.2.1⟩)
    (.inr (.inr ⟨rfl, h.2.2.2.2.1⟩)) (fun x hx => by have := h.2.2.2.2.2; rw [hx] at this; simp at this) hk

/-- the control flow of a caller goroutine: action `a` takes it from `p` to `p'`; at the dial lock the state of
    the connection decides where -/
inductive Edge (s : State) (c : Call) : CallAct → Pc → Pc → Prop
  | begin : Edge s c .begin .idle .genCas
  | cas : Edge s c .cas .genCas .genAdd
  | addIssue : Edge s c .add .genAdd .pre
  | addZero : Edge s c .add .genAdd .genAdd
  | pre : Edge s c .pre .pre .select
  | selectNone : Edge s c (.selectAdp none) .select (.post .noAdapter)
  | selectSome {a} : Edge s c (.selectAdp (some a)) .select .gate
  | gateFull : Edge s c .gate .gate (.post .queueFull)
  | gateOk : Edge s c .gate .gate .incQ
  | incQ : Edge s c .incQ .incQ .store
  | store : Edge s c .store .store .lock
  | lockDial {k} : s.conns[c.adp]? = some k → k.closed = true → Edge s c .lockAcq .lock .dial
  | lockOpen {k} : s.conns[c.adp]? = some k → ¬ k.closed = true → Edge s c .lockAcq .lock .enq
  | dialOk : Edge s c .dialOk .dial .enq
  | dialFail : Edge s c .dialFail .dial (.decQ .sendErr)
  | enqOneway : Edge s c .enqueue .enq (.decQ .onewayOk)
  | enqueue : Edge s c .enqueue .enq .wait
  | writeTimeout : Edge s c .writeTimeout .enq (.decQ .sendErr)
  | timeout : Edge s c .timeout .wait (.decQ .timeout)
  | decQ {o} : Edge s c .decQ (.decQ o) (.del o)
  | del {o} : Edge s c .del (.del o) (.post o)
  | post {o} : Edge s c .post (.post o) (.done o)

theorem callStep_summary {cfg : Cfg} {s s' : State} {i : Nat} {c : Call} {a : CallAct}
    (hc : s.calls[i]? = some c) (h : callStep cfg s i c a = some s') :
    ∃ c', Summary s i c s' c' ∧ s'.rcvs = s.rcvs ∧ Edge s c a c.pc c'.pc := by
  -- the goals come in the order of the clauses of `callStep` (and of the branches inside a clause)
  -- three steps do not just move the `pc` of the call record, so `Summary.of_pc` does not apply and their summaries are
  -- given field by field: `addIssue` also writes `id` and `seq`, `addZero` leaves the record as it is, `selectSome` writes `adp`
  unfold callStep at h
  split at h <;> (try simp only [] at h) <;> (repeat' split at h) <;> (try contradiction) <;>
    (injection h with h; subst h) <;> rw [‹c.pc = _›]
  · exact ⟨_, .move .idle ‹_› (by decide) rfl, rfl, .begin⟩
  · exact ⟨_, .of_pc .genCas ‹_› (by decide) (.inr ⟨rfl, rfl, rfl⟩) (.inl ⟨rfl, rfl⟩) (.inl ⟨rfl, rfl⟩)
      (.inr (.inr ⟨rfl, rfl⟩)) nofun rfl, rfl, .cas⟩
  · have hpc : c.pc = .genAdd := ‹_›
    refine ⟨_, { calls := rfl, emitted := rfl, par := rfl, ka := rfl, qlen := rfl, clen := rfl, adp := fun _ => rfl
                 gen := .inr (.inr ⟨rfl, ?_, .inr ⟨rfl, ‹_›, rfl, rfl⟩⟩), table := .inr (.inr ⟨rfl, ?_⟩)
                 reply := nofun, adpOk := nofun, ql := ?_, inv := ?_, ident := ?_, stored := ?_ }, rfl, .addIssue⟩ <;>
      simp [hpc, State.setCall, qd, nd, Pc.inQueue, Pc.inInvoke, Pc.registered, Pc.hasId, Pc.stored]
  · have hpc : c.pc = .genAdd := ‹_›
    refine ⟨c, { calls := (set_self hc).symm, emitted := rfl, par := rfl, ka := rfl, qlen := rfl, clen := rfl
                 adp := fun _ => rfl, ident := fun h => ⟨h, rfl, rfl⟩, stored := id, reply := fun _ => .inl
                 gen := .inr (.inr ⟨rfl, ?_, .inl ⟨rfl, Bool.eq_false_iff.mpr ‹_›⟩⟩), table := .inr (.inr ⟨rfl, rfl⟩)
                 ql := ?_, inv := ?_, adpOk := ?_ }, rfl, by rw [hpc]; exact .addZero⟩ <;>
      simp [hpc, Pc.hasId, Pc.needsAdp]
  · exact ⟨_, .of_pc .pre ‹_› (by decide) (.inl ⟨rfl, rfl⟩) (.inl ⟨rfl, rfl⟩) (.inr rfl) (.inr (.inr ⟨rfl, rfl⟩))
      nofun rfl, rfl, .pre⟩
  · exact ⟨_, .move .select ‹_› (by decide) rfl, rfl, .selectNone⟩
  · have hpc : c.pc = .select := ‹_›
    refine ⟨_, { calls := rfl, emitted := rfl, par := rfl, ka := rfl, qlen := rfl, clen := rfl
                 adp := fun h => absurd hpc h, adpOk := fun _ => .inr ‹_›, ident := fun _ => ⟨rfl, rfl, rfl⟩
                 gen := .inl ⟨rfl, ?_⟩, table := .inr (.inr ⟨rfl, ?_⟩), reply := nofun
                 ql := ?_, inv := ?_, stored := ?_ }, rfl, .selectSome⟩ <;>
      simp [hpc, State.setCall, qd, nd, Pc.inQueue, Pc.inInvoke, Pc.registered, Pc.hasId, Pc.stored]
  · exact ⟨_, .move .gate ‹_› (by decide) rfl, rfl, .gateFull⟩
  · exact ⟨_, .move .gate ‹_› (by decide) rfl, rfl, .gateOk⟩
  · exact ⟨_, .of_pc .incQ ‹_› (by decide) (.inl ⟨rfl, rfl⟩) (.inr rfl) (.inl ⟨rfl, rfl⟩) (.inr (.inr ⟨rfl, rfl⟩))
      nofun rfl, rfl, .incQ⟩
  · exact ⟨_, .of_pc .store ‹_› (by decide) (.inl ⟨rfl, rfl⟩) (.inl ⟨rfl, rfl⟩) (.inl ⟨rfl, rfl⟩)
      (.inl ⟨rfl, rfl, rfl⟩) nofun rfl, rfl, .store⟩
  · exact ⟨_, .move .lock ‹_› (by decide) List.length_set, rfl, .lockDial ‹_› ‹_›⟩
  · exact ⟨_, .move .lock ‹_› (by decide) rfl, rfl, .lockOpen ‹_› ‹_›⟩
  · exact ⟨_, .move .dial ‹_› (by decide) List.length_set, rfl, .dialOk⟩
  · exact ⟨_, .move .dial ‹_› (by decide) List.length_set, rfl, .dialFail⟩
  · exact ⟨_, .move .enq ‹_› (by decide) List.length_set, rfl, .enqOneway⟩
  · exact ⟨_, .move .enq ‹_› (by decide) List.length_set, rfl, .enqueue⟩
  · exact ⟨_, .move .enq ‹_› (by decide) rfl, rfl, .writeTimeout⟩
  · exact ⟨_, .move .wait ‹_› (by decide) rfl, rfl, .timeout⟩
  · exact ⟨_, .of_pc (.decQ _) ‹_› (of_decide_eq_true rfl) (.inl ⟨rfl, rfl⟩) (.inr rfl) (.inl ⟨rfl, rfl⟩)
      (.inr (.inr ⟨rfl, rfl⟩)) (fun _ => .inl) rfl, rfl, .decQ⟩
  · exact ⟨_, .of_pc (.del _) ‹_› (of_decide_eq_true rfl) (.inl ⟨rfl, rfl⟩) (.inl ⟨rfl, rfl⟩) (.inl ⟨rfl, rfl⟩)
      (.inr (.inl ⟨_, rfl, rfl, rfl⟩)) (fun _ => .inl) rfl, rfl, .del⟩
  · exact ⟨_, .of_pc (.post _) ‹_› (of_decide_eq_true rfl) (.inl ⟨rfl, rfl⟩) (.inl ⟨rfl, rfl⟩) (.inr rfl)
      (.inr (.inr ⟨rfl, rfl⟩)) (fun _ => .inl) rfl, rfl, .post⟩

/-! ### the invariant -/

/-- a receiver offering to call `i` holds a two-way packet with the non-zero id of `i`, which has stored
    (it may have deregistered since: the offer outlives the entry) -/
abbrev Offers (s : State) (x : Rcv) (i : Nat) : Prop :=
  (∃ c, s.calls[i]? = some c ∧ c.id = x.pkt.id ∧ c.adp = x.adp ∧ c.pc.stored = true) ∧
  x.pkt.id ≠ 0 ∧ x.pkt.oneway = false

structure Inv (s : State) : Prop where
  /-- `queueLen` of a proxy = its calls in the bracket + its keep-alive ticks in flight -/
  ql : ∀ p : Nat, qGet s.queueLens p =
         (s.calls.countP (fun c => c.pc.inQueue && c.par.proxy == p) : Nat) + (s.kaHeld.count p : Nat)
  kaProxy : ∀ p ∈ s.kaHeld, p < s.queueLens.length
  callProxy : ∀ (i : Nat) (c : Call), s.calls[i]? = some c → c.par.proxy < s.queueLens.length
  /-- `invokeNum` = calls between `preInvoke` and `postInvoke` -/
  num : s.invokeNum = (s.calls.countP (fun c => c.pc.inInvoke) : Nat)
  /-- an entry of the table belongs to a registered call with its id on its adapter -/
  tbl : ∀ e ∈ s.table, ∃ c, s.calls[e.call]? = some c ∧ c.id = e.id ∧ c.adp = e.adp ∧ c.pc.registered = true
  off : ∀ (r : Nat) (x : Rcv) (i : Nat), s.rcvs[r]? = some x → x.pc = .offer i → Offers s x i
  /-- what a receiver holds, the peer of its adapter has sent -/
  sent : ∀ (r : Nat) (x : Rcv), s.rcvs[r]? = some x → (x.adp, x.pkt) ∈ s.emitted
  /-- the reply a call returns with carries its id and was sent by the peer of its adapter -/
  rep : ∀ (i : Nat) (c : Call) (p : Pkt), s.calls[i]? = some c → c.pc.outcome? = some (Outcome.reply p) →
          p.id = c.id ∧ (c.adp, p) ∈ s.emitted ∧ p.id ≠ 0 ∧ p.oneway = false
  /-- the id of a call is non-zero and stands at place `seq` of the log of issued ids (oldest first) -/
  ident : ∀ (i : Nat) (c : Call), s.calls[i]? = some c → c.pc.hasId = true → c.id ≠ 0 ∧ s.gen.issued.reverse[c.seq]? = some c.id
  seqDistinct : ∀ (i j : Nat) (ci cj : Call), s.calls[i]? = some ci → s.calls[j]? = some cj → i ≠ j →
          ci.pc.hasId = true → cj.pc.hasId = true → ci.seq ≠ cj.seq
  /-- a registered call is found under its key — or another call that has stored has the same id on the same
      adapter.  The alternative cannot be dropped: ids repeat after 2^31 - 2 issues, `resp.Store` of the later call
      replaces the entry and its `resp.Delete` removes it.  Stated this way the clause is inductive without any
      assumption on how long a call stays out. -/
  own : ∀ (i : Nat) (c : Call), s.calls[i]? = some c → c.pc.registered = true →
          tLoad s.table c.adp c.id = some i ∨
          ∃ (j : Nat) (c' : Call), j ≠ i ∧ s.calls[j]? = some c' ∧ c'.pc.stored = true ∧ c'.id = c.id ∧ c'.adp = c.adp
  adpValid : ∀ (i : Nat) (c : Call), s.calls[i]? = some c → c.pc.needsAdp = true → c.adp < s.conns.length

theorem inv_init (cfg : Cfg) (ctr : Int) : Inv (init cfg ctr) := by
  constructor <;> simp [init, qGet]

theorem issued_add_mono {g : Gen} {k : Nat} {v : Int} (h : g.issued.reverse[k]? = some v) :
    g.add.issued.reverse[k]? = some v := by
  simp only [Gen.add]
  split
  · rw [List.reverse_cons]; exact getElem?_append_of_some h
  · exact h

theorem issued_mono {s s' : State} {i : Nat} {c c' : Call} (hs : Summary s i c s' c') {k : Nat} {v : Int}
    (h : s.gen.issued.reverse[k]? = some v) : s'.gen.issued.reverse[k]? = some v := by
  rcases hs.gen with ⟨hg, _⟩ | ⟨hg, _⟩ | ⟨hg, _⟩ <;> rw [hg]
  · exact h
  · exact h
  · exact issued_add_mono h

theorem inv_of_summary {s s' : State} {i : Nat} {c c' : Call} (hI : Inv s) (hc : s.calls[i]? = some c)
    (hs : Summary s i c s' c') (hr : s'.rcvs = s.rcvs) : Inv s' := by
  have hself : s'.calls[i]? = some c' := by rw [hs.calls, getElem?_set_of_some hc]
  have hnew : ∀ {j cj}, s'.calls[j]? = some cj → (j = i ∧ cj = c') ∨ (j ≠ i ∧ s.calls[j]? = some cj) :=
    fun h => getElem?_set_cases (hs.calls ▸ h)
  have hold : ∀ {j cj}, s.calls[j]? = some cj → (j = i ∧ cj = c) ∨ (j ≠ i ∧ s'.calls[j]? = some cj) := by
    intro j cj h
    by_cases hji : j = i
    · exact .inl ⟨hji, Option.some.inj ((hji ▸ h).symm.trans hc)⟩
    · exact .inr ⟨hji, by rw [hs.calls, List.getElem?_set_ne (Ne.symm hji)]; exact h⟩
  have hst : c.pc.stored = true → c'.pc.stored = true ∧ c'.id = c.id ∧ c'.adp = c.adp := fun h =>
    ⟨hs.stored h, (hs.ident (Pc.hasId_of_stored h)).2.1, hs.adp (Pc.ne_select_of_stored h)⟩
  have keep : ∀ {j : Nat} {cj : Call}, s.calls[j]? = some cj → cj.pc.stored = true →
      ∃ cj' : Call, s'.calls[j]? = some cj' ∧ cj'.pc.stored = true ∧ cj'.id = cj.id ∧ cj'.adp = cj.adp := by
    intro j cj hj h
    rcases hold hj with ⟨rfl, rfl⟩ | ⟨_, hj'⟩
    · exact ⟨c', hself, hst h⟩
    · exact ⟨cj, hj', h, rfl, rfl⟩
  constructor
  case ql =>
    intro p
    rw [hs.ql (hI.callProxy i c hc) p, hs.calls, hI.ql p, hs.ka,
      countP_set_int (fun c : Call => c.pc.inQueue && c.par.proxy == p) (c' := c') hc, hs.par]
    by_cases hp : c.par.proxy = p
    · simp [hp, qd]; omega
    · simp [hp]
  case kaProxy => rw [hs.ka, hs.qlen]; exact hI.kaProxy
  case callProxy =>
    intro j cj hj
    rw [hs.qlen]
    rcases hnew hj with ⟨rfl, rfl⟩ | ⟨_, hj⟩
    · rw [hs.par]; exact hI.callProxy _ c hc
    · exact hI.callProxy j cj hj
  case num =>
    rw [hs.inv, hs.calls, hI.num, countP_set_int (fun c : Call => c.pc.inInvoke) (c' := c') hc]
    simp only [nd]
  case tbl =>
    -- an old entry keeps its call unless that call is i; then the kind of step decides
    intro e he
    have old : e ∈ s.table → (c.id = e.id → c.adp = e.adp → c.pc.registered = true →
          c'.id = e.id ∧ c'.adp = e.adp ∧ c'.pc.registered = true) →
        ∃ c1, s'.calls[e.call]? = some c1 ∧ c1.id = e.id ∧ c1.adp = e.adp ∧ c1.pc.registered = true := by
      intro he hi
      obtain ⟨c0, h0, h1, h2, h3⟩ := hI.tbl e he
      rcases hold h0 with ⟨hei, rfl⟩ | ⟨_, h0'⟩
      · exact ⟨c', hei ▸ hself, hi h1 h2 h3⟩
      · exact ⟨c0, h0', h1, h2, h3⟩
    rcases hs.table with ⟨hpc, hpc', ht⟩ | ⟨o, hpc, hpc', ht⟩ | ⟨ht, hreg⟩
    · rw [ht, tStore] at he
      rcases List.mem_cons.mp he with rfl | he
      · exact ⟨c', hself, (hs.ident (by rw [hpc]; rfl)).2.1, hs.adp (by rw [hpc]; nofun), by rw [hpc']; rfl⟩
      · exact old (mem_tDelete.mp he).1 (fun _ _ h => by rw [hpc] at h; contradiction)
    · rw [ht] at he
      obtain ⟨he', hne⟩ := mem_tDelete.mp he
      exact old he' (fun h1 h2 _ => by simp [Entry.is, h1, h2] at hne)
    · rw [ht] at he
      refine old he (fun h1 h2 h3 => ?_)
      have := hst (Pc.stored_of_registered h3)
      exact ⟨this.2.1.trans h1, this.2.2.trans h2, hreg ▸ h3⟩
  case off =>
    intro r x j hx hpc
    obtain ⟨⟨c0, h0, h1, h2, h3⟩, h4⟩ := hI.off r x j (hr ▸ hx) hpc
    obtain ⟨c1, g0, g3, g1, g2⟩ := keep h0 h3
    exact ⟨⟨c1, g0, g1.trans h1, g2.trans h2, g3⟩, h4⟩
  case sent => rw [hr, hs.emitted]; exact hI.sent
  case rep =>
    intro j cj p hj ho
    rw [hs.emitted]
    rcases hnew hj with ⟨rfl, rfl⟩ | ⟨_, hj⟩
    · -- the call was returning with `p` already, or took it while it waited: either way it has stored
      have h := hs.reply p ho
      obtain ⟨_, hid, had⟩ := hst (h.elim Pc.stored_of_outcome fun h => by rw [h.1]; rfl)
      rw [hid, had]
      exact h.elim (hI.rep _ c p hc) (·.2)
    · exact hI.rep j cj p hj ho
  case ident =>
    intro j cj hj hid
    rcases hnew hj with ⟨rfl, rfl⟩ | ⟨_, hj⟩
    · rcases hs.gen with ⟨hg, hh⟩ | ⟨hg, _, hh⟩ | ⟨hg, hn, hh⟩
      · rw [hh] at hid
        have hid' := hs.ident hid
        rw [hid'.2.1, hid'.2.2, hg]; exact hI.ident _ c hc hid
      · rw [hh] at hid; contradiction
      · rcases hh with ⟨rfl, _⟩ | ⟨_, hiss, hv, hsq⟩
        · rw [hn] at hid; contradiction
        · rw [hg, hv, hsq]
          refine ⟨issues_iff.mp hiss, ?_⟩
          simp only [Gen.add, hiss, ↓reduceIte, List.reverse_cons]
          rw [List.getElem?_append_right (by simp)]
          simp
    · exact (hI.ident j cj hj hid).imp_right (issued_mono hs)
  case seqDistinct =>
    -- the call records of s keep their sequence numbers; one that has just got its id has the largest
    have seq' : ∀ {m : Nat} {cm : Call}, m ≠ i → s.calls[m]? = some cm → cm.pc.hasId = true → c'.pc.hasId = true →
        cm.seq ≠ c'.seq := by
      intro m cm hm hcm hidm hy
      by_cases hci : c.pc.hasId = true
      · rw [(hs.ident hci).2.2]; exact hI.seqDistinct m i cm c hcm hc hm hidm hci
      · rcases hs.gen with ⟨_, hh⟩ | ⟨_, _, hh⟩ | ⟨_, _, ⟨rfl, _⟩ | ⟨_, _, _, hsq⟩⟩
        · rw [hh] at hy; contradiction
        · rw [hh] at hy; contradiction
        · contradiction
        · have := lt_of_getElem? (hI.ident m cm hcm hidm).2
          simp at this; omega
    intro j k cj ck hj hk hjk hidj hidk
    rcases hnew hj with ⟨rfl, rfl⟩ | ⟨hji, hj⟩ <;> rcases hnew hk with ⟨rfl, rfl⟩ | ⟨hki, hk⟩
    · exact absurd rfl hjk
    · exact (seq' hki hk hidk hidj).symm
    · exact seq' hji hj hidj hidk
    · exact hI.seqDistinct j k cj ck hj hk hjk hidj hidk
  case own =>
    intro j cj hj hreg
    -- a collision witness of s stays one in s'
    have wit : ∀ {a : Nat} {id : Int} {m : Nat}, (∃ (k : Nat) (ck : Call), k ≠ m ∧ s.calls[k]? = some ck ∧ ck.pc.stored = true ∧ ck.id = id ∧ ck.adp = a) →
        ∃ (k : Nat) (ck : Call), k ≠ m ∧ s'.calls[k]? = some ck ∧ ck.pc.stored = true ∧ ck.id = id ∧ ck.adp = a := by
      rintro a id m ⟨k, ck, hkm, hk, h1, h2, h3⟩
      obtain ⟨ck', g0, g1, g2, g3⟩ := keep hk h1
      exact ⟨k, ck', hkm, g0, g1, g2.trans h2, g3.trans h3⟩
    -- another call's entry survives a store or delete under another key; under the same key call i collides
    have other : ∀ {t' : List Entry}, j ≠ i → s.calls[j]? = some cj → c'.pc.stored = true → c'.id = c.id → c'.adp = c.adp →
        (¬(cj.adp = c.adp ∧ cj.id = c.id) → tLoad t' cj.adp cj.id = tLoad s.table cj.adp cj.id) →
        tLoad t' cj.adp cj.id = some j ∨
          ∃ (k : Nat) (ck : Call), k ≠ j ∧ s'.calls[k]? = some ck ∧ ck.pc.stored = true ∧ ck.id = cj.id ∧ ck.adp = cj.adp := by
      intro t' hji hj h1 h2 h3 ht
      by_cases hkey : cj.adp = c.adp ∧ cj.id = c.id
      · exact .inr ⟨i, c', Ne.symm hji, hself, h1, h2.trans hkey.2.symm, h3.trans hkey.1.symm⟩
      · exact (hI.own j cj hj hreg).imp (fun h => (ht hkey).trans h) wit
    rcases hs.table with ⟨hpc, hpc', ht⟩ | ⟨o, hpc, hpc', ht⟩ | ⟨ht, hreg'⟩ <;> rw [ht]
    · have hid := (hs.ident (by rw [hpc]; rfl)).2.1
      have had := hs.adp (by rw [hpc]; nofun)
      rcases hnew hj with ⟨rfl, rfl⟩ | ⟨hji, hj⟩
      · left; rw [hid, had]; exact tLoad_store_same
      · exact other hji hj (by rw [hpc']; rfl) hid had tLoad_store_other
    · have := hst (by rw [hpc]; rfl)
      rcases hnew hj with ⟨rfl, rfl⟩ | ⟨hji, hj⟩
      · rw [hpc'] at hreg; contradiction
      · exact other hji hj this.1 this.2.1 this.2.2 tLoad_delete_other
    · rcases hnew hj with ⟨rfl, rfl⟩ | ⟨hji, hj⟩
      · rw [hreg'] at hreg
        have := hst (Pc.stored_of_registered hreg)
        rw [this.2.1, this.2.2]
        exact (hI.own _ c hc hreg).imp id wit
      · exact (hI.own j cj hj hreg).imp id wit
  case adpValid =>
    intro j cj hj hn
    rw [hs.clen]
    rcases hnew hj with ⟨rfl, rfl⟩ | ⟨_, hj⟩
    · rcases hs.adpOk hn with ⟨h1, h2⟩ | h
      · rw [hs.adp h2]; exact hI.adpValid _ c hc h1
      · exact h
    · exact hI.adpValid j cj hj hn

theorem Inv.of_rcvs {s : State} (hI : Inv s) {rs : List Rcv} {em : List (Nat × Pkt)} (he : ∀ x ∈ s.emitted, x ∈ em)
    (hr : ∀ (r : Nat) (x : Rcv), rs[r]? = some x → (x.adp, x.pkt) ∈ em ∧ ∀ j, x.pc = RPc.offer j → Offers s x j) :
    Inv { s with rcvs := rs, emitted := em } :=
  { hI with
    off := fun r x j hx hpc => (hr r x hx).2 j hpc
    sent := fun r x hx => (hr r x hx).1
    rep := fun i c p h1 h2 => have := hI.rep i c p h1 h2; ⟨this.1, he _ this.2.1, this.2.2⟩ }

theorem Inv.setRcv {s : State} (hI : Inv s) {r : Nat} {x : Rcv} (hx : s.rcvs[r]? = some x) {pc : RPc}
    (ho : ∀ j, pc = .offer j → Offers s x j) : Inv (s.setRcv r { x with pc := pc }) :=
  hI.of_rcvs (fun _ hx => hx) <| forall_set
    (fun r' y hy => ⟨hI.sent r' y hy, fun j => hI.off r' y j hy⟩) ⟨hI.sent r x hx, ho⟩

theorem Inv.setConn {s : State} (hI : Inv s) (a : Nat) (k : Conn) : Inv (s.setConn a k) :=
  { hI with adpValid := fun i c hc hn => (List.length_set (as := s.conns)).symm ▸ hI.adpValid i c hc hn }

theorem Inv.deliver {cfg : Cfg} {s s' : State} {r : Nat} (hI : Inv s) (h : step cfg s (.deliver r) = some s') :
    ∃ (x : Rcv) (i : Nat) (c : Call), s.rcvs[r]? = some x ∧ s.calls[i]? = some c ∧ c.pc = .wait ∧
      x.pkt.id = c.id ∧ x.adp = c.adp ∧ (c.adp, x.pkt) ∈ s.emitted ∧ x.pkt.id ≠ 0 ∧ x.pkt.oneway = false ∧
      s' = (s.setCall i { c with pc := .decQ (.reply x.pkt) }).setRcv r { x with pc := .delivered } := by
  obtain ⟨x, i, c, hx, hpc, hc, hw, rfl⟩ := StepSpec.of_step h
  obtain ⟨⟨c0, h0, h1, h2, _⟩, h4, h5⟩ := hI.off r x i hx hpc
  obtain rfl : c = c0 := Option.some.inj (hc.symm.trans h0)
  exact ⟨x, i, c, hx, hc, hw, h1.symm, h2.symm, h2 ▸ hI.sent r x hx, h4, h5, rfl⟩

theorem inv_step {cfg : Cfg} {s s' : State} {a : Action} (hI : Inv s) (h : step cfg s a = some s') : Inv s' := by
  have hs := StepSpec.of_step h
  cases a with
  | spawn par =>
    obtain rfl := Option.some.inj h
    -- the new call is idle: no clause speaks of it; the old ones keep their places
    have hnew : ∀ {j : Nat} {x : Call}, (s.calls ++ [⟨par, .idle, 0, 0, 0⟩])[j]? = some x → x.pc ≠ .idle →
        s.calls[j]? = some x := fun hx hp =>
      (getElem?_append_one_cases hx).elim (fun ⟨_, h⟩ => absurd (h ▸ rfl) hp) id
    constructor
    case ql =>
      intro p
      rw [qGet_qPad]
      simp only [List.countP_append]; simp [Pc.inQueue]; exact hI.ql p
    case kaProxy => exact fun p hp => Nat.lt_of_lt_of_le (hI.kaProxy p hp) qPad_length_ge
    case callProxy =>
      intro j x hx
      rcases getElem?_append_one_cases hx with ⟨_, rfl⟩ | h
      · exact qPad_length_gt
      · exact Nat.lt_of_lt_of_le (hI.callProxy j x h) qPad_length_ge
    case num => simp only [List.countP_append]; simp [Pc.inInvoke]; exact hI.num
    case tbl => exact fun e he => (hI.tbl e he).imp fun c h => ⟨getElem?_append_of_some h.1, h.2⟩
    case off =>
      exact fun r x j hx hpc => (hI.off r x j hx hpc).imp_left (·.imp fun c h => ⟨getElem?_append_of_some h.1, h.2⟩)
    case sent => exact hI.sent
    case rep => exact fun i c p hc ho => hI.rep i c p (hnew hc fun hp => nomatch hp ▸ ho) ho
    case ident => exact fun i c hc hid => hI.ident i c (hnew hc fun hp => nomatch hp ▸ hid) hid
    case seqDistinct =>
      exact fun i j ci cj hi hj hij h1 h2 =>
        hI.seqDistinct i j ci cj (hnew hi fun hp => nomatch hp ▸ h1) (hnew hj fun hp => nomatch hp ▸ h2) hij h1 h2
    case own =>
      exact fun i c hc hreg => (hI.own i c (hnew hc fun hp => nomatch hp ▸ hreg) hreg).imp_right
        fun ⟨j, c', h1, h2, h3⟩ => ⟨j, c', h1, getElem?_append_of_some h2, h3⟩
    case adpValid => exact fun i c hc hn => hI.adpValid i c (hnew hc fun hp => nomatch hp ▸ hn) hn
  | call i ca =>
    obtain ⟨c, hc, h⟩ := hs
    obtain ⟨c', hs, hr, _⟩ := callStep_summary hc h
    exact inv_of_summary hI hc hs hr
  | emit a p =>
    obtain rfl := hs
    exact hI.of_rcvs (fun x hx => List.mem_cons_of_mem _ hx) <| forall_append
      (fun r x hx' => ⟨List.mem_cons_of_mem _ (hI.sent r x hx'), fun j => hI.off r x j hx'⟩)
      ⟨List.mem_cons_self, nofun⟩
  | garbage a => exact hs ▸ hI
  | lookup r =>
    obtain ⟨x, hx, rfl⟩ := hs
    refine hI.setRcv hx fun j hj => ?_
    obtain ⟨hl, hz⟩ := lookupPc_offer hj
    obtain ⟨e, he, h1, h2, h3⟩ := tLoad_some hl
    obtain ⟨c, hc0, hc1, hc2, hc3⟩ := hI.tbl e he
    exact ⟨⟨c, h3 ▸ hc0, hc1.trans h2, hc2.trans h1, Pc.stored_of_registered hc3⟩, hz⟩
  | deliver r =>
    obtain ⟨x, i, c, hx, hc, hw, h1, _, hem, h4, h5, rfl⟩ := hI.deliver h
    -- the call takes the packet (a step of the caller as far as the invariant goes), then the receiver is done
    have hI' : Inv (s.setCall i { c with pc := .decQ (.reply x.pkt) }) :=
      inv_of_summary hI hc (.of_pc .wait hw (of_decide_eq_true rfl) (.inl ⟨rfl, rfl⟩) (.inl ⟨rfl, rfl⟩)
        (.inl ⟨rfl, rfl⟩) (.inr (.inr ⟨rfl, rfl⟩)) (by rintro p ⟨⟩; exact .inr ⟨rfl, h1, hem, h4, h5⟩) rfl) rfl
    exact hI'.setRcv hx nofun
  | giveUp r =>
    obtain ⟨x, hx, rfl⟩ := hs
    exact hI.setRcv hx nofun
  | drain a | connClose a => obtain ⟨k, rfl⟩ := hs; exact hI.setConn a k
  | kaCas => obtain rfl := Option.some.inj h; exact { hI with }
  | kaAdd =>
    obtain rfl := Option.some.inj h
    exact { hI with ident := fun i c hc hid => (hI.ident i c hc hid).imp_right issued_add_mono }
  | kaTake p =>
    obtain ⟨hp, rfl⟩ := hs
    refine { hI with ql := fun q => ?_, kaProxy := fun q hq => ?_, callProxy := fun i c hc => ?_ }
    · simp only [qGet_qAdd hp, List.count_cons, hI.ql q, Consts.callQueueLenInc]
      by_cases hq : p = q <;> simp [hq] <;> omega
    · rw [qAdd_length]
      rcases List.mem_cons.mp hq with rfl | hq'
      · exact hp
      · exact hI.kaProxy q hq'
    · rw [qAdd_length]; exact hI.callProxy i c hc
  | kaRelease p =>
    obtain ⟨hm, rfl⟩ := hs
    have hp := hI.kaProxy p hm
    refine { hI with ql := fun q => ?_, kaProxy := fun q hq => ?_, callProxy := fun i c hc => ?_ }
    · simp only [qGet_qAdd hp, List.count_erase, hI.ql q, Consts.callQueueLenInc]
      by_cases hq : p = q
      · subst hq
        have := List.count_pos_iff.mpr hm
        simp; omega
      · simp [hq]
    · rw [qAdd_length]
      exact hI.kaProxy q (List.mem_of_mem_erase hq)
    · rw [qAdd_length]; exact hI.callProxy i c hc

theorem inv_reachable {cfg : Cfg} {ctr : Int} {s : State} (h : Reachable cfg ctr s) : Inv s := by
  induction h with
  | init => exact inv_init cfg ctr
  | step a _ hs ih => exact inv_step ih hs

theorem genInv_reachable {cfg : Cfg} {ctr : Int} {s : State} (hr : InRange ctr) (h : Reachable cfg ctr s) :
    GenInv s.gen := by
  induction h with
  | init => exact genInv_start hr
  | @step s s' a _ hs ih =>
    have hg : s'.gen = s.gen ∨ s'.gen = s.gen.cas ∨ s'.gen = s.gen.add := by
      cases a with
      | call i ca =>
        obtain ⟨c, hc, h⟩ := StepSpec.of_step hs
        obtain ⟨c', hsum, _⟩ := callStep_summary hc h
        exact hsum.gen.imp (·.1) (·.imp (·.1) (·.1))
      | _ => exact step_gen hs
    rcases hg with hg | hg | hg <;> rw [hg]
    · exact ih
    · exact genInv_cas ih
    · exact genInv_add ih

end Tars.Route
