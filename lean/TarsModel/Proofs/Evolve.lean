import TarsModel.Proofs.Skip
import TarsModel.Proofs.MemberRead

/-! Schema evolution (C04): unknown fields in front of / between / behind the known members of a
    generated `ReadFrom`.  A message is a list of `Slot`s (the bytes of each known member) with unknown
    fields in the gaps (`merged`); two runs are compared through `Alike`. -/
namespace Tars
namespace Evolve
open Consts WFField Skip

/-! ### what may follow a member: nothing, a StructEnd head, or a head with a higher tag -/

def After (lo : Nat) (t : Bytes) : Prop :=
  t = [] ∨ ∃ ty tag t', ty < 16 ∧ tag < 256 ∧ (ty = tyStructEnd ∨ lo < tag) ∧ t = writeHead ty tag ++ t'

/-- `After` is the name the statements of C04 have for the wire level's `NextTagGt` -/
theorem After.nextTagGt {lo : Nat} {t : Bytes} (h : After lo t) : NextTagGt lo t := h

/-- what follows a struct body in every generated context: the end of the buffer (`ReadFrom` on a
    top-level buffer) or a StructEnd head (`WriteBlock` writes it with tag 0) -/
def Terminated (t : Bytes) : Prop :=
  t = [] ∨ ∃ tg t', tg < 256 ∧ t = writeHead tyStructEnd tg ++ t'

theorem Terminated.after {t : Bytes} (h : Terminated t) (lo : Nat) : After lo t := by
  rcases h with h | ⟨tg, t', htg, h⟩
  · exact .inl h
  · exact .inr ⟨tyStructEnd, tg, t', by decide, htg, .inl rfl, h⟩

/-! ### results that agree in outcome, and in the reader when the outcome is a success -/

def ResEq {α : Type} (a b : Res α) : Prop := a.1 = b.1 ∧ ∀ v, a.1 = .ok v → a.2 = b.2

theorem ResEq.refl {α : Type} (a : Res α) : ResEq a a := ⟨rfl, fun _ _ => rfl⟩
theorem ResEq.trans {α : Type} {a b c : Res α} (h1 : ResEq a b) (h2 : ResEq b c) : ResEq a c :=
  ⟨h1.1.trans h2.1, fun v hv => (h1.2 v hv).trans (h2.2 v (h1.1 ▸ hv))⟩
theorem ResEq.err {α : Type} (e : Err) (r r' : Reader) :
    ResEq ((.error e, r) : Res α) (.error e, r') := ⟨rfl, fun _ h => by cases h⟩

/-- two runs end alike: the same outcome, and when it is a success the readers stand in front of
    `t` and `t'`.  (`Slot.SelfDelimiting` and the C04 statements about unknown members in
    Props/C04.lean spell this conjunction out.) -/
def Alike {α : Type} (a b : Res α) (t t' : Bytes) : Prop :=
  a.1 = b.1 ∧ ∀ v, a.1 = .ok v → a.2.rest = t ∧ b.2.rest = t'

theorem ResEq.alike {α : Type} {a a' b : Res α} {t t' : Bytes} (h : ResEq a a') (h' : Alike a' b t t') :
    Alike a b t t' :=
  ⟨h.1.trans h'.1, fun v hv => by rw [h.2 v hv]; exact h'.2 v (h.1 ▸ hv)⟩

theorem Alike.err {α : Type} (e : Err) (r r' : Reader) (t t' : Bytes) :
    Alike ((.error e, r) : Res α) (.error e, r') t t' := ⟨rfl, nofun⟩

theorem Alike.ok {α : Type} (v : α) {r r' : Reader} {t t' : Bytes} (h : r.rest = t) (h' : r'.rest = t') :
    Alike ((.ok v, r) : Res α) (.ok v, r') t t' := ⟨rfl, fun _ _ => ⟨h, h'⟩⟩

/-- the two-run counterpart of `Sat.elim`: how a proof follows two runs through one
    `match m r with | (.error e, r') => … | (.ok a, r1) => …` -/
@[elab_as_elim] theorem Alike.elim {α : Type} {a b : Res α} {t t' : Bytes}
    {motive : Res α → Res α → Prop} (h : Alike a b t t')
    (err : ∀ e r r', motive (.error e, r) (.error e, r'))
    (ok : ∀ v r1 r1', r1.rest = t → r1'.rest = t' → motive (.ok v, r1) (.ok v, r1')) :
    motive a b := by
  obtain ⟨_ | v, r1⟩ := a <;> obtain ⟨_ | v', r1'⟩ := b <;> obtain ⟨h1, h2⟩ := h <;> cases h1
  · exact err _ _ _
  · exact ok _ _ _ (h2 v rfl).1 (h2 v rfl).2

/-! ### unknown fields in front of one member -/

theorem decVar_congr (env : Env) (fuel tag : Nat) (req : Bool) (ty : Ty) (old : Val) (r r' : Reader)
    (hp : skipToNoCheck tag req r = skipToNoCheck tag req r') :
    ResEq (decVar env fuel tag req ty old r) (decVar env fuel tag req ty old r') := by
  cases fuel with
  | zero => unfold decVar; exact ResEq.err _ _ _
  | succ F =>
    rcases decVar_readWith_or_ill env F ty old tag req with h | ⟨_, h⟩
    · rw [h]; unfold readWith; rw [hp]; exact ResEq.refl _
    · rw [h r, h r']; exact ResEq.err _ _ _

theorem decVar_passes (env : Env) (fuel tag : Nat) (req : Bool) (ty : Ty) (old : Val) (r : Reader)
    (xs : List WFField) (hx : ∀ x ∈ xs, x.wf = true ∧ x.tag < tag) (t : Bytes)
    (h : r.rest = renderList xs ++ t) :
    ResEq (decVar env fuel tag req ty old r)
      (decVar env fuel tag req ty old (r.adv (renderList xs).length)) :=
  decVar_congr env fuel tag req ty old r _ (skipToNoCheck_passes_list tag xs hx req r t h)

/-! ### a message as a sequence of member slots with unknown fields in between -/

/-- one known member of the reader's schema, the previous value of its target, and the bytes the
    message holds for it (`[]` when the writer left it out) -/
structure Slot where
  f : Field
  old : Val
  enc : Bytes

def Slot.HeadOk (s : Slot) : Prop :=
  s.enc = [] ∨ ∃ ty rest, ty < 16 ∧ s.enc = writeHead ty s.f.tag ++ rest

/-- the member's generated read is self-delimiting on its bytes: outcome and bytes consumed do not
    depend on what follows or on the fuel.
    This is what a round-trip theorem (C03) gives for the encoding of a value, what
    `decVar_absent_opt` / `decVar_missing_req` give for an absent member, and it equally covers
    members whose decoding fails (wrong wire type, bad length): the failure must not depend on
    what follows. -/
def Slot.SelfDelimiting (env : Env) (N : Nat) (s : Slot) : Prop :=
  ∀ fuel fuel', N ≤ fuel → N ≤ fuel' → ∀ (r r' : Reader) (t t' : Bytes),
    r.rest = s.enc ++ t → r'.rest = s.enc ++ t' → After s.f.tag t → After s.f.tag t' →
    (decVar env fuel s.f.tag s.f.req s.f.ty s.old r).1
      = (decVar env fuel' s.f.tag s.f.req s.f.ty s.old r').1 ∧
    ∀ v, (decVar env fuel s.f.tag s.f.req s.f.ty s.old r).1 = .ok v →
      (decVar env fuel s.f.tag s.f.req s.f.ty s.old r).2.rest = t ∧
      (decVar env fuel' s.f.tag s.f.req s.f.ty s.old r').2.rest = t'

theorem Slot.SelfDelimiting.alike {env : Env} {N : Nat} {s : Slot} (h : s.SelfDelimiting env N)
    {fuel fuel' : Nat} (hf : N ≤ fuel) (hf' : N ≤ fuel') {r r' : Reader} {t t' : Bytes}
    (hr : r.rest = s.enc ++ t) (hr' : r'.rest = s.enc ++ t') (ha : After s.f.tag t)
    (ha' : After s.f.tag t') :
    Alike (decVar env fuel s.f.tag s.f.req s.f.ty s.old r)
      (decVar env fuel' s.f.tag s.f.req s.f.ty s.old r') t t' :=
  h fuel fuel' hf hf' r r' t t' hr hr' ha ha'

/-- how `SelfDelimiting` is shown: from a fact about ONE run -/
theorem Slot.SelfDelimiting.of_run {env : Env} {N : Nat} {s : Slot} (out : Except Err Val)
    (h : ∀ fuel, N ≤ fuel → ∀ (r : Reader) (t : Bytes), r.rest = s.enc ++ t → After s.f.tag t →
      ∃ r1, decVar env fuel s.f.tag s.f.req s.f.ty s.old r = (out, r1) ∧ ∀ v, out = .ok v → r1.rest = t) :
    s.SelfDelimiting env N := by
  intro fuel fuel' hf hf' r r' t t' hr hr' ha ha'
  obtain ⟨r1, e1, h1⟩ := h fuel hf r t hr ha
  obtain ⟨r1', e2, h2⟩ := h fuel' hf' r' t' hr' ha'
  rw [e1, e2]
  exact ⟨rfl, fun v hv => ⟨h1 v hv, h2 v hv⟩⟩

/-- the message without unknown fields -/
def plain : List Slot → Bytes
  | [] => []
  | s :: ss => s.enc ++ plain ss

/-- the message with unknown fields `xs` in front of each slot and `tail` behind the last one -/
def merged : List (List WFField × Slot) → List WFField → Bytes
  | [], tail => renderList tail
  | (xs, s) :: rest, tail => renderList xs ++ s.enc ++ merged rest tail

/-- admissible positions in the ascending tag order: the schema's tags ascend strictly and are
    bytes; the unknown fields in front of a member are well formed and their tags lie strictly
    between the previous member's tag and this member's tag (all tags `≥ lo` at the front); the
    trailing ones lie above the last member's tag.  The unknown fields need not be sorted among
    themselves and may repeat a tag. -/
def Admissible : Nat → List (List WFField × Slot) → List WFField → Prop
  | lo, [], tail => ∀ x ∈ tail, x.wf = true ∧ lo ≤ x.tag
  | lo, (xs, s) :: rest, tail =>
    (∀ x ∈ xs, x.wf = true ∧ lo ≤ x.tag ∧ x.tag < s.f.tag) ∧ lo ≤ s.f.tag ∧ s.f.tag < 256 ∧
    Admissible (s.f.tag + 1) rest tail

theorem after_render (lo : Nat) (x : WFField) (hx : x.wf = true) (hlo : lo < x.tag) (t : Bytes) :
    After lo (render x ++ t) :=
  .inr ⟨x.ty, x.tag, body x ++ t, ty_lt x, tag_lt x hx, .inr hlo, by simp [render]⟩

theorem after_merged (items : List (List WFField × Slot)) (tail : List WFField) (lo lo' : Nat)
    (hadm : Admissible lo items tail) (hh : ∀ p ∈ items, p.2.HeadOk) (t : Bytes)
    (ht : Terminated t) (hlo : lo' < lo) : After lo' (merged items tail ++ t) := by
  induction items generalizing lo lo' with
  | nil =>
    cases tail with
    | nil => simpa [merged, renderList] using ht.after lo'
    | cons x tail =>
      have hx := hadm x (by simp)
      simp only [merged, renderList_cons, List.append_assoc]
      exact after_render lo' x hx.1 (by omega) _
  | cons p rest ih =>
    obtain ⟨xs, s⟩ := p
    obtain ⟨hxs, hs, _, hrest⟩ := hadm
    cases xs with
    | cons x xs =>
      have hx := hxs x (by simp)
      simp only [merged, renderList_cons, List.append_assoc]
      exact after_render lo' x hx.1 (by omega) _
    | nil =>
      have hs' : s.HeadOk := hh ([], s) (by simp)
      simp only [merged, renderList, List.nil_append, List.append_assoc]
      rcases hs' with he | (hd : HeadAt s.f.tag s.enc)
      · rw [he, List.nil_append]
        exact ih (s.f.tag + 1) lo' hrest (fun p hp => hh p (by simp [hp])) (by omega)
      · exact hd.nextTagGt (show lo' < s.f.tag by omega) ‹_› _

def strip (items : List (List WFField × Slot)) : List (List WFField × Slot) :=
  items.map fun p => ([], p.2)

theorem merged_strip (items : List (List WFField × Slot)) :
    merged (strip items) [] = plain (items.map (·.2)) := by
  induction items with
  | nil => simp [strip, merged, plain, renderList]
  | cons p rest ih =>
    simp only [strip, List.map_cons, merged, plain, renderList, List.nil_append] at ih ⊢
    rw [ih]

theorem merged_length_ge (items : List (List WFField × Slot)) (tail : List WFField) :
    (merged (strip items) []).length ≤ (merged items tail).length := by
  induction items with
  | nil => simp [strip, merged, renderList]
  | cons p rest ih =>
    obtain ⟨xs, s⟩ := p
    simp only [strip, List.map_cons, merged, renderList, List.nil_append, List.length_append] at ih ⊢
    omega

theorem admissible_strip (items : List (List WFField × Slot)) (tail : List WFField) (lo : Nat)
    (h : Admissible lo items tail) : Admissible lo (strip items) [] := by
  induction items generalizing lo with
  | nil => simp [strip, Admissible]
  | cons p rest ih =>
    obtain ⟨xs, s⟩ := p
    obtain ⟨_, h2, h3, h4⟩ := h
    have := ih _ h4
    simp only [strip, List.map_cons, Admissible] at this ⊢
    exact ⟨fun x hx => absurd hx (by simp), h2, h3, this⟩

/-! ### `ReadFrom`'s member sequence -/

theorem Alike.decMembers_cons {env : Env} {F F' : Nat} {f : Field} {fs : List Field} {o : Val}
    {os : List Val} {r r' : Reader} {u u' w w' : Bytes}
    (hd : Alike (decVar env F f.tag f.req f.ty o r) (decVar env F' f.tag f.req f.ty o r') u u')
    (hrest : ∀ r1 r1', r1.rest = u → r1'.rest = u' →
      Alike (decMembers env F fs os r1) (decMembers env F' fs os r1') w w') :
    Alike (decMembers env (F+1) (f :: fs) (o :: os) r) (decMembers env (F'+1) (f :: fs) (o :: os) r')
      w w' := by
  rw [Tars.decMembers_cons, Tars.decMembers_cons]
  refine hd.elim (fun _ _ _ => .err ..) fun v r1 r1' h1 h1' => ?_
  dsimp only
  exact (hrest r1 r1' h1 h1').elim (fun _ _ _ => .err ..) fun _ _ _ h2 h2' => .ok _ h2 h2'

def fieldsOf (items : List (List WFField × Slot)) : List Field := items.map (·.2.f)
def oldsOf (items : List (List WFField × Slot)) : List Val := items.map (·.2.old)

/-- **unknown fields are ignored** (member-sequence level): the generated member reads give the same
    outcome (values or error) on the message with the unknown fields as on the message without
    them; on success the reader with the unknown fields stands in front of the trailing unknown
    fields, the other one at the terminator. -/
theorem decMembers_unknown_ignored (env : Env) (N : Nat) (items : List (List WFField × Slot)) :
    ∀ (tail : List WFField) (lo : Nat), Admissible lo items tail →
    (∀ p ∈ items, p.2.HeadOk ∧ p.2.SelfDelimiting env N) →
    ∀ (t t' : Bytes), Terminated t → Terminated t' →
    ∀ (fuel fuel' : Nat), N + items.length < fuel → N + items.length < fuel' →
    ∀ (r r' : Reader), r.rest = merged items tail ++ t → r'.rest = merged (strip items) [] ++ t' →
      Alike (decMembers env fuel (fieldsOf items) (oldsOf items) r)
        (decMembers env fuel' (fieldsOf items) (oldsOf items) r') (renderList tail ++ t) t' := by
  induction items with
  | nil =>
    intro tail lo _ _ t t' _ _ fuel fuel' hf hf' r r' h h'
    obtain ⟨F, rfl⟩ := Nat.exists_eq_add_one.mpr (show 0 < fuel by omega)
    obtain ⟨F', rfl⟩ := Nat.exists_eq_add_one.mpr (show 0 < fuel' by omega)
    simp only [fieldsOf, oldsOf, List.map_nil, decMembers_nil]
    exact .ok _ (by simpa [merged] using h) (by simpa [strip, merged, renderList] using h')
  | cons p rest ih =>
    obtain ⟨xs, s⟩ := p
    intro tail lo hadm hsl t t' ht ht' fuel fuel' hf hf' r r' h h'
    obtain ⟨F, rfl⟩ := Nat.exists_eq_add_one.mpr (show 0 < fuel by omega)
    obtain ⟨F', rfl⟩ := Nat.exists_eq_add_one.mpr (show 0 < fuel' by omega)
    simp only [List.length_cons] at hf hf'
    obtain ⟨hxs, hlo, htag, hrest⟩ := hadm
    obtain ⟨hhead, hsd⟩ := hsl (xs, s) (by simp)
    have hsl' : ∀ p ∈ rest, p.2.HeadOk ∧ p.2.SelfDelimiting env N := fun p hp => hsl p (by simp [hp])
    have h0 : r.rest = renderList xs ++ (s.enc ++ (merged rest tail ++ t)) := by
      simpa [merged] using h
    have h0' : r'.rest = s.enc ++ (merged (strip rest) [] ++ t') := by
      simpa [strip, merged, renderList] using h'
    have haft : After s.f.tag (merged rest tail ++ t) :=
      after_merged rest tail (s.f.tag + 1) s.f.tag hrest (fun p hp => (hsl' p hp).1) t ht (by omega)
    have haft' : After s.f.tag (merged (strip rest) [] ++ t') := by
      refine after_merged (strip rest) [] (s.f.tag + 1) s.f.tag (admissible_strip rest tail _ hrest)
        ?_ t' ht' (by omega)
      intro p hp
      simp only [strip, List.mem_map] at hp
      obtain ⟨q, hq, rfl⟩ := hp
      exact (hsl' q hq).1
    -- the unknown fields in front of the member are passed over; behind them the member's read is
    -- self-delimiting; the rest of the members follow by induction from wherever it ends
    exact Alike.decMembers_cons
      ((decVar_passes env F s.f.tag s.f.req s.f.ty s.old r xs
          (fun x hx => ⟨(hxs x hx).1, (hxs x hx).2.2⟩) _ h0).alike
        (hsd.alike (by omega) (by omega) (r.rest_adv h0) h0' haft haft'))
      (fun r1 r1' h1 h1' =>
        ih tail (s.f.tag + 1) hrest hsl' t t' ht ht' F F' (by omega) (by omega) r1 r1' h1 h1')

/-! ### the trailing unknown fields -/

theorem merged_tail (items : List (List WFField × Slot)) (tail : List WFField) :
    merged items tail = merged items [] ++ renderList tail := by
  induction items with
  | nil => simp [merged, renderList]
  | cons p rest ih =>
    obtain ⟨xs, s⟩ := p
    simp only [merged, List.append_assoc]
    rw [ih]

theorem admissible_tail (items : List (List WFField × Slot)) (tail : List WFField) (lo : Nat)
    (h : Admissible lo items tail) : ∀ x ∈ tail, x.wf = true := by
  induction items generalizing lo with
  | nil => exact fun x hx => (h x hx).1
  | cons p rest ih => exact ih _ h.2.2.2

/-! ### the slots of an encoded value -/

def encSlots (env : Env) : List Field → List Val → List Val → List Slot
  | f :: fs, o :: os, v :: vs => ⟨f, o, encVar env f.tag f.req f.ty f.dflt v⟩ :: encSlots env fs os vs
  | _, _, _ => []

theorem zip_encSlots (env : Env) (fs : List Field) (os vs : List Val) (gaps : List (List WFField))
    (h1 : os.length = fs.length) (h2 : vs.length = fs.length) (hg : gaps.length = fs.length) :
    fieldsOf (gaps.zip (encSlots env fs os vs)) = fs ∧ oldsOf (gaps.zip (encSlots env fs os vs)) = os ∧
    merged (strip (gaps.zip (encSlots env fs os vs))) [] = encMembers env fs vs ∧
    (gaps.zip (encSlots env fs os vs)).length = fs.length := by
  induction fs generalizing os vs gaps with
  | nil =>
    cases os <;> cases vs <;> cases gaps <;> simp at h1 h2 hg
    simp [encSlots, fieldsOf, oldsOf, strip, merged, renderList, encMembers]
  | cons f fs ih =>
    match os, vs, gaps, h1, h2, hg with
    | o :: os, v :: vs, g :: gaps, h1, h2, hg =>
      obtain ⟨hf, ho, hp, hl⟩ := ih os vs gaps (by simpa using h1) (by simpa using h2) (by simpa using hg)
      simp only [fieldsOf, oldsOf, strip] at hf ho hp
      simp only [encSlots, List.zip_cons_cons, fieldsOf, oldsOf, strip, List.map_cons, merged, renderList,
        List.nil_append, encMembers, List.length_cons, hf, ho, hp, hl, and_self]

end Evolve
end Tars
