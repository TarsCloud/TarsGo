import TarsModel.Proofs.Wire

/-!
  Wire level, no schema: how the primitive reader operations move the read position, the
  vocabulary for saying so (`Reader.Le`, `Sat`, `Step`) and for the errors Go returns as values
  (`PlainRes`; `Fwd`: never backwards, only such errors).

  * the input (`data`) is never changed;
  * the position never moves backwards, except by `unreadHead`, which gives back at most what the
    preceding `readHead` consumed;
  * a successful `readHead`/`readByte`/`bReadU` consumed at least one byte that exists
    (`pos' ≤ data.size`) — this is what makes the unbounded Go recursion terminate
    (`readLen`: `Proofs/WireSkip.lean`).
-/
namespace Tars
open Consts

def Reader.Le (r r' : Reader) : Prop := r'.data = r.data ∧ r.pos ≤ r'.pos

theorem Reader.Le.refl (r : Reader) : r.Le r := ⟨rfl, Nat.le_refl _⟩
theorem Reader.Le.trans {a b c : Reader} (h1 : a.Le b) (h2 : b.Le c) : a.Le c :=
  ⟨h2.1.trans h1.1, Nat.le_trans h1.2 h2.2⟩

theorem Reader.Le.remaining {r r' : Reader} (h : r.Le r') : r'.remaining ≤ r.remaining := by
  unfold Reader.remaining; rw [h.1]; have := h.2; omega

def Reader.Lt (r r' : Reader) : Prop :=
  r'.data = r.data ∧ r.pos + 1 ≤ r'.pos ∧ r'.pos ≤ r'.data.size

theorem Reader.Lt.le {r r' : Reader} (h : r.Lt r') : r.Le r' := ⟨h.1, by have := h.2.1; omega⟩
theorem Reader.Lt.remaining {r r' : Reader} (h : r.Lt r') : r'.remaining + 1 ≤ r.remaining := by
  unfold Reader.remaining; rw [h.1]; have := h.2.1; have := h.2.2; rw [h.1] at this; omega
theorem Reader.Le.trans_lt {a b c : Reader} (h1 : a.Le b) (h2 : b.Lt c) : a.Lt c :=
  ⟨h2.1.trans h1.1, by have := h1.2; have := h2.2.1; omega, h2.2.2⟩
theorem Reader.Lt.trans {a b c : Reader} (h1 : a.Lt b) (h2 : b.Lt c) : a.Lt c :=
  h1.le.trans_lt h2

/-! ### outcomes -/

def Sat {α : Type} (x : Res α) (Q : α → Reader → Prop) (E : Err → Reader → Prop) : Prop :=
  match x with
  | (.ok a, r') => Q a r'
  | (.error e, r') => E e r'

/-- how a proof follows a decoder through one
    `match m r with | (.error e, r') => … | (.ok a, r1) => …` -/
@[elab_as_elim] theorem Sat.elim {α : Type} {Q : α → Reader → Prop} {E : Err → Reader → Prop}
    {motive : Res α → Prop} {x : Res α} (h : Sat x Q E)
    (err : ∀ e r', E e r' → motive (.error e, r')) (ok : ∀ a r', Q a r' → motive (.ok a, r')) :
    motive x := by
  obtain ⟨_ | _, _⟩ := x
  · exact err _ _ h
  · exact ok _ _ h

/-- a conditional, branch by branch (first-order, unlike `split` it does not rebuild the goal) -/
theorem Sat.ite {α : Type} {Q : α → Reader → Prop} {E : Err → Reader → Prop} {c : Prop} [Decidable c]
    {x y : Res α} (hx : c → Sat x Q E) (hy : ¬ c → Sat y Q E) : Sat (if c then x else y) Q E := by
  split
  · exact hx ‹_›
  · exact hy ‹_›

theorem Sat.mono {α : Type} {Q Q' : α → Reader → Prop} {E E' : Err → Reader → Prop} {x : Res α}
    (h : Sat x Q E) (hQ : ∀ a r', Q a r' → Q' a r') (hE : ∀ e r', E e r' → E' e r') : Sat x Q' E' :=
  h.elim (fun _ _ => hE _ _) (fun _ _ => hQ _ _)

theorem Sat.mapRes {α β : Type} {Q : Reader → Prop} {E : Err → Reader → Prop} {x : Res α} (f : α → β)
    (h : Sat x (fun _ => Q) E) : Sat (mapRes f x) (fun _ => Q) E := by
  obtain ⟨_ | _, _⟩ := x <;> exact h

theorem Sat.ok {α : Type} {Q : α → Reader → Prop} {E : Err → Reader → Prop} {x : Res α} {a : α}
    {r' : Reader} (h : Sat x Q E) (hx : x = (.ok a, r')) : Q a r' := by subst hx; exact h

theorem Sat.err {α : Type} {Q : α → Reader → Prop} {E : Err → Reader → Prop} {x : Res α} {e : Err}
    {r' : Reader} (h : Sat x Q E) (hx : x = (.error e, r')) : E e r' := by subst hx; exact h

def Step {α : Type} (r : Reader) (x : Res α) : Prop :=
  Sat x (fun _ r' => r.Lt r') (fun e r' => r.Le r' ∧ e = .eof)

/-! ### plain errors -/

/-- the errors the Go code returns as `error` values (neither the model artefact `.fuel` nor a
    run-time panic) -/
@[simp] def Err.isPlain : Err → Bool
  | .eof | .require | .mismatch | .invalid | .slhead => true
  | .fuel | .panic _ => false

def PlainRes {α : Type} (x : Except Err α) : Prop := ∀ e, x = .error e → e.isPlain = true

@[simp] theorem plainRes_ok {α : Type} (a : α) : PlainRes (Except.ok a : Except Err α) := by
  intro e h; cases h
@[simp] theorem plainRes_error {α : Type} (e : Err) :
    PlainRes (Except.error e : Except Err α) ↔ e.isPlain = true := by
  constructor
  · intro h; exact h e rfl
  · intro h e' he; cases he; exact h

theorem PlainRes.ne_fuel {α : Type} {x : Except Err α} (h : PlainRes x) : x ≠ .error .fuel := by
  intro hx; have := h _ hx; simp at this
theorem PlainRes.ne_panic {α : Type} {x : Except Err α} (h : PlainRes x) (s : String) :
    x ≠ .error (.panic s) := by
  intro hx; have := h _ hx; simp at this

def PlainAt (r : Reader) (e : Err) (r' : Reader) : Prop := r.Le r' ∧ e.isPlain = true

abbrev Fwd {α : Type} (r : Reader) (x : Res α) : Prop := Sat x (fun _ r' => r.Le r') (PlainAt r)

theorem Step.fwd {α : Type} {r : Reader} {x : Res α} (h : Step r x) : Fwd r x :=
  h.mono (fun _ _ h => h.le) (fun _ _ h => ⟨h.1, by rw [h.2]; rfl⟩)

theorem Fwd.intro {α : Type} {r : Reader} {x : Res α} (h : r.Le x.2) (hp : PlainRes x.1) : Fwd r x := by
  obtain ⟨_ | _, _⟩ := x
  · exact ⟨h, hp _ rfl⟩
  · exact h

theorem Fwd.le {α : Type} {r : Reader} {x : Res α} (h : Fwd r x) : r.Le x.2 :=
  h.elim (fun _ _ h => h.1) (fun _ _ h => h)

theorem Sat.plain {α : Type} {r : Reader} {x : Res α} {Q : α → Reader → Prop}
    (h : Sat x Q (PlainAt r)) : PlainRes x.1 :=
  h.elim (fun _ _ h => (plainRes_error _).2 h.2) (fun _ _ _ => plainRes_ok _)

/-! ### the position after `adv` -/

theorem Reader.le_adv (r : Reader) (n : Nat) : r.Le (r.adv n) := ⟨rfl, Nat.le_add_right _ _⟩

theorem Reader.lt_adv {r : Reader} {n : Nat} (h0 : 0 < n) (h : n ≤ r.rest.length) :
    r.Lt (r.adv n) := by
  rw [r.rest_length] at h
  exact ⟨rfl, Nat.add_le_add_left h0 _, by simp only [Reader.adv_pos, Reader.adv_data]; omega⟩

/-! ### readByte / readHead -/

theorem readByte_step (r : Reader) : Step r (readByte r) := by
  rw [readByte_eq]
  cases h : r.rest with
  | nil => exact ⟨.refl _, rfl⟩
  | cons b t => exact r.lt_adv (by decide) (by rw [h]; exact Nat.le_add_left _ _)

theorem readByte_eof_of_ge {r : Reader} (h : r.data.size ≤ r.pos) : readByte r = (.error .eof, r) :=
  readByte_nil r (r.rest_eq_nil_iff.mpr h)

/-- the tag bound in the one-byte case: `unreadHead` then gives back one byte, never more than
    `readHead` took -/
theorem readHead_spec (r : Reader) : Sat (readHead r)
    (fun p r' => r.Lt r' ∧ ((r'.pos = r.pos + 1 ∧ p.2 < extTagUnread) ∨ r'.pos = r.pos + 2))
    (fun e r' => r.Le r' ∧ e = .eof) := by
  rw [readHead_eq]
  cases h : r.rest with
  | nil => exact ⟨.refl _, rfl⟩
  | cons d t =>
    dsimp only
    split
    · cases t with
      | nil => exact ⟨r.le_adv 1, rfl⟩
      | cons d2 t' => exact ⟨r.lt_adv (by decide) (by rw [h]; simp), .inr rfl⟩
    · rename_i hne
      refine ⟨r.lt_adv (by decide) (by rw [h]; simp), .inl ⟨rfl, ?_⟩⟩
      have := d.isLt
      simp only [extTagRead] at hne
      simp only [extTagUnread]
      omega

theorem readHead_step (r : Reader) : Step r (readHead r) :=
  (readHead_spec r).mono (fun _ _ h => h.1) (fun _ _ h => h)

/-! ### unreadByte / unreadHead -/

theorem unreadByte_spec (r : Reader) :
    (unreadByte r).2.data = r.data ∧ r.pos ≤ (unreadByte r).2.pos + 1 := by
  unfold unreadByte
  split
  · simp
  · refine ⟨rfl, ?_⟩; simp; omega

theorem unreadHead_spec (t : Nat) (r : Reader) :
    (unreadHead t r).2.data = r.data ∧
    r.pos ≤ (unreadHead t r).2.pos + (if t ≥ extTagUnread then 2 else 1) := by
  have e : unreadHead t r = (if t ≥ extTagUnread then unreadByte (unreadByte r).2
      else (.ok (), (unreadByte r).2)) := rfl
  rw [e]
  obtain ⟨a2, a4⟩ := unreadByte_spec r
  obtain ⟨b2, b4⟩ := unreadByte_spec (unreadByte r).2
  split
  · exact ⟨b2.trans a2, by omega⟩
  · exact ⟨a2, a4⟩

/-! ### readFull / bReadU / bReadU8 / next -/

theorem readFull_ok {n : Nat} {r r' : Reader} {buf : Bytes} (h : readFull n r = (.ok buf, r')) :
    (n = 0 ∧ buf = [] ∧ r' = r) ∨
    (r.pos + n ≤ r.data.size ∧ buf = takeFrom r.data r.pos n ∧ buf.length = n ∧
      r' = ⟨r.data, r.pos + n⟩) := by
  rw [readFull_eq] at h
  split at h
  · cases h; exact .inl ⟨‹_›, rfl, rfl⟩
  · split at h
    · cases h
    · cases h
      have hl := r.rest_length
      exact .inr ⟨by omega, (r.takeFrom_pos n).symm, by rw [List.length_take]; omega, rfl⟩

theorem readFull_err {n : Nat} {r r' : Reader} {e : Err} (h : readFull n r = (.error e, r')) :
    e = .eof ∧ r.remaining < n := by
  rw [readFull_eq] at h
  split at h
  · cases h
  · split at h
    · cases h; exact ⟨rfl, by rw [r.remaining_eq_rest]; assumption⟩
    · cases h

theorem bReadU_ok {n : Nat} {r r' : Reader} {v : Nat} (hn : 0 < n) (h : bReadU n r = (.ok v, r')) :
    r.pos + n ≤ r.data.size ∧ r' = ⟨r.data, r.pos + n⟩ ∧ v = beVal (takeFrom r.data r.pos n) ∧
    (takeFrom r.data r.pos n).length = n := by
  rw [bReadU_eq] at h
  obtain ⟨buf, h1, rfl⟩ := mapRes_ok h
  rcases readFull_ok h1 with ⟨h0, _, _⟩ | ⟨hle, rfl, hl, hr⟩
  · omega
  · exact ⟨hle, hr, rfl, hl⟩

theorem bReadU_err {n : Nat} {r r' : Reader} {e : Err} (h : bReadU n r = (.error e, r')) :
    e = .eof ∧ r.remaining < n := by
  rw [bReadU_eq] at h; exact readFull_err (mapRes_err h)

theorem bReadU_step {n : Nat} (hn : 0 < n) (r : Reader) : Step r (bReadU n r) := by
  rw [bReadU_eq, readFull_eq, if_neg (by omega)]
  split
  · exact ⟨r.le_adv _, rfl⟩
  · exact r.lt_adv hn (by omega)

theorem bReadU8_step (r : Reader) : Step r (bReadU8 r) :=
  bReadU8_eq_bReadU r ▸ bReadU_step (by decide) r

theorem next_le (n : Int) (r : Reader) : r.Le (next n r).2 := by
  rw [next_eq]; exact r.le_adv _

end Tars
