import TarsModel.Proofs.SchemaRTLoops

/-!
# The round trip, one kind of value at a time

Only members that are written are left to treat (`RTHeldAt.of_present`); their head is the next thing in
the input, so the generated read is the body of its wire-type switch behind that head
(`decVar_hit`, `memberBody`).
-/
namespace Tars
open Consts

/-! ## what `Held` says per kind of type -/

theorem Held.arr {env : Env} {req : Bool} {n : Nat} {e : Ty} {old : Val}
    (h : Held env req (.arr n e) none old) :
    ∃ os, old = .list os ∧ os.length = n ∧ ∀ o ∈ os, Held env true e none o := by
  rcases h with h | ⟨_, h⟩
  · obtain ⟨os, rfl, hn, hro⟩ := ready_arr h
    exact ⟨os, rfl, hn, fun o ho => .inl (hro.mem o ho)⟩
  · cases old <;> simp only [WT, ScalarOK] at h
    exact ⟨_, rfl, h.1, fun o ho => .inr ⟨rfl, WTs_mem h.2.2 o ho⟩⟩

theorem Held.struct {env : Env} {req : Bool} {S : String} {old : Val}
    (h : Held env req (.struct S) none old) : Ready env (.struct S) old := by
  rcases h with h | ⟨_, h⟩
  · exact h
  · exact WT.targetOK env old S h

/-! ## vectors and arrays -/

/-- every slice/array value round-trips if its elements do: `vector<T>` as LIST, `vector<byte>` as
    SimpleList, fixed arrays `T x[N]` always as LIST (`byte x[N]` is outside the supported
    language) -/
theorem list_step {env : Env} {rk : String → Nat} {f : Nat} (he : ElemsAt env rk f)
    (ha : ArrAt env rk f) (vs : List Val) : RTHeldAt env rk (f+1) (.list vs) := by
  refine RTHeldAt.of_present fun tag req ty dflt old r t htag hty hd hwt ho hom hfuel h => ?_
  simp only [needVar] at hfuel
  obtain ⟨e, hty', hlen, hwts⟩ := WT_list_inv hwt
  have hok := ho.targetOk hd
  have hnorm : normVar env req ty dflt (.list vs) = .list (normElems env e vs) := by
    rcases hty' with rfl | rfl <;> simp only [normVar]
  rw [encVar_list env tag req dflt hty', if_neg (Bool.eq_false_iff.mp hom)] at h ⊢
  rw [hnorm]
  by_cases c2 : e = .i8
  · -- SimpleList: a vector (an array of bytes is not `TyOK`)
    subst c2
    rcases hty' with rfl | rfl
    case inr => exact absurd rfl (by simp only [TyOK] at hty; exact hty.1)
    simp only [if_true, List.append_assoc] at h ⊢
    rw [decVar_hit env f _ old hok r tySimpleList tag req _ (by decide) (by decide) htag h,
      memberBody_vec]
    have hr1 := r.rest_adv h
    unfold vecBody
    simp +decide only [if_false, if_true]
    rw [skipTo_hit tyBYTE 0 true (by decide) (by decide) (by decide) _ _ hr1]
    have hr2 := Reader.rest_adv _ hr1
    simp only
    rw [readLen_reads hlen _ _ hr2]
    have hr3 := Reader.rest_adv _ hr2
    simp only
    have hb3 := int8Bytes_length vs
    rw [readSlice8_full _ _ hb3 _ t hr3]
    simp only [decide_true, bytesToVals_int8Bytes env vs hwts, normElems_atom env rfl vs hwts]
    simp [Reader.adv_adv, Nat.add_assoc, hb3]
  · simp only [c2, if_false, List.append_assoc] at h ⊢
    rw [decVar_hit env f _ old hok r tyLIST tag req _ (by decide) (by decide) htag h]
    have hr1 := r.rest_adv h
    have hr2 := Reader.rest_adv _ hr1
    rcases hty' with rfl | rfl <;> cases dflt_none_of_nonatom hd rfl <;> simp only [TyOK] at hty
    · rw [memberBody_vec]; unfold vecBody
      rw [if_pos rfl, readLen_reads hlen _ _ hr1]
      simp only
      rw [checkLength_within _ (encElems_length_ge env e vs hwts) hr2]
      simp only [Int.toNat_natCast]
      rw [he vs e [] _ t (by omega) hty hwts hr2]
      simp [Reader.adv_adv, Nat.add_assoc]
    · obtain ⟨os, rfl, hos, hro⟩ := ho.arr
      rw [memberBody_arr]; unfold arrBody
      rw [if_pos rfl, readLen_reads hlen _ _ hr1]
      simp only
      rw [if_neg (show ¬ ((vs.length : Int) > (vs.length : Int)) by omega)]
      have := ha vs e vs.length [] os _ t (by omega) hty.2.2 hwts (by simp) (by omega) hro hr2
      simp only [List.nil_append, List.length_nil] at this
      rw [show Total.oldList (Val.list os) = os from rfl, this]
      simp [Reader.adv_adv, Nat.add_assoc]

/-! ## maps -/

theorem map_step {env : Env} {rk : String → Nat} {f : Nat} (hp : PairsAt env rk f)
    (kvs : List (Val × Val)) : RTHeldAt env rk (f+1) (.map kvs) := by
  refine RTHeldAt.of_present fun tag req ty dflt old r t htag hty _ hwt _ hom hfuel h => ?_
  simp only [needVar] at hfuel
  obtain ⟨k, v, rfl, hwt⟩ := WT_map_inv hwt
  simp only [TyOK] at hty
  rw [encVar_map, if_neg (Bool.eq_false_iff.mp hom)] at h ⊢
  simp only [normVar, List.append_assoc] at h ⊢
  rw [decVar_hit env f _ old rfl r tyMAP tag req _ (by decide) (by decide) htag h, memberBody_map]
  have hr1 := r.rest_adv h
  have hr2 := Reader.rest_adv _ hr1
  unfold mapBody
  rw [if_neg (fun c => c rfl), readLen_reads hwt.1 _ _ hr1]
  simp only
  rw [checkLength_within _ (encPairs_length_ge env k v kvs hwt.2.2) hr2]
  simp only
  rw [hp kvs k v [] _ t (by omega) hty.1 hty.2 hwt.2.2 hwt.2.1 (by intro p hp; cases hp) hr2]
  simp [Reader.adv_adv, Nat.add_assoc]

/-! ## nested structs -/

/-- `WriteBlock` / `ReadBlock` of a nested struct at any tag; nothing is asked of the bytes `t`
    that follow (a struct is always written, also as an optional member) -/
theorem struct_step {env : Env} {rk : String → Nat} (hE : EnvWF env rk) {F : Nat}
    (hm : MembersAt env rk F) (vs : List Val) : RTHeldAt env rk (F+1) (.struct vs) := by
  intro tag req ty dflt old r t htag _ hd hwt ho _ hfuel h
  obtain ⟨name, fs, rfl, hfs, hwt⟩ := WT_struct_inv hwt
  cases dflt_none_of_nonatom hd rfl
  simp only [needVar] at hfuel
  have hpos := needElems_pos vs
  obtain ⟨f, rfl⟩ : ∃ f, F = f + 1 := ⟨F - 1, by omega⟩
  obtain ⟨os, rfl, hos⟩ := ready_struct hfs ho.struct
  have hmo := hE.memberOK hfs
  rw [encVar] at h ⊢
  simp only [hfs, normVar, List.append_assoc] at h ⊢
  rw [decVar_hit env (f+1) _ _ (Evolve.targetOk_struct hfs os) r tyStructBegin tag req _ (by decide)
    (by decide) htag h, memberBody_struct (f+1) os hfs]
  have hr1 := r.rest_adv h
  unfold blockBody
  rw [if_neg (fun c => c rfl)]
  have hold := resetDefault_twice_oldOK hE f fs os hmo hos
  rw [hm vs fs _ _ (writeHead tyStructEnd 0 ++ t) (by omega) hmo (hE.tagsAsc hfs) hwt hold
    (Or.inr ⟨0, t, by decide, rfl⟩) hr1]
  have hr2 := Reader.rest_adv _ hr1
  simp only
  rw [skipToStructEnd_end _ t hr2]
  simp [Reader.adv_adv, Nat.add_assoc]

theorem rtAt_all {env : Env} {rk : String → Nat} (hE : EnvWF env rk) : ∀ F, RTAt env rk F
  | 0 => by
    -- every call costs a unit of fuel: nothing needs none
    refine ⟨fun v => ?_, fun vs => ?_, fun vs => ?_, fun kvs => ?_, fun vs => ?_⟩
    · unfold RTHeldAt; intros; have := needVar_pos v; omega
    · intros; have := needElems_pos vs; omega
    · intros; have := needElems_pos vs; omega
    · intros; have := needPairs_pos kvs; omega
    · intros; have := needElems_pos vs; omega
  | F+1 => by
    have ih := rtAt_all hE F
    refine ⟨fun v => ?_, elems_step hE ih.var ih.elems, arr_step ih.var ih.arr,
      pairs_step hE ih.var ih.pairs, members_step ih.var ih.members⟩
    cases v with
    | list vs => exact list_step ih.elems ih.arr vs
    | map kvs => exact map_step ih.pairs kvs
    | struct vs => exact struct_step hE ih.members vs
    | _ => exact leaf_step env rk F _ rfl

theorem rtHeldAt_all (env : Env) (rk : String → Nat) (hE : EnvWF env rk) (v : Val) (F : Nat) :
    RTHeldAt env rk F v :=
  (rtAt_all hE F).var v

theorem rt_all (env : Env) (rk : String → Nat) (hE : EnvWF env rk) : ∀ v, RT env rk v :=
  fun v => RTHeldAt.rt (rtHeldAt_all env rk hE v)

end Tars
