/-
  Progress lemmas of the tars2go parser model: every parser function that succeeds has consumed
  input (strictly, where the Go code relies on it), and no progress check fails in the repaired
  variant, i.e. the outcome `Res.hang` is impossible.  Both are said with `Res.Post E P` (never `hang`,
  `P` of a result, `E` if a diagnostic), whose rules `Proofs/IdlSem` and `Proofs/IdlAccept` use as well.
-/
import TarsModel.Model.Idl

namespace Tars.Idl

theorem PS.size_mk (tk : Tok) (ts : List Tok) :
    (PS.mk tk ts).size = 2 * ts.length + (if tk = .eof then 0 else 1) := rfl
theorem PS.size_bounds (tk : Tok) (ts : List Tok) :
    2 * ts.length ≤ (PS.mk tk ts).size ∧ (PS.mk tk ts).size ≤ 2 * ts.length + 1 := by
  rw [PS.size_mk]; split <;> omega
theorem next_nil (tk : Tok) : (PS.mk tk []).next = .ok ⟨.eof, []⟩ := rfl
theorem next_cons (tk t : Tok) (r : List Tok) :
    (PS.mk tk (t :: r)).next = if t = .bad then .diag "lex" else .ok ⟨t, r⟩ := rfl

theorem next_cases (s s' : PS) (h : s.next = .ok s') :
    s'.size < s.size ∨ (s.tk = .eof ∧ s.ts = [] ∧ s' = s) := by
  obtain ⟨tk, ts⟩ := s
  cases ts with
  | nil =>
    rw [next_nil] at h
    cases h
    by_cases hk : tk = .eof
    · right; subst hk; exact ⟨rfl, rfl, rfl⟩
    · left; simp [PS.size, hk]
  | cons t r =>
    rw [next_cons] at h
    split at h
    · cases h
    · cases h
      left
      have h1 := PS.size_bounds t r
      have h2 := PS.size_bounds tk (t :: r)
      rw [List.length_cons] at h2
      omega

/-- `r` is not `hang`; if it is `ok a` then `P a`; if it is a diagnostic or `unsupported` then `E`.
`E := True` is "never hangs", `E := False` is "succeeds". -/
def Res.Post {α : Type} (E : Prop) (P : α → Prop) : Res α → Prop
  | .ok a => P a
  | .hang => False
  | _ => E

abbrev Res.Sat {α : Type} (P : α → Prop) (r : Res α) : Prop := r.Post True P

section
variable {α β : Type} {E : Prop} {P : α → Prop} {Q : β → Prop}

theorem Res.Post.bind {x : Res α} {f : α → Res β}
    (hx : x.Post E P) (hf : ∀ a, P a → (f a).Post E Q) : (x >>= f).Post E Q := by
  cases x with
  | ok a => exact hf a hx
  | diag d => exact hx
  | hang => exact hx.elim
  | unsupported w => exact hx

theorem Res.Post.ok {a : α} (h : P a) : (Res.ok a).Post E P := h
theorem Res.Post.pure {a : α} (h : P a) : (Pure.pure a : Res α).Post E P := h
theorem Res.Post.diag {d : String} (h : E) : (Res.diag d : Res α).Post E P := h
theorem Res.Post.unsupported {d : String} (h : E) : (Res.unsupported d : Res α).Post E P := h
theorem Res.Post.ite {c : Prop} [Decidable c] {a b : Res α}
    (ha : a.Post E P) (hb : b.Post E P) : (if c then a else b).Post E P := by
  split <;> assumption
theorem Res.Post.mono {P' : α → Prop} {x : Res α} (hx : x.Post E P) (h : ∀ a, P a → P' a) : x.Post E P' := by
  cases x <;> first | exact h _ hx | exact hx
theorem Res.Post.ne_hang {x : Res α} (hx : x.Post E P) : x ≠ .hang := by
  rintro rfl; exact hx
theorem Res.Post.of_ok {x : Res α} {a : α} (hx : x.Post E P) (h : x = .ok a) : P a := by
  subst h; exact hx
theorem Res.Post.exists {x : Res α} (hx : x.Post False P) : ∃ a, x = .ok a ∧ P a := by
  cases x <;> first | exact ⟨_, rfl, hx⟩ | exact hx.elim
end

/- From here on only through the rules above: unfolded, `(diag d).Post E P` is `E`, which unifies with
anything. -/
attribute [irreducible] Res.Post

theorem Res.Post.lt_of_lt {α : Type} {E : Prop} {x : Res (α × PS)} {m n : Nat}
    (hx : x.Post E fun r => r.2.size < m) (h : m < n) : x.Post E fun r => r.2.size < n :=
  hx.mono fun _ hr => Nat.lt_trans hr h

/-- `s' = s.next`: the only step without progress is from `⟨Eof, []⟩` to itself (`next_cases`), so it is
enough to know that either token is not `Eof`. -/
structure NextSpec (s s' : PS) : Prop where
  le : s'.size ≤ s.size
  lt : s'.tk ≠ .eof → s'.size < s.size
  lt_cur : s.tk ≠ .eof → s'.size < s.size

theorem next_sat (s : PS) : s.next.Sat (NextSpec s) := by
  cases h : s.next with
  | ok s' =>
    rcases next_cases s s' h with h1 | ⟨h2, _, rfl⟩
    · exact .ok ⟨Nat.le_of_lt h1, fun _ => h1, fun _ => h1⟩
    · exact .ok ⟨Nat.le_refl _, fun hk => absurd h2 hk, fun hk => absurd h2 hk⟩
  | hang =>
    obtain ⟨tk, ts⟩ := s
    cases ts with
    | nil => cases h
    | cons t r => rw [next_cons] at h; split at h <;> cases h
  | diag _ => exact .diag trivial
  | unsupported _ => exact .unsupported trivial

theorem expect_sat (t : Tok) (s : PS) (ht : t ≠ .eof) :
    (expect t s).Sat (fun s' => s'.size < s.size) := by
  unfold expect
  apply Res.Post.bind (next_sat s)
  intro s' h
  split
  · rename_i heq
    exact Res.Post.pure (h.lt (by rw [heq]; exact ht))
  · exact Res.Post.diag trivial

/-- the common shape of `expectName`, `expectInt`, `expectStr`: `next`, then a test of the token read -/
theorem next_then_sat {α : Type} (s : PS) (f : PS → Res (α × PS))
    (hf : ∀ s', (f s').Sat (fun r => r.2 = s' ∧ s'.tk ≠ .eof)) :
    (s.next >>= f).Sat (fun r => r.2.size < s.size) := by
  apply Res.Post.bind (next_sat s)
  intro s' h
  apply Res.Post.mono (hf s')
  rintro r ⟨rfl, hk⟩
  exact h.lt hk

theorem expectName_sat (s : PS) :
    (expectName s).Sat (fun r => r.2.size < s.size) := by
  refine next_then_sat s _ fun s' => ?_
  split
  · rename_i heq; exact Res.Post.pure ⟨rfl, by rw [heq]; nofun⟩
  · exact Res.Post.diag trivial

theorem expectInt_sat (s : PS) :
    (expectInt s).Sat (fun r => r.2.size < s.size) := by
  refine next_then_sat s _ fun s' => ?_
  split
  · rename_i heq; exact Res.Post.pure ⟨rfl, by rw [heq]; nofun⟩
  · exact Res.Post.diag trivial

theorem expectStr_sat (s : PS) :
    (expectStr s).Sat (fun r => r.2.size < s.size) := by
  refine next_then_sat s _ fun s' => ?_
  split
  · rename_i heq; exact Res.Post.pure ⟨rfl, by rw [heq]; nofun⟩
  · exact Res.Post.diag trivial

theorem makeUnsigned_sat (t : VarType) : (makeUnsigned t).Sat (fun _ => True) := by
  unfold makeUnsigned
  split <;> first | exact Res.Post.ok trivial | exact Res.Post.diag trivial

/-- The shape of `structLoop` and `funLoop`: `item` reads one item, or the closing `}` (`none`); the
loop goes on behind an item that consumed input. -/
def ItemLoop {β : Type} (item : PS → Res (Option β × PS)) (L : List β → PS → Res (List β × PS)) : Prop :=
  ∀ acc s, L acc s = (do
    let (m, s1) ← item s
    match m with
    | none => pure (acc, s1)
    | some b => if _h : s1.size < s.size then L (acc ++ [b]) s1 else .hang)

theorem ItemLoop.sat {β : Type} {item : PS → Res (Option β × PS)} {L : List β → PS → Res (List β × PS)}
    (hL : ItemLoop item L) (hitem : ∀ s, (item s).Sat fun r => r.2.size < s.size) (acc : List β) (s : PS) :
    (L acc s).Sat fun r => r.2.size < s.size := by
  rw [hL]
  apply Res.Post.bind (hitem s)
  intro ⟨m, s1⟩ h1
  simp only at h1
  cases m with
  | none => exact Res.Post.pure h1
  | some b =>
    simp only
    rw [dif_pos h1]
    exact (ItemLoop.sat hL hitem (acc ++ [b]) s1).lt_of_lt h1
termination_by s.size
decreasing_by exact h1

theorem parseType_sat (s : PS) : (parseType s).Sat (fun r => r.2.size ≤ s.size) := by
  fun_induction parseType s
  case case1 s n hk => exact Res.Post.ok (Nat.le_refl _)
  case case2 s p hk => exact Res.Post.ok (Nat.le_refl _)
  case case3 s hk ih =>
    apply Res.Post.bind (expect_sat .shl s (by decide))
    intro s1 h1
    apply Res.Post.bind (next_sat s1)
    intro s2 h2
    have hlt : s2.size < s.size := Nat.lt_of_le_of_lt h2.le h1
    rw [dif_pos hlt]
    apply Res.Post.bind (ih s2 hlt)
    intro ⟨k, s3⟩ h3
    apply Res.Post.bind (expect_sat .shr s3 (by decide))
    intro s4 h4
    refine Res.Post.pure ?_
    simp only at *; omega
  case case4 s hk ih =>
    apply Res.Post.bind (expect_sat .shl s (by decide))
    intro s1 h1
    apply Res.Post.bind (next_sat s1)
    intro s2 h2
    have hlt : s2.size < s.size := Nat.lt_of_le_of_lt h2.le h1
    rw [dif_pos hlt]
    apply Res.Post.bind (ih s2 hlt)
    intro ⟨k, s3⟩ h3
    apply Res.Post.bind (expect_sat .comma s3 (by decide))
    intro s4 h4
    apply Res.Post.bind (next_sat s4)
    intro s5 h5
    have hlt2 : s5.size < s.size := by
      have := h5.le; simp only at *; omega
    rw [dif_pos hlt2]
    apply Res.Post.bind (ih s5 hlt2)
    intro ⟨v, s6⟩ h6
    apply Res.Post.bind (expect_sat .shr s6 (by decide))
    intro s7 h7
    refine Res.Post.pure ?_
    simp only at *; omega
  case case5 s hk ih =>
    apply Res.Post.bind (next_sat s)
    intro s1 h1
    have hlt : s1.size < s.size := h1.lt_cur (by rw [hk]; decide)
    rw [dif_pos hlt]
    apply Res.Post.bind (ih s1 hlt)
    intro ⟨u, s2⟩ h2
    apply Res.Post.bind (makeUnsigned_sat u)
    intro u' _
    refine Res.Post.pure ?_
    simp only at *; omega
  case case6 => exact Res.Post.diag trivial

theorem enumLoop_sat (v : Variant) (hv : v.enumEof = true) (acc : List EnumMember) (s : PS) :
    (enumLoop v acc s).Sat (fun r => r.2.size < s.size) := by
  fun_induction enumLoop v acc s
  -- the recursive calls stand under `bind`, so there is one case, with one hypothesis per form of the
  -- accumulator: extended by an automatic member (`ih3`), by `m` (`ih2`), unchanged (`ih1`)
  rename_i acc s ih3 ih2 ih1
  apply Res.Post.bind (next_sat s)
  intro s1 h1
  split
  · rename_i hk
    exact Res.Post.pure (h1.lt (by rw [hk]; decide))
  · rename_i k hk
    have hs1 : s1.size < s.size := h1.lt (by rw [hk]; simp)
    apply Res.Post.bind (next_sat s1)
    intro s2 h2
    have hs2 : s2.size < s.size := Nat.lt_of_le_of_lt h2.le hs1
    split
    · rw [dif_pos hs2]
      exact (ih3 k s2 hs2).lt_of_lt hs2
    · exact Res.Post.pure hs2
    · apply Res.Post.bind (next_sat s2)
      intro s3 h3
      apply Res.Post.bind (P := fun _ => True)
      · split <;> first | exact Res.Post.ok trivial | exact Res.Post.diag trivial
      intro m _
      apply Res.Post.bind (next_sat s3)
      intro s4 h4
      have hs4 : s4.size < s.size := by have := h3.le; have := h4.le; omega
      split
      · exact Res.Post.pure hs4
      · rw [dif_pos hs4]
        exact (ih2 m s4 hs4).lt_of_lt hs4
      · exact Res.Post.diag trivial
    · rw [dif_pos hs2]
      exact (ih1 s2 hs2).lt_of_lt hs2
  · -- `Eof`: with the repair a diagnostic
    rw [if_pos hv]
    exact Res.Post.diag trivial
  · -- any other token is skipped; it is not `Eof`, so it was consumed
    rename_i hnb hnn hne
    have hs1 : s1.size < s.size := h1.lt (by intro h; exact hne h)
    rw [dif_pos hs1]
    exact (ih1 s1 hs1).lt_of_lt hs1

theorem parseEnum_sat (v : Variant) (hv : v.enumEof = true) (m : Module) (s : PS) :
    (parseEnum v m s).Sat (fun r => r.2.size < s.size) := by
  unfold parseEnum
  apply Res.Post.bind (expectName_sat s)
  intro ⟨name, s1⟩ h1
  simp only
  split
  · exact Res.Post.diag trivial
  · apply Res.Post.bind (expect_sat .braceL s1 (by decide))
    intro s2 h2
    apply Res.Post.bind (enumLoop_sat v hv [] s2)
    intro ⟨mb, s3⟩ h3
    apply Res.Post.bind (expect_sat .semi s3 (by decide))
    intro s4 h4
    refine Res.Post.pure ?_
    simp only at *; omega

theorem parseDefault_sat (ty : VarType) (tk : Tok) : (parseDefault ty tk).Sat (fun _ => True) := by
  unfold parseDefault
  simp only
  split <;> first | exact Res.Post.ok trivial | exact Res.Post.diag trivial | exact Res.Post.ite (Res.Post.diag trivial) (Res.Post.ok trivial)

theorem parseStructMember_sat (s : PS) :
    (parseStructMember s).Sat (fun r => r.2.size < s.size) := by
  unfold parseStructMember
  apply Res.Post.bind (next_sat s)
  intro s1 h1
  split
  · rename_i hk
    exact Res.Post.pure (h1.lt (by rw [hk]; decide))
  · rename_i txt tagv hk
    have hs1 : s1.size < s.size := h1.lt (by rw [hk]; simp)
    apply Res.Post.bind (next_sat s1)
    intro s2 h2
    apply Res.Post.bind (P := fun _ => True)
    · split <;> first | exact Res.Post.ok trivial | exact Res.Post.diag trivial
    intro req _
    apply Res.Post.bind (next_sat s2)
    intro s3 h3
    split
    · exact Res.Post.diag trivial
    · apply Res.Post.bind (parseType_sat s3)
      intro ⟨ty, s4⟩ h4
      apply Res.Post.bind (expectName_sat s4)
      intro ⟨key, s5⟩ h5
      apply Res.Post.bind (next_sat s5)
      intro s6 h6
      have hs6 : s6.size < s.size := by
        have := h2.le; have := h3.le; have := h6.le; simp only at *; omega
      split
      · exact Res.Post.pure hs6
      · apply Res.Post.bind (expectInt_sat s6)
        intro ⟨len, s7⟩ h7
        apply Res.Post.bind (expect_sat .sqR s7 (by decide))
        intro s8 h8
        apply Res.Post.bind (expect_sat .semi s8 (by decide))
        intro s9 h9
        refine Res.Post.pure ?_
        simp only at *; omega
      · apply Res.Post.bind (next_sat s6)
        intro s7 h7
        apply Res.Post.bind (parseDefault_sat ty s7.tk)
        intro ⟨d, dk⟩ _
        apply Res.Post.bind (expect_sat .semi s7 (by decide))
        intro s8 h8
        refine Res.Post.pure ?_
        have := h7.le; simp only at *; omega
      · exact Res.Post.diag trivial
  · exact Res.Post.diag trivial

theorem structLoop_itemLoop : ItemLoop parseStructMember structLoop := fun acc s => by
  rw [structLoop]; congr; funext ⟨m, s1⟩; cases m <;> rfl

theorem structLoop_sat (acc : List StructMember) (s : PS) :
    (structLoop acc s).Sat (fun r => r.2.size < s.size) :=
  structLoop_itemLoop.sat parseStructMember_sat acc s

theorem parseStruct_sat (m : Module) (s : PS) :
    (parseStruct m s).Sat (fun r => r.2.size < s.size) := by
  unfold parseStruct
  apply Res.Post.bind (expectName_sat s)
  intro ⟨name, s1⟩ h1
  simp only
  split
  · exact Res.Post.diag trivial
  · apply Res.Post.bind (expect_sat .braceL s1 (by decide))
    intro s2 h2
    apply Res.Post.bind (structLoop_sat [] s2)
    intro ⟨mb, s3⟩ h3
    apply Res.Post.bind (expect_sat .semi s3 (by decide))
    intro s4 h4
    split
    · exact Res.Post.diag trivial
    · refine Res.Post.pure ?_
      simp only at *; omega

theorem argLoop_sat (acc : List Arg) (s : PS) :
    (argLoop acc s).Sat (fun r => r.2.size ≤ s.size) := by
  fun_induction argLoop acc s
  rename_i acc s ih
  apply Res.Post.bind (P := fun r => r.2.size ≤ s.size)
  · split
    · apply Res.Post.bind (next_sat s)
      intro s' h
      exact Res.Post.pure h.le
    · exact Res.Post.pure (Nat.le_refl _)
  intro ⟨isOut, s1⟩ h1
  apply Res.Post.bind (parseType_sat s1)
  intro ⟨ty, s2⟩ h2
  apply Res.Post.bind (next_sat s2)
  intro s3 h3
  apply Res.Post.bind (P := fun r => r.2.size ≤ s3.size ∧ (r.2.tk ≠ .eof → r.2.size < s2.size))
  · split
    · apply Res.Post.bind (next_sat s3)
      intro s' h
      exact Res.Post.pure ⟨h.le, fun hk => Nat.lt_of_lt_of_le (h.lt hk) h3.le⟩
    · exact Res.Post.pure ⟨Nat.le_refl _, fun hk => h3.lt hk⟩
  intro ⟨nm, s4⟩ h4
  simp only at h1 h2 h4 ⊢
  split
  · rename_i hk
    apply Res.Post.bind (next_sat s4)
    intro s5 h5
    have hlt : s5.size < s.size := by
      have := h4.2 (by rw [hk]; decide); have := h5.le; omega
    rw [dif_pos hlt]
    exact Res.Post.mono (ih isOut ty nm s5 hlt) (fun r hr => Nat.le_trans hr (Nat.le_of_lt hlt))
  · apply Res.Post.bind (expect_sat .semi s4 (by decide))
    intro s5 h5
    refine Res.Post.pure ?_
    have := h4.1; have := h3.le; simp only at *; omega
  · exact Res.Post.diag trivial

theorem parseInterfaceFun_sat (s : PS) :
    (parseInterfaceFun s).Sat (fun r => r.2.size < s.size) := by
  unfold parseInterfaceFun
  apply Res.Post.bind (next_sat s)
  intro s1 h1
  split
  · rename_i hk
    exact Res.Post.pure (h1.lt (by rw [hk]; decide))
  · apply Res.Post.bind (P := fun r => r.2.2.size ≤ s1.size)
    · split
      · exact Res.Post.pure (Nat.le_refl _)
      · split
        · exact Res.Post.diag trivial
        · apply Res.Post.bind (parseType_sat s1)
          intro ⟨ty, s'⟩ h
          exact Res.Post.pure h
    intro ⟨hasRet, ret, s2⟩ h2
    apply Res.Post.bind (expectName_sat s2)
    intro ⟨name, s3⟩ h3
    apply Res.Post.bind (expect_sat .ptl s3 (by decide))
    intro s4 h4
    apply Res.Post.bind (next_sat s4)
    intro s5 h5
    have hs5 : s5.size < s.size := by
      have := h1.le; have := h5.le; simp only at *; omega
    split
    · exact Res.Post.pure hs5
    · apply Res.Post.bind (expect_sat .semi s5 (by decide))
      intro s6 h6
      exact Res.Post.pure (Nat.lt_trans h6 hs5)
    · apply Res.Post.bind (argLoop_sat [] s5)
      intro ⟨args, s6⟩ h6
      exact Res.Post.pure (Nat.lt_of_le_of_lt h6 hs5)

theorem funLoop_itemLoop : ItemLoop parseInterfaceFun funLoop := fun acc s => by
  rw [funLoop]; congr; funext ⟨m, s1⟩; cases m <;> rfl

theorem funLoop_sat (acc : List Func) (s : PS) :
    (funLoop acc s).Sat (fun r => r.2.size < s.size) :=
  funLoop_itemLoop.sat parseInterfaceFun_sat acc s

theorem parseInterface_sat (m : Module) (s : PS) :
    (parseInterface m s).Sat (fun r => r.2.size < s.size) := by
  unfold parseInterface
  apply Res.Post.bind (expectName_sat s)
  intro ⟨name, s1⟩ h1
  simp only
  split
  · exact Res.Post.diag trivial
  · apply Res.Post.bind (expect_sat .braceL s1 (by decide))
    intro s2 h2
    apply Res.Post.bind (funLoop_sat [] s2)
    intro ⟨fs, s3⟩ h3
    apply Res.Post.bind (expect_sat .semi s3 (by decide))
    intro s4 h4
    refine Res.Post.pure ?_
    simp only at *; omega

theorem parseConst_sat (m : Module) (s : PS) :
    (parseConst m s).Sat (fun r => r.2.size < s.size) := by
  unfold parseConst
  apply Res.Post.bind (next_sat s)
  intro s1 h1
  apply Res.Post.bind (P := fun r => r.2.size ≤ s1.size)
  · split
    · exact Res.Post.diag trivial
    · exact Res.Post.diag trivial
    · exact parseType_sat s1
    · exact parseType_sat s1
    · exact Res.Post.diag trivial
  intro ⟨ty, s2⟩ h2
  apply Res.Post.bind (expectName_sat s2)
  intro ⟨name, s3⟩ h3
  apply Res.Post.bind (expect_sat .eq s3 (by decide))
  intro s4 h4
  apply Res.Post.bind (next_sat s4)
  intro s5 h5
  simp only
  apply Res.Post.bind (P := fun _ => True)
  · split <;> first | exact Res.Post.diag trivial | exact Res.Post.ite (Res.Post.diag trivial) (Res.Post.ok trivial)
  intro value _
  apply Res.Post.bind (expect_sat .semi s5 (by decide))
  intro s6 h6
  refine Res.Post.pure ?_
  have := h1.le; have := h5.le; simp only at *; omega

theorem keyLoop_sat (acc : List Bytes) (s : PS) :
    (keyLoop acc s).Sat (fun r => r.2.size < s.size) := by
  fun_induction keyLoop acc s
  rename_i acc s ih
  apply Res.Post.bind (expectName_sat s)
  intro ⟨n, s1⟩ h1
  apply Res.Post.bind (next_sat s1)
  intro s2 h2
  have hs2 : s2.size < s.size := Nat.lt_of_le_of_lt h2.le h1
  split
  · apply Res.Post.bind (expect_sat .semi s2 (by decide))
    intro s3 h3
    exact Res.Post.pure (Nat.lt_trans h3 hs2)
  · rw [dif_pos hs2]
    exact (ih n s2 hs2).lt_of_lt hs2
  · exact Res.Post.diag trivial

theorem parseHashKey_sat (m : Module) (s : PS) :
    (parseHashKey m s).Sat (fun r => r.2.size < s.size) := by
  unfold parseHashKey
  apply Res.Post.bind (expect_sat .sqL s (by decide))
  intro s1 h1
  apply Res.Post.bind (expectName_sat s1)
  intro ⟨name, s2⟩ h2
  apply Res.Post.bind (expect_sat .comma s2 (by decide))
  intro s3 h3
  apply Res.Post.bind (keyLoop_sat [] s3)
  intro ⟨mem, s4⟩ h4
  refine Res.Post.pure ?_
  simp only at *; omega

theorem segmentItem_sat (v : Variant) (hv : v.enumEof = true) (m : Module) (s : PS) :
    (segmentItem v m s).Sat (fun r => r.2.size < s.size) := by
  unfold segmentItem
  split
  · exact parseConst_sat m s
  · exact parseEnum_sat v hv m s
  · exact parseStruct_sat m s
  · exact parseInterface_sat m s
  · exact parseHashKey_sat m s
  · exact Res.Post.diag trivial

theorem segmentLoop_sat (v : Variant) (hv : v.enumEof = true) (m : Module) (s : PS) :
    (segmentLoop v m s).Sat (fun r => r.2.size < s.size) := by
  fun_induction segmentLoop v m s
  rename_i m s ih
  apply Res.Post.bind (next_sat s)
  intro s1 h1
  split
  · rename_i hk
    apply Res.Post.bind (expect_sat .semi s1 (by decide))
    intro s2 h2
    exact Res.Post.pure (Nat.lt_of_lt_of_le h2 h1.le)
  · apply Res.Post.bind (segmentItem_sat v hv m s1)
    intro ⟨m', s2⟩ h2
    have hlt : s2.size < s.size := Nat.lt_of_lt_of_le h2 h1.le
    simp only
    rw [dif_pos hlt]
    exact (ih m' s2 hlt).lt_of_lt hlt

theorem parseModuleSegment_sat (v : Variant) (hv : v.enumEof = true) (m : Module) (s : PS) :
    (parseModuleSegment v m s).Sat (fun r => r.2.size < s.size) := by
  unfold parseModuleSegment
  apply Res.Post.bind (expect_sat .braceL s (by decide))
  intro s1 h1
  exact (segmentLoop_sat v hv m s1).lt_of_lt h1

theorem parseModule_sat (v : Variant) (hv : v.enumEof = true) (f : TarsFile) (s : PS) :
    (parseModule v f s).Sat (fun r => r.2.size < s.size) := by
  unfold parseModule
  apply Res.Post.bind (expectName_sat s)
  intro ⟨name, s1⟩ h1
  simp only
  split
  · exact Res.Post.unsupported trivial
  · apply Res.Post.bind (parseModuleSegment_sat v hv _ s1)
    intro ⟨m, s2⟩ h2
    exact Res.Post.pure (Nat.lt_trans h2 h1)

theorem parseInclude_sat (f : TarsFile) (s : PS) :
    (parseInclude f s).Sat (fun r => r.2.size < s.size) := by
  unfold parseInclude
  apply Res.Post.bind (expectStr_sat s)
  intro ⟨path, s1⟩ h1
  exact Res.Post.pure h1

theorem fileLoop_sat (v : Variant) (hv : v.enumEof = true) (f : TarsFile) (s : PS) :
    (fileLoop v f s).Sat (fun _ => True) := by
  fun_induction fileLoop v f s
  rename_i f s ih1
  apply Res.Post.bind (next_sat s)
  intro s1 h1
  split
  · exact Res.Post.pure trivial
  · apply Res.Post.bind (parseInclude_sat f s1)
    intro ⟨f', s2⟩ h2
    have hlt : s2.size < s.size := Nat.lt_of_lt_of_le h2 h1.le
    simp only
    rw [dif_pos hlt]
    exact ih1 f' s2 hlt
  · apply Res.Post.bind (parseModule_sat v hv f s1)
    intro ⟨f', s2⟩ h2
    have hlt : s2.size < s.size := Nat.lt_of_lt_of_le h2 h1.le
    simp only
    rw [dif_pos hlt]
    exact ih1 f' s2 hlt
  · exact Res.Post.diag trivial

end Tars.Idl
