import TarsModel.Proofs.CallPathClient

/-!
# The whole call: `callWith` for a well-formed call through pass-through filters
-/
namespace Tars.CallPath
open Tars Consts Filter

/-- the repaired `doInvoke` on a failure code: the description is the server's or the synthetic one
    (`descOr`) in either shape of the error, so whether it is empty plays no part below -/
theorem clientErr_repaired {iret : Int} (h : iret ≠ 0) (desc : Bytes) :
    clientErr .repaired iret desc =
      some (if iret ≠ 0 ∧ iret ≠ 1 then .tars iret (descOr iret desc) else .plain (descOr iret desc)) := by
  by_cases h1 : iret = 1 <;> simp [clientErr, descOr, cpOkRet, cpCodeLo, cpCodeHi, h, h1]

theorem descOr_of_ne (iret : Int) {m : Bytes} (h : m ≠ []) : descOr iret m = m := if_neg h

theorem arrives_tars {c : Int} (h0 : c ≠ 0) (h1 : c ≠ 1) (m : Bytes) :
    arrives (.tars c m) = .tars c (descOr c m) := by
  simp [arrives, cpCodeLo, cpCodeHi, h0, h1]

theorem clientErr_serverErr (e : GoErr) :
    clientErr .repaired (serverErr .repaired e).1 (serverErr .repaired e).2 = some (arrives e) := by
  cases e with
  | plain m => exact clientErr_repaired (iret := 1) (by decide) m
  | tars c m =>
    by_cases h0 : c = 0
    · subst h0; exact clientErr_repaired (iret := 1) (by decide) m
    · have hs : serverErr .repaired (.tars c m) = (c, m) := if_pos h0
      rw [hs, clientErr_repaired h0]
      by_cases h1 : c = 1
      · subst h1; rfl
      · rw [arrives_tars h0 h1, if_pos ⟨h0, h1⟩]

theorem clientErr_ok (v : Variant) : clientErr v (cpDispatchRet : Nat) [] = none := by
  cases v <;> rfl

theorem transparent_server {ε σ α : Type} {nil : α} {reg : Reg ε σ α} {b a : List ε}
    (h : PassReg nil reg b a) : Transparent (runServer .repaired nil reg) b a := by
  intro d s
  cases h with
  | single f _ _ hs hf => exact runServer_single _ nil reg f _ _ hs hf d s
  | mws ms hs hm hne hp => exact runServer_mws _ nil reg ms hs hm hne hp d s
  | sides pre post hs hm hpre hpost h1 h2 =>
    exact runServer_sides .repaired nil reg pre post hs hm hpre hpost h1 h2 d s

theorem transparent_client {ε σ α : Type} {nil : α} {reg : Reg ε σ α} {b a : List ε}
    (h : PassReg nil reg b a) : Transparent (runClient nil reg) b a := by
  rw [runClient_eq_runServer]
  exact transparent_server h

theorem passReg_empty {ε σ α : Type} (nil : α) : PassReg nil ({} : Reg ε σ α) [] [] :=
  PassReg.sides _ [] [] rfl rfl rfl rfl nofun nofun

section
variable (vs : Variants) {env : Env} {rk : String → Nat} {cfg : Cfg}
  {creg : ClientReg} {sreg : ServerReg} {cb ca sb sa : List Ev}
  {iface : Iface} {f : Func} {args : List Val} {opts : List (Option StrMap)}

theorem callWith_oneway
    (hcreg : Transparent (runClient DoRes.nil creg) cb ca)
    (hsreg : Transparent (runServer vs.postFilter none sreg) sb sa)
    (hcall : CallOK env rk cfg f.name f.sig true args opts)
    (hfind : iface.find f.name = some f) :
    callWith vs env cfg creg sreg iface f.name f.sig true args opts =
      (cb ++ (sb ++ [implEv env f args opts] ++ sa) ++ ca,
       .returned none (view0 env f.sig args opts)) := by
  unfold callWith
  rw [hcreg, doInvoke_ok vs hsreg hcall hfind (fun h => by cases h)]
  rfl

theorem callWith_normal
    (hcreg : Transparent (runClient DoRes.nil creg) cb ca)
    (hsreg : Transparent (runServer vs.postFilter none sreg) sb sa)
    (hcall : CallOK env rk cfg f.name f.sig false args opts)
    (hfind : iface.find f.name = some f)
    (himpl : ImplOK vs.zeroCode env cfg (proxyRequest env cfg f.name f.sig false args opts) f.sig
      (implOut env f args opts)) :
    let rsp := replyPacket vs.zeroCode env (proxyRequest env cfg f.name f.sig false args opts) f.sig
      (implOut env f args opts)
    callWith vs env cfg creg sreg iface f.name f.sig false args opts =
      (cb ++ (sb ++ [implEv env f args opts] ++ sa ++ [Ev.reply (rsp2Byte rsp)]) ++ ca,
       match clientErr vs.emptyDesc rsp.iRet rsp.sResultDesc with
       | some e => .returned (some e) (view0 env f.sig args opts)
       | none => proxyFinish vs.nilMapGuard env f.sig args opts rsp) := by
  intro rsp
  unfold callWith
  rw [hcreg, doInvoke_ok vs hsreg hcall hfind (fun _ => himpl)]
  simp only [Bool.false_eq_true, if_false]
  cases clientErr vs.emptyDesc rsp.iRet rsp.sResultDesc <;> rfl

theorem callWith_ok
    (hcreg : Transparent (runClient DoRes.nil creg) cb ca)
    (hsreg : Transparent (runServer vs.postFilter none sreg) sb sa)
    (hcall : CallOK env rk cfg f.name f.sig false args opts)
    (hfind : iface.find f.name = some f)
    (himpl : ImplOK vs.zeroCode env cfg (proxyRequest env cfg f.name f.sig false args opts) f.sig
      (implOut env f args opts))
    (hok : (implOut env f args opts).err = none) :
    callWith vs env cfg creg sreg iface f.name f.sig false args opts =
      (cb ++ (sb ++ [implEv env f args opts] ++ sa ++
          [Ev.reply (rsp2Byte (replyPacket vs.zeroCode env
            (proxyRequest env cfg f.name f.sig false args opts) f.sig (implOut env f args opts)))]) ++ ca,
       match copyBackAll vs.nilMapGuard opts ((implOut env f args opts).rspCtx.getD [])
          ((implOut env f args opts).rspStatus.getD []) with
       | .error site => .panicked site
       | .ok cs => .returned none ⟨normRet env f.sig (implOut env f args opts).ret,
          normOuts env f.sig (implOut env f args opts).outs, cs.1, cs.2⟩) := by
  rw [callWith_normal vs hcreg hsreg hcall hfind himpl]
  refine congrArg (Prod.mk _) ?_
  rw [replyPacket_of_ok hok]
  simp only [dispatchRsp, clientErr_ok]
  exact proxyFinish_ok vs.nilMapGuard hcall _ (implOut env f args opts).ret
    (implOut env f args opts).outs rfl (himpl.vals hok) (himpl.shape hok)

theorem callWith_err {e e' : GoErr}
    (hcreg : Transparent (runClient DoRes.nil creg) cb ca)
    (hsreg : Transparent (runServer vs.postFilter none sreg) sb sa)
    (hcall : CallOK env rk cfg f.name f.sig false args opts)
    (hfind : iface.find f.name = some f)
    (himpl : ImplOK vs.zeroCode env cfg (proxyRequest env cfg f.name f.sig false args opts) f.sig
      (implOut env f args opts))
    (herr : (implOut env f args opts).err = some e)
    (he : clientErr vs.emptyDesc (serverErr vs.zeroCode e).1 (serverErr vs.zeroCode e).2 = some e') :
    callWith vs env cfg creg sreg iface f.name f.sig false args opts =
      (cb ++ (sb ++ [implEv env f args opts] ++ sa ++
          [Ev.reply (rsp2Byte (replyPacket vs.zeroCode env
            (proxyRequest env cfg f.name f.sig false args opts) f.sig (implOut env f args opts)))]) ++ ca,
       .returned (some e') (view0 env f.sig args opts)) := by
  rw [callWith_normal vs hcreg hsreg hcall hfind himpl]
  simp only [replyPacket, herr, he]

end

end Tars.CallPath
