import TarsModel.Proofs.ClientConnOld

/-! The three clauses `C11_full` is made of, the inductive invariant of the client-connection LTS that
gives them (all schedules of the repaired code, the timely schedules of the code as found), and what
else it gives: the sender of a current connection that the client has not closed and that the server
still reads is never stuck. -/
namespace Tars.ClientConn

/-! ### The three clauses of C11 -/

/-- "A connection loss never makes a later healthy connection be treated as closed": whenever the
shared `isClosed` flag is set, the client has really closed the CURRENT connection. -/
def NoFalseClose (s : State) : Prop :=
  s.isClosed = true → ∀ (k : Nat) (c : Conn), s.conns[k]? = some c → k + 1 = s.conns.length →
    c.known = true

/-- "A request is never written to a connection already known to be dead", for the calls the
property speaks about (those issued after the close): no `conn.Write(m)` is attempted on a
connection the client had already closed when the call of `m` was issued. -/
def NoDeadWrite (s : State) : Prop := ∀ (m : Msg) (k : Nat), (m, k) ∈ s.attempts → k ∉ m.dead

/-- The safety core of "the call succeeds without waiting for its timeout": as long as the client
has not lost the current connection, the flag says "open" (so `Send` enqueues without dialling
again), that connection's sender goroutine has not exited, and — if the server still reads the
connection — it is not parked in a hand-back to the failure queue. Together with
`sender_progress` (it always has an enabled step) every request in `sendQueue` /
`sendFailQueue` is then written to that connection by a fair scheduler. -/
def Served (s : State) : Prop :=
  ∀ (k : Nat) (c : Conn), s.conns[k]? = some c → k + 1 = s.conns.length → c.known = false →
    s.isClosed = false ∧ c.spc ≠ .exited ∧
      (c.alive = true → ∀ m, c.spc ≠ .failed m ∧ c.spc ≠ .handback m)

/-! ### The invariant -/

/-- what a sender at this point of `send` presupposes about its connection `k` -/
def SPc.ok (k : Nat) (c : Conn) : SPc → Prop
  | .exited | .handback _ => c.known = true
  | .failed _ | .failClosing => c.alive = false ∨ c.known = true
  | .ready m | .atGot m => k ∉ m.dead
  | _ => True

/-- a receiver past `close(conn)` has closed the connection -/
def RPc.ok (c : Conn) : RPc → Prop
  | .signalling | .done => c.known = true
  | _ => True

theorem SPc.ok.mono {x : SPc} {k : Nat} {c c' : Conn} (h : x.ok k c)
    (hk : c.known = true → c'.known = true) (ha : c.alive = false → c'.alive = false) : x.ok k c' := by
  cases x
  case failed | failClosing => exact h.imp ha hk
  case exited | handback => exact hk h
  all_goals exact h

theorem RPc.ok.mono {x : RPc} {c c' : Conn} (h : x.ok c) (hk : c.known = true → c'.known = true) :
    x.ok c' := by
  cases x
  case signalling | done => exact hk h
  all_goals exact h

/-- Connection `k` of `n`, with the shared flag at `closed`: the client has closed it if it has been
replaced or the flag is set (the converse holds on every schedule: `Inv0.knownOld`), and its goroutines
are where that allows them to be. -/
structure ConnOK (n : Nat) (closed : Bool) (k : Nat) (c : Conn) : Prop where
  known : k + 1 < n ∨ closed = true → c.known = true
  done : c.connDone = true → c.known = true
  rpc : c.rpc.ok c
  spc : c.spc.ok k c

theorem ConnOK.at {n : Nat} {closed : Bool} {k : Nat} {c : Conn} {x : SPc} (o : ConnOK n closed k c)
    (h : c.spc = x) : x.ok k c := h ▸ o.spc

theorem ConnOK.atR {n : Nat} {closed : Bool} {k : Nat} {c : Conn} {x : RPc} (o : ConnOK n closed k c)
    (h : c.rpc = x) : x.ok c := h ▸ o.rpc

theorem ConnOK.setSpc {n : Nat} {closed : Bool} {k : Nat} {c : Conn} {x : SPc} (o : ConnOK n closed k c)
    (hx : x.ok k c) : ConnOK n closed k { c with spc := x } := ⟨o.known, o.done, o.rpc, hx⟩

structure Inv (s : State) : Prop where
  old : Inv0 s
  conn : ∀ (k : Nat) (c : Conn), s.conns[k]? = some c → ConnOK s.conns.length s.isClosed k c
  attemptsFresh : ∀ m k, (m, k) ∈ s.attempts → k ∉ m.dead

macro "inv_case" h:ident : tactic => `(tactic|
  (simp only [step] at $h:ident
   repeat' (split at $h:ident)
   all_goals first
     | (cases $h:ident; done)
     | (cases $h:ident
        constructor
        all_goals simp only [setConn, closeConn, knownAt, InFlight, List.getElem?_set, List.length_set, isCur, afterDequeue]
        all_goals grind [Inv, InFlight, knownAt, SPc.hand, good, timely, isCur, afterDequeue])))

theorem Inv.set {s : State} {k : Nat} {c' : Conn} (hi : Inv s) (hc' : ConnOK s.conns.length s.isClosed k c') :
    ∀ j d, (s.conns.set k c')[j]? = some d → ConnOK (s.conns.set k c').length s.isClosed j d := by
  rw [List.length_set]; exact forall_set hi.conn hc'

theorem Inv.close {v : Variant} {s : State} {k : Nat} {c' : Conn} (hi : Inv s)
    (hg : v = .repaired ∨ isCur s k = true) (hr : c'.rpc.ok { c' with known := true })
    (hs : c'.spc.ok k { c' with known := true }) :
    ∀ j d, (closeConn v s k c').conns[j]? = some d →
      ConnOK (closeConn v s k c').conns.length (closeConn v s k c').isClosed j d := by
  have hf : (v == .asFound || (isCur s k || s.isClosed)) = (isCur s k || s.isClosed) := by
    rcases hg with rfl | hg
    · rfl
    · simp [hg]
  rw [closeConn_isClosed, hf, closeConn_conns, List.length_set]
  refine forall_set_of_ne (fun j d hj hd => ?_) ⟨fun _ => rfl, fun _ => rfl, hr, hs⟩
  have o := hi.conn j d hd
  refine ⟨fun h => h.elim (o.known ∘ .inl) fun h => ?_, o.done, o.rpc, o.spc⟩
  -- the flag is set now: it was set before, or `k` is the last connection and `j` is not
  cases hcur : isCur s k
  · exact o.known (.inr (by simpa [hcur] using h))
  · have := lt_of_getElem? hd
    rw [isCur_iff] at hcur
    exact o.known (.inl (by omega))

/-- `c.lost(conn_k)` answers yes: `k` has been replaced or the flag is set -/
theorem replaced_or_closed {s : State} {k : Nat} {c : Conn} (hc : s.conns[k]? = some c)
    (h : ¬(s.isClosed = false ∧ isCur s k = true)) : k + 1 < s.conns.length ∨ s.isClosed = true := by
  cases hf : s.isClosed
  · exact .inl (old_of_not_isCur hc fun hk => h ⟨hf, hk⟩)
  · exact .inr rfl

theorem DeadOld.fresh {s : State} {k : Nat} {m : Msg} (hd : DeadOld s m) (hk : ¬k + 1 < s.conns.length) :
    k ∉ m.dead := fun hm => hk (hd k hm)

/-- where a dequeue leads is fine: as found the connection has not been closed (a timely step), so it
is the current one; the repaired sender asks `lost(conn)` first -/
theorem afterDequeue_ok {v : Variant} {s : State} {k : Nat} {c c' : Conn} {m : Msg}
    (hc : s.conns[k]? = some c) (o : ConnOK s.conns.length s.isClosed k c)
    (hg : v = .repaired ∨ (!knownAt s k) = true) (hd : DeadOld s m) : (afterDequeue v m).ok k c' := by
  cases v
  · refine hd.fresh fun h => ?_
    have hk := knownAt_iff.mpr ⟨c, hc, o.known (.inl h)⟩
    rcases hg with hg | hg
    · cases hg
    · rw [hk] at hg; cases hg
  · trivial

/-- The invariant is maintained by every step of the repaired code and by the timely steps of the code as
found. `timely` is consumed at two kinds of step, where it computes to what `Inv.close` and
`afterDequeue_ok` ask for: at a `close(conn_k)` to `isCur s k`, at a dequeue by sender `k` to `!knownAt s k`. -/
theorem inv_step {v s s' a} (hi : Inv s) (hg : v = .repaired ∨ timely s a = true) (h : Step v s a s') :
    Inv s' := by
  have hold := inv0_step hi.old h
  cases h with
  | callBegin | noDial | markReconnected | callEnq | callFail | callRet | obsAccept | obsRecv =>
    exact ⟨hold, hi.conn, hi.attemptsFresh⟩
  | dial hf hcl =>
    refine ⟨hold, ?_, hi.attemptsFresh⟩
    simp only [List.length_append, List.length_singleton]
    refine forall_append (fun j d hd => ?_) ⟨by simp, nofun, trivial, trivial⟩
    have o := hi.conn j d hd
    exact ⟨fun _ => o.known (.inr hcl), o.done, o.rpc, o.spc⟩
  | conn hc h =>
    have o := hi.conn _ _ hc
    refine ⟨hold, ?_, h.attempts hi.attemptsFresh fun _ hs => o.at hs⟩
    cases h with
    | pClose | pReset => exact hi.set ⟨o.known, o.done, o.rpc, o.spc.mono id fun _ => rfl⟩
    | rEof | rErr | markClosing => exact hi.set ⟨o.known, o.done, trivial, o.spc⟩
    | rSignal hr => exact hi.set ⟨o.known, fun _ => o.atR hr, o.atR hr, o.spc⟩
    | rClose => exact hi.close hg rfl (o.spc.mono (fun _ => rfl) id)
    | sIdleClose | sFailClose => exact hi.close hg (o.rpc.mono fun _ => rfl) rfl
    | markTop | markInner | sTopGo | sNoFail | sTickIdle | sTickCont | sWriteOk | sWriteLost =>
      exact hi.set (o.setSpc trivial)
    | markGot hs | sRequeue hs | sHandback hs => exact hi.set (o.setSpc (o.at hs :))
    | sTopDone hd | sInnerDone hd => exact hi.set ⟨o.known, nofun, o.rpc, o.done hd.2⟩
    | sTickClosed hd => exact hi.set (o.setSpc (o.known (.inr hd.2)))
    | sTakeFail hf | sInnerFail hf =>
      exact hi.set (o.setSpc (afterDequeue_ok hc o hg (hi.old.onWay.parked _ hf)))
    | sTakeQ hq =>
      exact hi.set (o.setSpc (afterDequeue_ok hc o hg (hi.old.onWay.queued _ (hq ▸ List.mem_cons_self))))
    | sCheckOk hs hd =>
      exact hi.set (o.setSpc ((hi.old.onWay.at hc hs).fresh
        (by have := isCur_iff.mp hd.2; omega)))
    | sCheckLost _ hd => exact hi.set (o.setSpc (o.known (replaced_or_closed hc hd)))
    | sWriteFail _ hd => exact hi.set (o.setSpc hd)

theorem inv_start (b : Bool) : Inv { idleOK := b } := ⟨inv0_start b, fun _ _ h => (nomatch h), nofun⟩

theorem inv_run {v cap acts s} (hg : v = .repaired ∨ Timely v cap acts) (h : run v cap acts = some s) :
    Inv s :=
  ((isRun v cap).induct (P := fun s acts => Inv s ∧ (v = .repaired ∨ TimelyFrom v cap s acts))
    (fun hp hs => ⟨inv_step hp.1 (hp.2.imp_right (·.1)) (.of_step hp.1.old.locked hs),
      hp.2.imp_right fun ht => by have := ht.2; rwa [hs] at this⟩) acts ⟨inv_start true, hg⟩ h).1

theorem inv_reachable_repaired {cap s} (h : Reachable .repaired cap s) : Inv s := by
  induction h with
  | init => exact inv_start true
  | initNoIdle => exact inv_start false
  | step a _ hs ih => exact inv_step ih (.inl rfl) (.of_step ih.old.locked hs)

theorem Inv.safe {s : State} (hi : Inv s) : NoFalseClose s ∧ NoDeadWrite s ∧ Served s := by
  refine ⟨fun h k c hc _ => (hi.conn k c hc).known (.inr h), hi.attemptsFresh, fun k c hc _ hk => ?_⟩
  have o := hi.conn k c hc
  have nk : ¬c.known = true := by simp [hk]
  exact ⟨Bool.eq_false_iff.mpr fun h => nk (o.known (.inr h)), fun h => nk (o.at h),
    fun ha m => ⟨fun h => (o.at h).elim (by simp [ha]) nk, fun h => nk (o.at h)⟩⟩

theorem run_safe {v cap acts s} (hg : v = .repaired ∨ Timely v cap acts) (h : run v cap acts = some s) :
    NoFalseClose s ∧ NoDeadWrite s ∧ Served s := (inv_run hg h).safe

/-- the statements of `connection.send` for connection `k` -/
def senderActions (k : Nat) : List Action :=
  [.mark .top k, .sTopDone k, .sTopGo k, .sTakeFail k, .sNoFail k, .mark .inner k, .sTakeQ k,
   .sTickClosed k, .sTickIdle k, .sTickCont k, .sIdleClose k, .sInnerFail k, .sInnerDone k,
   .mark .got k, .sCheckOk k, .sCheckLost k, .sHandback k, .sWriteOk k, .sWriteLost k, .sWriteFail k,
   .sRequeue k, .sFailClose k]

theorem sender_progress {v : Variant} {cap : Nat} {s : State} {k : Nat} {c : Conn} (hi : Inv s)
    (hc : s.conns[k]? = some c) (hcur : k + 1 = s.conns.length) (hk : c.known = false)
    (ha : c.alive = true) :
    c.spc ≠ .exited ∧ ∃ a ∈ senderActions k, (step v cap s a).isSome = true := by
  obtain ⟨hopen, hex, hpark⟩ := hi.safe.2.2 k c hc hcur hk
  have hdone : c.connDone = false :=
    Bool.eq_false_iff.mpr fun h => by have := (hi.conn k c hc).done h; simp [hk] at this
  have hcur' : isCur s k = true := isCur_iff.mpr hcur
  refine ⟨hex, ?_⟩
  cases hs : c.spc with
  | atTop => exact ⟨.mark .top k, by simp [senderActions], by simp [step, hc, hs]⟩
  | top => exact ⟨.sTopGo k, by simp [senderActions], by simp [step, hc, hs, hdone]⟩
  | pickFail =>
    cases hf : s.failQ with
    | none => exact ⟨.sNoFail k, by simp [senderActions], by simp [step, hc, hs, hf]⟩
    | some m => exact ⟨.sTakeFail k, by simp [senderActions], by simp [step, hc, hs, hf]⟩
  | atInner => exact ⟨.mark .inner k, by simp [senderActions], by simp [step, hc, hs]⟩
  | inner => exact ⟨.sTickCont k, by simp [senderActions], by simp [step, hc, hs, hopen]⟩
  | atGot m => exact ⟨.mark .got k, by simp [senderActions], by simp [step, hc, hs]⟩
  | got m => exact ⟨.sCheckOk k, by simp [senderActions], by simp [step, hc, hs, hopen, hcur']⟩
  | ready m => exact ⟨.sWriteOk k, by simp [senderActions], by simp [step, hc, hs, ha, hk]⟩
  | failed m => exact absurd hs (hpark ha m).1
  | failClosing => exact ⟨.sFailClose k, by simp [senderActions], by simp [step, hc, hs]⟩
  | idleClosing => exact ⟨.sIdleClose k, by simp [senderActions], by simp [step, hc, hs]⟩
  | handback m => exact absurd hs (hpark ha m).2
  | exited => exact absurd hs hex

/-- the statements of `connection.recv` for connection `k` once `Read` has failed -/
def receiverActions (k : Nat) : List Action :=
  [.rEof k, .rErr k, .mark .closing k, .rClose k, .rSignal k]

/-- Whatever way connection `k` was lost — orderly close by the server (`io.EOF`), abortive close
(`*net.OpError`), or the client's own close of the socket — the receiver of `k`, until it is done,
has an enabled statement. -/
theorem receiver_progress {v : Variant} {cap : Nat} {s : State} {k : Nat} {c : Conn}
    (hc : s.conns[k]? = some c) (hl : c.alive = false ∨ c.known = true) (hd : c.rpc ≠ .done) :
    ∃ a ∈ receiverActions k, (step v cap s a).isSome = true := by
  cases hr : c.rpc with
  | reading =>
    by_cases h1 : c.reset = true ∨ c.known = true
    · exact ⟨.rErr k, by simp [receiverActions], by simp [step, hc, hr, h1]⟩
    · have h2 : c.reset = false ∧ c.known = false := by
        cases hx : c.reset <;> cases hy : c.known <;> simp_all
      have h3 : c.alive = false := by
        rcases hl with h | h
        · exact h
        · rw [h2.2] at h; cases h
      exact ⟨.rEof k, by simp [receiverActions], by simp [step, hc, hr, h2, h3]⟩
  | atClosing => exact ⟨.mark .closing k, by simp [receiverActions], by simp [step, hc, hr]⟩
  | closing => exact ⟨.rClose k, by simp [receiverActions], by simp [step, hc, hr]⟩
  | signalling => exact ⟨.rSignal k, by simp [receiverActions], by simp [step, hc, hr]⟩
  | done => exact absurd hr hd

/-! ### Tests for concrete schedules and states -/

def timelyB (v : Variant) (cap : Nat) : State → List Action → Bool
  | _, [] => true
  | s, a :: as => timely s a && match step v cap s a with
    | some s' => timelyB v cap s' as
    | none => true

theorem timelyB_iff {v cap} : ∀ {s : State} {acts : List Action},
    timelyB v cap s acts = true ↔ TimelyFrom v cap s acts
  | _, [] => by simp [timelyB, TimelyFrom]
  | s, a :: as => by
    simp only [timelyB, TimelyFrom, Bool.and_eq_true]
    cases step v cap s a with
    | none => simp
    | some s' => simp [timelyB_iff]

theorem forall_attempts {l : List (Msg × Nat)} (h : ∀ x ∈ l, x.2 ∉ x.1.dead) :
    ∀ m k, (m, k) ∈ l → k ∉ m.dead := fun m k hx => h (m, k) hx

end Tars.ClientConn
