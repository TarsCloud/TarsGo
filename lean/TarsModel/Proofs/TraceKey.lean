import TarsModel.Model.TraceKey

/-! `strings.Index` returns a position inside the
    string, so the prefix slice `tid[:pos]` is in range; the clamped type lies in 0..15. -/
namespace Tars.TraceKey
open Tars

theorem indexByte_lt {c : Byte} : ∀ {s : Bytes} {p : Nat}, indexByte c s = some p → p < s.length
  | b :: bs, p, h => by
    rw [indexByte] at h
    split at h
    · cases h; exact Nat.succ_pos _
    · obtain ⟨q, hq, rfl⟩ := Option.map_eq_some_iff.mp h
      exact Nat.succ_lt_succ (indexByte_lt hq)

theorem slice_index_ok {c : Byte} {s : Bytes} {p : Nat} (h : indexByte c s = some p) :
    slice s 0 p = .ok (s.take p) := by
  unfold slice
  rw [if_pos ⟨Nat.zero_le _, Nat.le_of_lt (indexByte_lt h)⟩]
  simp

theorem clampType_range (t : Int) : 0 ≤ clampType t ∧ clampType t ≤ 15 := by
  unfold clampType
  simp only [Consts.traceTypeMin, Consts.traceTypeMax]
  split <;> omega

end Tars.TraceKey
