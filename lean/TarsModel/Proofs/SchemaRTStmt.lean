import TarsModel.Proofs.SchemaScalar
import TarsModel.Proofs.SchemaTarget
import TarsModel.Proofs.SchemaWire
import TarsModel.Proofs.MemberRead

/-!
# The round trip of one member: statement, the member that is not written, scalars

`RT` is the statement as the other properties use it.  The proof goes through `RTHeldAt`, the same
at one fuel and with less asked of the target (`Held`) and of what follows.  A member that is not
written is settled here for every kind of value (`RTHeldAt.of_present`), so that the cases by kind
(`SchemaRTKinds.lean`) start behind a head that is there; the scalar case is `leaf_step`.
-/
namespace Tars
open Consts

/-- The round-trip statement for one member/element holding `v`: whatever the member's tag,
    optionality, type and default, the previous target value `old` (as left by `ResetDefault`), the
    read position and the bytes `t` after the member's encoding (for an optional member: not
    starting with a head of this or a smaller tag) — `genReadVar`'s code returns the normal form
    of `v` and stops exactly behind the encoding. -/
def RT (env : Env) (rk : String → Nat) (v : Val) : Prop :=
  ∀ (fuel tag : Nat) (req : Bool) (ty : Ty) (dflt : Option Val) (old : Val) (r : Reader) (t : Bytes),
    tag < 256 → TyOK env rk (env.length + 1) ty → DfltOK ty dflt → WT env ty v →
    OldOK env ty dflt old → (req = false → NextTagGt tag t) → needVar v ≤ fuel →
    r.rest = encVar env tag req ty dflt v ++ t →
    decVar env fuel tag req ty old r
      = (.ok (normVar env req ty dflt v), r.adv (encVar env tag req ty dflt v).length)

/-- What the proof needs of the value `old` held by the target: what `ResetDefault` leaves there, or
    — for a required member, whose read overwrites whatever it finds — any value of the member's
    type.  (An absent optional member keeps the target's content, hence `OldOK` for those.)
    Inside the struct round trip every target is as `ResetDefault` left it; the second case serves
    the arguments and results of a call (`CallPath.decVar_arg_rt`), which are read into whatever the
    caller's variable holds, and it travels down through the elements of fixed arrays. -/
def Held (env : Env) (req : Bool) (ty : Ty) (dflt : Option Val) (old : Val) : Prop :=
  OldOK env ty dflt old ∨ (req = true ∧ WT env ty old)

/-- `RT` at one fuel, with the weaker requirements `Held` on the target and, on what follows, a
    condition only where it is looked at: behind a member that is not written.  A member that is
    written (every required one, every struct) decodes whatever follows it. -/
def RTHeldAt (env : Env) (rk : String → Nat) (fuel : Nat) (v : Val) : Prop :=
  ∀ (tag : Nat) (req : Bool) (ty : Ty) (dflt : Option Val) (old : Val) (r : Reader) (t : Bytes),
    tag < 256 → TyOK env rk (env.length + 1) ty → DfltOK ty dflt → WT env ty v →
    Held env req ty dflt old → (omitted req ty dflt v = true → NextTagGt tag t) → needVar v ≤ fuel →
    r.rest = encVar env tag req ty dflt v ++ t →
    decVar env fuel tag req ty old r
      = (.ok (normVar env req ty dflt v), r.adv (encVar env tag req ty dflt v).length)

theorem RTHeldAt.rt {env : Env} {rk : String → Nat} {v : Val} (h : ∀ fuel, RTHeldAt env rk fuel v) :
    RT env rk v :=
  fun fuel tag req ty dflt old r t htag hty hd hwt ho hnt =>
    h fuel tag req ty dflt old r t htag hty hd hwt (.inl ho) fun hom => hnt (omitted.not_req hom)

/-- an element, a map key or a map value: required and without default, so it is written whatever it
    holds and nothing is asked of what follows -/
theorem RTHeldAt.elem {env : Env} {rk : String → Nat} {F : Nat} {v : Val} (h : RTHeldAt env rk F v)
    {tag : Nat} {e : Ty} {old : Val} {r : Reader} {t : Bytes} (htag : tag < 256)
    (he : TyOK env rk (env.length + 1) e) (hwt : WT env e v) (ho : Held env true e none old)
    (hF : needVar v ≤ F) (hr : r.rest = encVar env tag true e none v ++ t) :
    decVar env F tag true e old r
      = (.ok (normVar env true e none v), r.adv (encVar env tag true e none v).length) :=
  h tag true e none old r t htag he trivial hwt ho (fun hom => nomatch omitted.not_req hom) hF hr

/-! ## targets have the Go type of their member -/

theorem targetOk_of_wt {env : Env} {ty : Ty} {w : Val} (h : WT env ty w) :
    Evolve.targetOk env ty w = true :=
  WT.ind (P := fun ty w => Evolve.targetOk env ty w = true)
    (fun {ty w} _ hw => by
      rcases hw.shape with ⟨b, rfl, rfl⟩ | ⟨i, rfl⟩ | ⟨b, rfl, rfl⟩ | ⟨b, rfl, rfl⟩ | ⟨s, rfl, rfl⟩
      case inr.inl => cases ty <;> simp only [ScalarOK] at hw <;> simp [Evolve.targetOk] <;> omega
      all_goals rfl)
    (fun hty _ _ => by rcases hty with rfl | rfl <;> rfl)
    (fun _ _ _ => rfl)
    (fun hfs _ _ => Evolve.targetOk_struct hfs _) w ty h

theorem Held.targetOk {env : Env} {req : Bool} {ty : Ty} {dflt : Option Val} {old : Val}
    (hd : DfltOK ty dflt) (ho : Held env req ty dflt old) : Evolve.targetOk env ty old = true := by
  rcases ho with ho | ⟨_, ho⟩
  · by_cases hat : ty.isAtom = true
    · have hs := (OldOK.atom hat hd ho).1
      exact targetOk_of_wt ((WT_leaf hs.isLeaf).mpr hs)
    · cases dflt_none_of_nonatom hd (by simpa using hat)
      cases ty with
      | vec e => rfl
      | arr n e => rfl
      | map k v => rfl
      | struct name =>
        obtain ⟨fs, os, hfs, rfl, _⟩ := ready_structTy_inv (ho : Ready env (.struct name) old)
        exact Evolve.targetOk_struct hfs _
      | _ => simp [Ty.isAtom, Ty.isScalar] at hat
  · exact targetOk_of_wt ho

theorem targetOk_of_oldOK {env : Env} {ty : Ty} {dflt : Option Val} {o : Val}
    (hd : DfltOK ty dflt) (ho : OldOK env ty dflt o) : Evolve.targetOk env ty o = true :=
  Held.targetOk (req := false) hd (.inl ho)

/-! ## the member that is not written -/

/-- an omitted member reads back as what `ResetDefault` left in the target -/
theorem normVar_omitted_old {env : Env} {req : Bool} {ty : Ty} {dflt : Option Val} {v old : Val}
    (hwt : WT env ty v) (hd : DfltOK ty dflt) (ho : OldOK env ty dflt old)
    (hom : omitted req ty dflt v = true) : normVar env req ty dflt v = old := by
  rcases normVar_omitted hwt hd hom with ⟨hat, h⟩ | ⟨rfl, ⟨e, rfl | rfl⟩, h⟩ | ⟨rfl, ⟨k, w, rfl⟩, h⟩ <;>
    rw [h]
  · exact (OldOK.atom hat hd ho).2.symm
  · exact (ready_vec ho).symm
  · obtain ⟨os, rfl, hos, _⟩ := ready_arr ho
    cases List.length_eq_zero_iff.mp hos
    rfl
  · exact (ready_map ho).symm

theorem decVar_omitted {env : Env} {req : Bool} {ty : Ty} {dflt : Option Val} {v old : Val}
    (F tag : Nat) (r : Reader) (hwt : WT env ty v) (hd : DfltOK ty dflt)
    (ho : Held env req ty dflt old) (hom : omitted req ty dflt v = true)
    (h : NextTagGt tag r.rest) :
    decVar env (F+1) tag req ty old r = (.ok (normVar env req ty dflt v), r) := by
  cases omitted.not_req hom
  have ho' : OldOK env ty dflt old := ho.elim id (fun h => nomatch h.1)
  have hns : Evolve.absentVal env F ty old = old := by
    cases ty with
    | struct S => obtain ⟨_, vs, _, rfl, _⟩ := WT_structTy_inv hwt; cases hom
    | _ => rfl
  rw [decVar_absent_opt env F ty old (ho.targetOk hd) r tag h, hns, normVar_omitted_old hwt hd ho' hom]

theorem RTHeldAt.of_present {env : Env} {rk : String → Nat} {F : Nat} {v : Val}
    (h : ∀ (tag : Nat) (req : Bool) (ty : Ty) (dflt : Option Val) (old : Val) (r : Reader)
      (t : Bytes), tag < 256 → TyOK env rk (env.length + 1) ty → DfltOK ty dflt → WT env ty v →
      Held env req ty dflt old → omitted req ty dflt v = false → needVar v ≤ F + 1 →
      r.rest = encVar env tag req ty dflt v ++ t →
      decVar env (F+1) tag req ty old r
        = (.ok (normVar env req ty dflt v), r.adv (encVar env tag req ty dflt v).length)) :
    RTHeldAt env rk (F+1) v := by
  intro tag req ty dflt old r t htag hty hd hwt ho hnt hfuel hr
  by_cases hom : omitted req ty dflt v = true
  · have he : encVar env tag req ty dflt v = [] := by
      rw [encVar_eq_render env v tag req ty dflt hwt, if_pos hom]
    rw [he] at hr ⊢
    rw [decVar_omitted F tag r hwt hd ho hom (hr ▸ hnt hom)]
    rfl
  · exact h tag req ty dflt old r t htag hty hd hwt ho (by simpa using hom) hfuel hr

/-! ## scalars -/

theorem leaf_step (env : Env) (rk : String → Nat) (f : Nat) (v : Val) (hl : v.isLeaf = true) :
    RTHeldAt env rk (f+1) v := by
  refine RTHeldAt.of_present fun tag req ty dflt old r t htag _ hd hwt ho hom _ h => ?_
  have hv := (WT_leaf hl).mp hwt
  have hat := scalarOK_isAtom hv
  have he : encVar env tag req ty dflt v = writeScalar ty v tag := by
    rw [encVar_scalarVal env tag req ty dflt v hv, hom]; rfl
  obtain ⟨wty, p, h16, hne, hw, hb⟩ := writeScalar_field ty v tag hv
  rw [he, hw] at h ⊢
  rw [decVar_eq_readWith env f ty old (ho.targetOk hd),
    memberBody_atom env f old ((Total.isAtom_eq ty).trans hat),
    readWith_field _ tag req h16 hne htag hb r t h,
    normVar_scalar_present env req ty dflt v hv hom]

end Tars
