import TarsModel.Proofs.ShortTR

/-!
  C06: the member loop of `ReadFrom` at the end of the input (`decMembers_eof`: optional members
  keep what `ResetDefault` gave them, `absentVals`; a required one is an error) and on any prefix
  of a struct body (`decMembers_prefix`), given the cut statement `TR` for the member values.
-/
namespace Tars
open Consts

/-! ### the members after the end of the input -/

/-- values of the members that are absent because the input has ended.  `F` = fuel of the member
    loop at that point (it only matters for the nested `ResetDefault` of struct members):
    `decMembers F` runs `decVar (F-1)` on its first member, which leaves `absentVal … (F-2)`, and
    `decMembers (F-1)` on the others -/
def absentVals (env : Env) : Nat → List Field → List Val → List Val
  | F, f :: fs, o :: os => Evolve.absentVal env (F - 2) f.ty o :: absentVals env (F - 1) fs os
  | _, _, _ => []

theorem decMembers_eof (env : Env) : ∀ (fs : List Field) (os : List Val) (F : Nat) (r : Reader),
    r.rest = [] → fs.length + 1 ≤ F → (∀ f ∈ fs, DfltOK f.ty f.dflt) → OldOKs env fs os →
    ((∀ f ∈ fs, f.req = false) → decMembers env F fs os r = (.ok (absentVals env F fs os), r)) ∧
    ((∃ f ∈ fs, f.req = true) → ∃ e r', decMembers env F fs os r = (.error e, r'))
  | [], [], F, r, _, hF, _, _ => by
    obtain ⟨F', rfl⟩ : ∃ F', F = F' + 1 := ⟨F - 1, by simp at hF; omega⟩
    exact ⟨fun _ => by rw [decMembers_nil]; rfl, fun ⟨f, hf, _⟩ => by simp at hf⟩
  | [], _ :: _, _, _, _, _, _, h => by simp [OldOKs] at h
  | _ :: _, [], _, _, _, _, _, h => by simp [OldOKs] at h
  | f :: fs, o :: os, F, r, hr, hF, hd, hold => by
    simp only [List.length_cons] at hF
    obtain ⟨F', rfl⟩ : ∃ F', F = F' + 2 := ⟨F - 2, by omega⟩
    simp only [OldOKs] at hold
    have hok := targetOk_of_oldOK (hd f (by simp)) hold.1
    have ih := decMembers_eof env fs os (F' + 1) r hr (by omega) (fun g hg => hd g (by simp [hg])) hold.2
    rw [decMembers_cons]
    cases hreq : f.req with
    | false =>
      rw [decVar_absent_opt env F' f.ty o hok r f.tag (Or.inl hr)]
      simp only
      constructor
      · intro hall
        rw [ih.1 (fun g hg => hall g (by simp [hg]))]
        simp [absentVals]
      · rintro ⟨g, hg, hgr⟩
        rcases List.mem_cons.mp hg with rfl | hg'
        · rw [hreq] at hgr; cases hgr
        · obtain ⟨e, r', he⟩ := ih.2 ⟨g, hg', hgr⟩
          rw [he]; exact ⟨e, r', rfl⟩
    | true =>
      obtain ⟨r1, hm⟩ := decVar_missing_req env F' f.ty o hok r f.tag (Or.inl hr)
      rw [hm]
      refine ⟨fun hall => ?_, fun _ => ⟨_, _, rfl⟩⟩
      have := hall f (by simp)
      rw [hreq] at this; cases this

theorem absentVals_getElem? (env : Env) : ∀ (fs : List Field) (os : List Val) (F i : Nat) (f : Field)
    (o : Val), fs[i]? = some f → os[i]? = some o →
    (absentVals env F fs os)[i]? = some (Evolve.absentVal env (F - i - 2) f.ty o)
  | [], _, _, _, _, _, hf, _ => by simp at hf
  | _ :: _, [], _, _, _, _, _, ho => by simp at ho
  | g :: gs, o0 :: os, F, 0, f, o, hf, ho => by
    simp at hf ho; subst hf ho; simp [absentVals]
  | g :: gs, o0 :: os, F, i + 1, f, o, hf, ho => by
    have := absentVals_getElem? env gs os (F - 1) i f o hf ho
    simp only [absentVals, List.getElem?_cons_succ]
    rw [this]
    congr 2; omega

/-! ### the member loop on a prefix of the struct body -/

theorem nextTagGt_or_half_of_prefix (env : Env) (tag : Nat) : ∀ (fs : List Field) (vs : List Val) (p : Bytes),
    (∀ f ∈ fs, tag < f.tag ∧ f.tag ≤ 255) → p <+: encMembers env fs vs → NextTagGt tag p ∨ HalfHead p
  | [], vs, p, _, h => by
    cases vs <;> simp [encMembers] at h <;> exact .inl (.inl h)
  | f :: fs, [], p, _, h => by simp [encMembers] at h; exact .inl (.inl h)
  | f :: fs, v :: vs, p, hfs, h => by
    simp only [encMembers] at h
    have hf := hfs f (by simp)
    rcases encVar_headAt env f.tag f.req f.ty f.dflt v with h0 | ⟨hty, rest, h16, hh⟩
    · rw [h0] at h
      exact nextTagGt_or_half_of_prefix env tag fs vs p (fun g hg => hfs g (by simp [hg])) (by simpa using h)
    · rw [hh, List.append_assoc] at h
      rcases prefix_append_cases p _ _ h with ⟨p', rfl, _⟩ | hc
      · exact .inl (.inr ⟨hty, f.tag, p', h16, by omega, .inr hf.1, rfl⟩)
      · exact (halfHead_of_cut h16 hc).imp .inl id

/-- where the input was cut relative to the boundary `P`: exactly there, or one byte later, that
    byte being the first of a two-byte head -/
def CutAt (p P : Bytes) : Prop := p = P ∨ ∃ b : Byte, b.val / 16 = 15 ∧ p = P ++ [b]

theorem CutAt.cons {p P : Bytes} (a : Bytes) (h : CutAt p P) : CutAt (a ++ p) (a ++ P) := by
  rcases h with rfl | ⟨b, hb, rfl⟩
  · exact .inl rfl
  · exact .inr ⟨b, hb, by simp⟩

theorem cutAt_nil_of {p : Bytes} (h : p = [] ∨ HalfHead p) : CutAt p [] := by
  rcases h with rfl | ⟨b, rfl, hb⟩
  · exact .inl rfl
  · exact .inr ⟨b, hb, rfl⟩

/-- outcome of the member loop of `ReadFrom` on a prefix `p` of the encoding of `vs`: an error, or
    exactly the values of the members whose fields are complete (`k` of them) followed by the
    `ResetDefault` values of the others, which are all optional; the input is exhausted -/
def LoopCut (env : Env) (fuel : Nat) (fs : List Field) (olds vs : List Val) (r : Reader) (p : Bytes) :
    Prop :=
  (∃ e r', decMembers env fuel fs olds r = (.error e, r')) ∨
  (∃ k r', k ≤ fs.length ∧ CutAt p (encMembers env (fs.take k) (vs.take k)) ∧
    (∀ f ∈ fs.drop k, f.req = false) ∧ r'.rest = [] ∧
    decMembers env fuel fs olds r =
      (.ok (normMembers env (fs.take k) (vs.take k) ++
            absentVals env (fuel - k) (fs.drop k) (olds.drop k)), r'))

theorem LoopCut.cons {env : Env} {F : Nat} {g : Field} {gs : List Field} {o v : Val}
    {os vs : List Val} {r r1 : Reader} {p' : Bytes}
    (hv : decVar env (F+1) g.tag g.req g.ty o r = (.ok (normVar env g.req g.ty g.dflt v), r1))
    (ih : LoopCut env (F+1) gs os vs r1 p') :
    LoopCut env (F+2) (g :: gs) (o :: os) (v :: vs) r (encVar env g.tag g.req g.ty g.dflt v ++ p') := by
  unfold LoopCut
  rw [decMembers_cons, hv]
  rcases ih with ⟨e, r', he⟩ | ⟨k, r', hk, hcut, hopt, hrest, hdec⟩
  · left; simp only [he]; exact ⟨e, r', rfl⟩
  · right
    refine ⟨k + 1, r', by simp; omega, by simpa [encMembers] using hcut.cons _,
      by simpa using hopt, hrest, ?_⟩
    simp only [hdec]
    simp [normMembers]

theorem LoopCut.absent {env : Env} {F : Nat} {g : Field} {gs : List Field} {o v : Val}
    {os vs : List Val} {r r' : Reader} {p : Bytes} (hd : ∀ f ∈ gs, DfltOK f.ty f.dflt) (hoks : OldOKs env gs os)
    (hf : gs.length ≤ F)
    (hr' : r'.rest = []) (hreq : g.req = false) (hp : p = [] ∨ HalfHead p)
    (hdec : decVar env (F+1) g.tag false g.ty o r = (.ok (Evolve.absentVal env F g.ty o), r')) :
    LoopCut env (F+2) (g :: gs) (o :: os) (v :: vs) r p := by
  have heof := decMembers_eof env gs os (F+1) r' hr' (by omega) hd hoks
  unfold LoopCut
  rw [decMembers_cons, hreq, hdec]
  by_cases hall : ∀ f' ∈ gs, f'.req = false
  · right
    refine ⟨0, r', by simp, by simpa [encMembers] using cutAt_nil_of hp, ?_, hr', ?_⟩
    · simpa [hreq] using hall
    · simp only [heof.1 hall]; simp [normMembers, absentVals]
  · left
    obtain ⟨e, r'', he⟩ := heof.2 (by simpa using hall)
    simp only [he]; exact ⟨e, r'', rfl⟩

theorem decMembers_prefix (env : Env) (rk : String → Nat) (hE : EnvWF env rk) :
    ∀ (vs : List Val), (∀ v ∈ vs, TR env rk v) →
      ∀ (fs : List Field) (olds : List Val) (fuel : Nat) (r : Reader) (p : Bytes),
      (∀ f ∈ fs, MemberOK env rk f) → TagsAsc fs → WTm env fs vs → OldOKs env fs olds →
      p <+: encMembers env fs vs → (env.width + 3) * p.length + fs.length + 2 ≤ fuel → r.rest = p →
      LoopCut env fuel fs olds vs r p
  | [], _, fs, olds, fuel, r, p, _, _, hwt, hold, hpre, hfuel, hr => by
    cases fs with
    | cons g gs => simp [WTm] at hwt
    | nil =>
      cases olds with
      | cons _ _ => simp [OldOKs] at hold
      | nil =>
        have hp : p = [] := by simpa [encMembers] using hpre
        subst hp
        obtain ⟨F, rfl⟩ : ∃ F, fuel = F + 1 := ⟨fuel - 1, by omega⟩
        right
        exact ⟨0, r, by simp, .inl (by simp [encMembers]), by simp, hr,
          by rw [decMembers_nil]; simp [normMembers, absentVals]⟩
  | v :: vs, ih, fs, olds, fuel, r, p, hfs, hasc, hwt, hold, hpre, hfuel, hr => by
    cases fs with
    | nil => simp [WTm] at hwt
    | cons g gs =>
      cases olds with
      | nil => simp [OldOKs] at hold
      | cons o os =>
        simp only [WTm] at hwt
        simp only [OldOKs] at hold
        simp only [encMembers] at hpre
        simp only [List.length_cons] at hfuel
        obtain ⟨htag, htyok, hd⟩ := hfs g (by simp)
        have hasc' := List.pairwise_cons.mp hasc
        have hds : ∀ f ∈ gs, DfltOK f.ty f.dflt := fun f hf => (hfs f (by simp [hf])).2.2
        have hok0 := targetOk_of_oldOK hd hold.1
        obtain ⟨F, rfl⟩ : ∃ F, fuel = F + 2 := ⟨fuel - 2, by omega⟩
        have tail := fun (r1 : Reader) (p' : Bytes) (hp' : p' <+: encMembers env gs vs)
            (hfu : (env.width + 3) * p'.length + gs.length + 2 ≤ F + 1) (hr1 : r1.rest = p') =>
          decMembers_prefix env rk hE vs (fun w hw => ih w (by simp [hw])) gs os (F+1) r1 p'
            (fun f' hf' => hfs f' (by simp [hf'])) hasc'.2 hwt.2 hold.2 hp' hfu hr1
        rcases prefix_append_cases p _ _ hpre with ⟨p', rfl, hp'⟩ | hc
        · -- the member's field is complete (empty for an `omitted` member)
          have hneed := (fuelOK_all env v g.ty hwt.1 g.tag g.req g.dflt).1
          simp only [List.length_append, Nat.mul_add] at hfuel
          have hcls := nextTagGt_or_half_of_prefix env g.tag gs vs p'
            (fun f' hf' => ⟨hasc'.1 f' hf', Nat.le_of_lt_succ (hfs f' (by simp [hf'])).1⟩) hp'
          by_cases hh : omitted g.req g.ty g.dflt v = true ∧ HalfHead p'
          · -- `omitted`, and all that is left is half the head of a later member
            have he0 : encVar env g.tag g.req g.ty g.dflt v = [] := by
              rw [encVar_eq_render env v g.tag g.req g.ty g.dflt hwt.1, if_pos hh.1]
            rw [he0, List.nil_append] at hr ⊢
            obtain ⟨r', hrest, hdec⟩ := decVar_no_head env F g.ty o hok0 g.tag false hr (.inr hh.2)
            exact LoopCut.absent hds hold.2 (by omega) hrest (omitted.not_req hh.1) (.inr hh.2) hdec
          · exact LoopCut.cons
              (rtHeldAt_all env rk hE v (F+1) g.tag g.req g.ty g.dflt o r p' htag htyok hd hwt.1
                (.inl hold.1) (fun hom => hcls.resolve_right fun h => hh ⟨hom, h⟩) (by omega) hr)
              (tail _ p' hp' (by omega) (r.rest_adv hr))
        · -- the cut is inside this member's field
          rcases ih v (by simp) (F+1) g.tag g.req g.ty g.dflt o r p htag htyok hd hwt.1
            hold.1 hc (by omega) hr with ⟨e, r', he⟩ | ⟨hreq, hq, r', hdec, hrest⟩
          · left; rw [decMembers_cons, he]; exact ⟨e, r', rfl⟩
          · exact LoopCut.absent hds hold.2 (by omega) hrest hreq hq (by simpa [hreq] using hdec)

end Tars
