import TarsModel.Proofs.MemberScalar
import TarsModel.Proofs.SchemaUnfold

/-!
  Well-formed environments and well-shaped decode targets for C05; zero values and `ResetDefault`
  keep a target well-shaped.
-/
namespace Tars
open Consts

mutual
/-- the target value has the shape the generated code's static types guarantee (as far as the
    decoder looks at it) -/
inductive Shape (env : Env) : Ty → Val → Prop
  | scalar {ty : Ty} {v : Val} : ScalarShape ty v → Shape env ty v
  | vec {e : Ty} {v : Val} : Shape env (.vec e) v
  | map {k v : Ty} {x : Val} : Shape env (.map k v) x
  | arr {n : Nat} {e : Ty} {vs : List Val} : ShapeAll env e vs → Shape env (.arr n e) (.list vs)
  | struct {name : String} {fs : List Field} {ovs : List Val} :
      env.find name = some fs → ShapeMembers env fs ovs → Shape env (.struct name) (.struct ovs)
inductive ShapeAll (env : Env) : Ty → List Val → Prop
  | nil {e : Ty} : ShapeAll env e []
  | cons {e : Ty} {v : Val} {vs : List Val} : Shape env e v → ShapeAll env e vs → ShapeAll env e (v :: vs)
inductive ShapeMembers (env : Env) : List Field → List Val → Prop
  | nilL {vs : List Val} : ShapeMembers env [] vs
  | nilR {fs : List Field} : ShapeMembers env fs []
  | cons {f : Field} {fs : List Field} {v : Val} {vs : List Val} :
      Shape env f.ty v → ShapeMembers env fs vs → ShapeMembers env (f :: fs) (v :: vs)
end

def TyClosed (env : Env) : Ty → Prop
  | .vec e => TyClosed env e
  | .arr _ e => TyClosed env e
  | .map k v => TyClosed env k ∧ TyClosed env v
  | .struct name => ∃ fs, env.find name = some fs
  | _ => True

/-- No acyclicity is asked of the struct definitions. -/
structure EnvClosed (env : Env) : Prop where
  closed : ∀ name fs, env.find name = some fs → ∀ f, f ∈ fs → TyClosed env f.ty
  dflt : ∀ name fs, env.find name = some fs → ∀ f, f ∈ fs → ∀ d, f.dflt = some d → Shape env f.ty d

theorem envClosed_single {name : String} {fs : List Field}
    (hc : ∀ f, f ∈ fs → TyClosed [(name, fs)] f.ty) (hd : ∀ f, f ∈ fs → f.dflt = none) :
    EnvClosed [(name, fs)] := by
  have one : ∀ {n gs}, Env.find [(name, fs)] n = some gs → gs = fs := fun h => by
    simp only [Env.find] at h
    split at h
    · exact (Option.some.inj h).symm
    · cases h
  constructor
  · intro n gs h f hf
    cases one h; exact hc f hf
  · intro n gs h f hf d hfd
    cases one h; rw [hd f hf] at hfd; cases hfd

theorem shapeAll_replicate {env : Env} {e : Ty} {v : Val} (h : Shape env e v) (n : Nat) :
    ShapeAll env e (List.replicate n v) := by
  induction n with
  | zero => exact ShapeAll.nil
  | succ n ih => exact ShapeAll.cons h ih

theorem scalarShape_zero (ty : Ty) (h : Total.isAtom ty = true) (hne : ty ≠ .enum) :
    ScalarShape ty (scalarZero ty) := by
  cases ty <;> simp [Total.isAtom] at h <;> simp [scalarZero, ScalarShape] at hne ⊢

theorem shape_zeroVal_of {env : Env} {fuel : Nat}
    (hS : ∀ name, TyClosed env (.struct name) → Shape env (.struct name) (zeroVal env fuel (.struct name))) :
    ∀ ty : Ty, TyClosed env ty → Shape env ty (zeroVal env fuel ty) := by
  intro ty
  induction ty with
  | vec e _ => intro _; unfold zeroVal; exact Shape.vec
  | map k v _ _ => intro _; unfold zeroVal; exact Shape.map
  | arr n e ih => intro h; unfold zeroVal; exact Shape.arr (shapeAll_replicate (ih h) n)
  | struct name => exact hS name
  | enum => intro _; unfold zeroVal; exact Shape.scalar (by simp [ScalarShape])
  | _ => intro _; unfold zeroVal; exact Shape.scalar (by simp [ScalarShape, scalarZero])

theorem shapeMembers_map {env : Env} (z : Ty → Val) : ∀ fs : List Field,
    (∀ f, f ∈ fs → Shape env f.ty (z f.ty)) → ShapeMembers env fs (fs.map fun g => z g.ty) := by
  intro fs
  induction fs with
  | nil => intro _; exact ShapeMembers.nilL
  | cons g gs ih =>
    intro h
    exact ShapeMembers.cons (h g List.mem_cons_self) (ih fun f hf => h f (List.mem_cons_of_mem _ hf))

theorem shape_zeroVal {env : Env} (hwf : EnvClosed env) : ∀ (fuel : Nat) (ty : Ty), TyClosed env ty →
    Shape env ty (zeroVal env fuel ty) := by
  intro fuel
  induction fuel with
  | zero =>
    refine shape_zeroVal_of fun name ⟨fs, hfs⟩ => ?_
    unfold zeroVal; exact Shape.struct hfs ShapeMembers.nilR
  | succ fuel ihf =>
    refine shape_zeroVal_of fun name ⟨fs, hfs⟩ => ?_
    unfold zeroVal
    simp only [hfs]
    exact Shape.struct hfs (shapeMembers_map _ fs fun f hf => ihf f.ty (hwf.closed name fs hfs f hf))

theorem shape_zeroOf {env : Env} (hwf : EnvClosed env) {ty : Ty} (h : TyClosed env ty) :
    Shape env ty (zeroOf env ty) := shape_zeroVal hwf _ ty h

theorem Shape.struct_inv {env : Env} {name : String} {v : Val} (h : Shape env (.struct name) v) :
    ∃ fs ovs, v = .struct ovs ∧ env.find name = some fs := by
  cases h with
  | scalar hs => simp [ScalarShape] at hs
  | struct hfs _ => exact ⟨_, _, rfl, hfs⟩

theorem Shape.members {env : Env} {name : String} {fs : List Field} {ovs : List Val}
    (h : Shape env (.struct name) (.struct ovs)) (hfs : env.find name = some fs) :
    ShapeMembers env fs ovs := by
  cases h with
  | scalar hs => simp [ScalarShape] at hs
  | struct hfs' hm => cases hfs.symm.trans hfs'; exact hm

theorem Shape.arr_inv {env : Env} {n : Nat} {e : Ty} {v : Val} (h : Shape env (.arr n e) v) :
    ∃ vs, v = .list vs ∧ ShapeAll env e vs := by
  cases h with
  | scalar hs => simp [ScalarShape] at hs
  | arr ha => exact ⟨_, rfl, ha⟩

theorem Shape.atom_inv {env : Env} {ty : Ty} {v : Val} (hat : Total.isAtom ty = true)
    (h : Shape env ty v) : ScalarShape ty v := by
  cases h with
  | scalar hs => exact hs
  | _ => simp [Total.isAtom] at hat

theorem shape_resetDefault {env : Env} (hwf : EnvClosed env) : ∀ (fuel : Nat) {name : String}
    {fs : List Field}, env.find name = some fs → ∀ {vs : List Val},
    ShapeMembers env fs vs → ShapeMembers env fs (resetDefault env fuel fs vs) := by
  intro fuel
  induction fuel with
  | zero => intro _ fs _ vs h; rw [resetDefault_fuel0]; exact h
  | succ fuel ihf =>
    intro name fs hfs
    have hc := hwf.closed name fs hfs
    have hd := hwf.dflt name fs hfs
    -- the induction over the members keeps these two; a tail of `fs` is no struct of `env`
    clear hfs
    induction fs with
    | nil => intro vs _; rw [Evolve.resetDefault_nil_left]; exact ShapeMembers.nilL
    | cons f fs ih =>
      intro vs hs
      cases vs with
      | nil => rw [Evolve.resetDefault_nil_right]; exact ShapeMembers.nilR
      | cons v vs =>
        rw [Evolve.resetDefault_cons]
        unfold Evolve.resetMember
        cases hs with
        | cons hv hrest =>
          refine ShapeMembers.cons ?_ (ih (fun g hg => hc g (List.mem_cons_of_mem _ hg))
            (fun g hg => hd g (List.mem_cons_of_mem _ hg)) hrest)
          split
          · rename_i d hdf
            exact hd f List.mem_cons_self d hdf
          · split
            · split
              · rename_i name inner hty
                rw [hty] at hv ⊢
                split
                · rename_i ifs hfind
                  exact Shape.struct hfind (ihf hfind (hv.members hfind))
                · exact hv
              · exact hv
            · rename_i n s hty
              split
              · rename_i ifs hfind
                rw [hty]
                exact Shape.arr (shapeAll_replicate (Shape.struct hfind (ihf hfind
                  (shapeMembers_map _ ifs fun g hg => shape_zeroOf hwf (hwf.closed s ifs hfind g hg)))) n)
              · exact shape_zeroOf hwf (hc f List.mem_cons_self)
            · exact shape_zeroOf hwf (hc f List.mem_cons_self)

theorem shapeAll_getD {env : Env} {e : Ty} {vs : List Val} {d : Val} (h : ShapeAll env e vs)
    (hd : Shape env e d) (j : Nat) : Shape env e (vs.getD j d) := by
  induction vs generalizing j with
  | nil => simpa using hd
  | cons v vs ih =>
    cases h with
    | cons hv hrest =>
      cases j with
      | zero => simpa using hv
      | succ j => simpa using ih hrest j

theorem getD_listSet_ne (cur : List Val) (i j : Nat) (v d : Val) (h : i ≠ j) :
    (listSet cur i v).getD j d = cur.getD j d := by
  unfold listSet
  simp [List.getD_eq_getElem?_getD, List.getElem?_set_ne h]

end Tars
