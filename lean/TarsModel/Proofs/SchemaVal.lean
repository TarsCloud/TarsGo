import TarsModel.Proofs.SchemaSpec
import TarsModel.Proofs.SchemaUnfold

/-!
# Values, types and schemas: the facts about the specification vocabulary itself

No reader, no writer: induction over `Val` and over `WT`, what a member declaration of a well-formed
schema provides (`MemberOK`), and the measure `needVar`.
-/
namespace Tars
open Consts

def Val.isLeaf : Val → Bool
  | .list _ | .map _ | .struct _ => false
  | _ => true

/-- structural induction over the nested inductive `Val`, the five kinds of leaves as one case -/
theorem Val.ind_leaf {P : Val → Prop} (leaf : ∀ v, v.isLeaf = true → P v)
    (hl : ∀ vs, (∀ v ∈ vs, P v) → P (.list vs))
    (hm : ∀ kvs : List (Val × Val), (∀ p ∈ kvs, P p.1 ∧ P p.2) → P (.map kvs))
    (ht : ∀ vs, (∀ v ∈ vs, P v) → P (.struct vs)) : ∀ v, P v := by
  intro v
  refine Val.rec (motive_1 := P) (motive_2 := fun vs => ∀ v ∈ vs, P v)
    (motive_3 := fun kvs => ∀ p ∈ kvs, P p.1 ∧ P p.2) (motive_4 := fun p => P p.1 ∧ P p.2)
    (fun _ => leaf _ rfl) (fun _ => leaf _ rfl) (fun _ => leaf _ rfl) (fun _ => leaf _ rfl)
    (fun _ => leaf _ rfl) hl hm ht ?_ ?_ ?_ ?_ ?_ v
  · intro v hv; cases hv
  · intro h t ih1 ih2 v hv
    rcases List.mem_cons.mp hv with rfl | hv
    · exact ih1
    · exact ih2 v hv
  · intro p hp; cases hp
  · intro h t ih1 ih2 p hp
    rcases List.mem_cons.mp hp with rfl | hp
    · exact ih1
    · exact ih2 p hp
  · intro a b ha hb; exact ⟨ha, hb⟩

/-! ## scalars -/

theorem ScalarOK.shape {ty : Ty} {v : Val} (h : ScalarOK ty v) :
    (∃ b, ty = .bool ∧ v = .bool b) ∨ (∃ i, v = .int i) ∨ (∃ b, ty = .f32 ∧ v = .f32 b) ∨
    (∃ b, ty = .f64 ∧ v = .f64 b) ∨ (∃ s, ty = .str ∧ v = .str s) := by
  unfold ScalarOK at h
  split at h <;> first | cases h | skip
  all_goals simp

theorem ScalarOK.isLeaf {ty : Ty} {v : Val} (h : ScalarOK ty v) : v.isLeaf = true := by
  rcases h.shape with ⟨_, _, rfl⟩ | ⟨_, rfl⟩ | ⟨_, _, rfl⟩ | ⟨_, _, rfl⟩ | ⟨_, _, rfl⟩ <;> rfl

theorem scalarOK_int_range {ty : Ty} {i : Int} (h : ScalarOK ty (.int i)) :
    -(2:Int)^63 ≤ i ∧ i < (2:Int)^63 := by
  cases ty <;> simp only [ScalarOK] at h <;> omega

theorem scalarOK_isAtom {ty : Ty} {v : Val} (h : ScalarOK ty v) : ty.isAtom = true := by
  cases ty <;> first | rfl | (cases v <;> cases h)

/-- `Ty.isAtom` (the specification's word) and `Total.isAtom` (the decoder's: read by
    `readBuf.Read<T>`) are the same types -/
theorem Total.isAtom_eq (ty : Ty) : Total.isAtom ty = ty.isAtom := by
  cases ty <;> rfl

theorem scalarOK_zero {ty : Ty} (h : ty.isAtom = true) : ScalarOK ty (scalarZero ty) := by
  cases ty <;> first | (simp [ScalarOK, scalarZero]; done) | cases h

theorem WT_leaf {env : Env} {ty : Ty} {v : Val} (h : v.isLeaf = true) :
    WT env ty v ↔ ScalarOK ty v := by
  cases v <;> first | (cases h; done) | simp only [WT]

theorem WT_atom {env : Env} {ty : Ty} {w : Val} (hat : ty.isAtom = true) (h : WT env ty w) :
    ScalarOK ty w := by
  cases w with
  | list _ => cases ty <;> first | (simp only [WT] at h; done) | cases hat
  | map _ => cases ty <;> first | (simp only [WT] at h; done) | cases hat
  | struct _ => cases ty <;> first | (simp only [WT] at h; done) | cases hat
  | _ => exact (WT_leaf rfl).mp h

/-! ## containers and structs -/

theorem WTs_mem {env : Env} {e : Ty} : ∀ {vs : List Val}, WTs env e vs → ∀ v ∈ vs, WT env e v
  | [], _, v, hv => by cases hv
  | x :: xs, h, v, hv => by
    simp only [WTs] at h
    rcases List.mem_cons.mp hv with rfl | hv
    · exact h.1
    · exact WTs_mem h.2 v hv

theorem WTs_of_mem {env : Env} {e : Ty} : ∀ {vs : List Val}, (∀ v ∈ vs, WT env e v) → WTs env e vs
  | [], _ => trivial
  | v :: vs, h => by
    simp only [WTs]
    exact ⟨h v (by simp), WTs_of_mem fun w hw => h w (by simp [hw])⟩

theorem WTp_mem {env : Env} {k v : Ty} : ∀ {kvs : List (Val × Val)}, WTp env k v kvs →
    ∀ p ∈ kvs, WT env k p.1 ∧ WT env v p.2
  | [], _, p, hp => by cases hp
  | (a, b) :: xs, h, p, hp => by
    simp only [WTp] at h
    rcases List.mem_cons.mp hp with rfl | hp
    · exact ⟨h.1, h.2.1⟩
    · exact WTp_mem h.2.2 p hp

theorem WTm_length {env : Env} : ∀ {fs : List Field} {vs : List Val}, WTm env fs vs →
    vs.length = fs.length
  | [], [], _ => rfl
  | [], _ :: _, h => by simp [WTm] at h
  | _ :: _, [], h => by simp [WTm] at h
  | _ :: fs, _ :: vs, h => by
    simp only [WTm] at h
    simp [WTm_length h.2]

theorem WTm.take {env : Env} : ∀ {fs : List Field} {vs : List Val} (k : Nat), WTm env fs vs →
    WTm env (fs.take k) (vs.take k)
  | [], [], _, _ => by simp [WTm]
  | [], _ :: _, _, h => by simp [WTm] at h
  | _ :: _, [], _, h => by simp [WTm] at h
  | _ :: _, _ :: _, 0, _ => by simp [WTm]
  | _ :: fs, _ :: vs, k+1, h => by
    simp only [WTm, List.take_succ_cons] at h ⊢
    exact ⟨h.1, WTm.take k h.2⟩

theorem WT_list_inv {env : Env} {ty : Ty} {vs : List Val} (h : WT env ty (.list vs)) :
    ∃ e, (ty = .vec e ∨ ty = .arr vs.length e) ∧ vs.length < 2^31 ∧ WTs env e vs := by
  cases ty <;> simp only [WT] at h
  · exact ⟨_, .inl rfl, h.1, h.2⟩
  · obtain ⟨rfl, hn, hw⟩ := h
    exact ⟨_, .inr rfl, hn, hw⟩

theorem WT_map_inv {env : Env} {ty : Ty} {kvs : List (Val × Val)} (h : WT env ty (.map kvs)) :
    ∃ k v, ty = .map k v ∧ kvs.length < 2^31 ∧ KeysDistinct kvs ∧ WTp env k v kvs := by
  cases ty <;> simp only [WT] at h
  exact ⟨_, _, rfl, h⟩

theorem WT_struct_inv {env : Env} {ty : Ty} {vs : List Val} (h : WT env ty (.struct vs)) :
    ∃ S fs, ty = .struct S ∧ env.find S = some fs ∧ WTm env fs vs := by
  cases ty <;> simp only [WT] at h
  rename_i S
  cases hfs : env.find S with
  | none => simp [hfs] at h
  | some fs => exact ⟨S, fs, rfl, hfs, by simpa [hfs] using h⟩

theorem WT_structTy_inv {env : Env} {S : String} {v : Val} (h : WT env (.struct S) v) :
    ∃ fs vs, env.find S = some fs ∧ v = .struct vs ∧ WTm env fs vs := by
  cases v with
  | struct vs =>
    obtain ⟨_, fs, hS, hfs, hw⟩ := WT_struct_inv h
    cases hS
    exact ⟨fs, vs, hfs, rfl, hw⟩
  | _ => simp only [WT, ScalarOK] at h

theorem WellTyped.members {env : Env} {rk : String → Nat} {S : String} {fs : List Field} {vs : List Val}
    (hW : WellTyped env rk S (.struct vs)) (hfs : env.find S = some fs) : WTm env fs vs := by
  simpa [WT, hfs] using hW.2

/-- induction over a well-typed value: `WT` is taken apart once, here, and every case has the type
    at hand; the members of a struct come with the hypothesis at whatever type they have -/
theorem WT.ind {env : Env} {P : Ty → Val → Prop}
    (leaf : ∀ {ty v}, v.isLeaf = true → ScalarOK ty v → P ty v)
    (list : ∀ {ty e vs}, (ty = .vec e ∨ ty = .arr vs.length e) → vs.length < 2^31 →
      (∀ v ∈ vs, WT env e v ∧ P e v) → P ty (.list vs))
    (map : ∀ {k w kvs}, kvs.length < 2^31 → KeysDistinct kvs →
      (∀ p ∈ kvs, (WT env k p.1 ∧ P k p.1) ∧ (WT env w p.2 ∧ P w p.2)) → P (.map k w) (.map kvs))
    (struct : ∀ {S fs vs}, env.find S = some fs → WTm env fs vs →
      (∀ v ∈ vs, ∀ ty, WT env ty v → P ty v) → P (.struct S) (.struct vs)) :
    ∀ v ty, WT env ty v → P ty v :=
  Val.ind_leaf (fun _ hl _ h => leaf hl ((WT_leaf hl).mp h))
    (fun vs ih ty h => by
      obtain ⟨e, hty, hlen, hw⟩ := WT_list_inv h
      exact list hty hlen fun v hv => ⟨WTs_mem hw v hv, ih v hv e (WTs_mem hw v hv)⟩)
    (fun kvs ih ty h => by
      obtain ⟨k, w, rfl, hlen, hd, hw⟩ := WT_map_inv h
      exact map hlen hd fun p hp => ⟨⟨(WTp_mem hw p hp).1, (ih p hp).1 k (WTp_mem hw p hp).1⟩,
        (WTp_mem hw p hp).2, (ih p hp).2 w (WTp_mem hw p hp).2⟩)
    (fun vs ih ty h => by
      obtain ⟨S, fs, rfl, hfs, hw⟩ := WT_struct_inv h
      exact struct hfs hw ih)

theorem TyOK.mono {env : Env} {rk : String → Nat} {b b' : Nat} (hb : b ≤ b') :
    ∀ {ty : Ty}, TyOK env rk b ty → TyOK env rk b' ty := by
  intro ty
  induction ty with
  | vec e _ => simp only [TyOK]; exact id
  | arr n e ih => simp only [TyOK]; exact fun h => ⟨h.1, h.2.1, ih h.2.2⟩
  | map k v _ _ => simp only [TyOK]; exact id
  | struct name => simp only [TyOK]; exact fun h => ⟨h.1, by omega⟩
  | _ => simp [TyOK]

/-! ## member declarations -/

def DfltOK (ty : Ty) (dflt : Option Val) : Prop :=
  match dflt with
  | none => True
  | some d => ty.isAtom = true ∧ ScalarOK ty d

theorem FieldOK.dfltOK {env : Env} {rk : String → Nat} {b : Nat} {f : Field}
    (h : FieldOK env rk b f) : DfltOK f.ty f.dflt := h.2.2

/-- what the read of a member asks of its declaration: `FieldOK` without the rank -/
def MemberOK (env : Env) (rk : String → Nat) (f : Field) : Prop :=
  f.tag < 256 ∧ TyOK env rk (env.length + 1) f.ty ∧ DfltOK f.ty f.dflt

theorem EnvWF.memberOK {env : Env} {rk : String → Nat} (hE : EnvWF env rk) {S : String}
    {fs : List Field} (hfs : env.find S = some fs) : ∀ f ∈ fs, MemberOK env rk f := fun f hf =>
  have ⟨hrk, _, hok⟩ := hE S fs hfs
  ⟨by have := (hok f hf).1; omega, TyOK.mono (by omega) (hok f hf).2.1, (hok f hf).dfltOK⟩

theorem EnvWF.tagsAsc {env : Env} {rk : String → Nat} (hE : EnvWF env rk) {S : String}
    {fs : List Field} (hfs : env.find S = some fs) : TagsAsc fs := (hE S fs hfs).2.1

theorem dflt_none_of_nonatom {ty : Ty} {dflt : Option Val} (hd : DfltOK ty dflt)
    (h : ty.isAtom = false) : dflt = none := by
  cases dflt with
  | none => rfl
  | some d => simp [DfltOK, h] at hd

/-! ## the call depth of `decVar` on the encoding of a value (the fuel it needs) -/

mutual
def needVar : Val → Nat
  | .list vs => 1 + needElems vs
  | .map kvs => 1 + needPairs kvs
  | .struct vs => 1 + needElems vs
  | _ => 1
def needElems : List Val → Nat
  | [] => 1
  | v :: vs => 1 + max (needVar v) (needElems vs)
def needPairs : List (Val × Val) → Nat
  | [] => 1
  | (a, b) :: rest => 1 + max (max (needVar a) (needVar b)) (needPairs rest)
end

theorem needVar_pos (v : Val) : 1 ≤ needVar v := by
  cases v <;> simp [needVar]

theorem needVar_leaf {v : Val} (h : v.isLeaf = true) : needVar v = 1 := by
  cases v <;> first | rfl | cases h

theorem needElems_pos (vs : List Val) : 1 ≤ needElems vs := by
  cases vs <;> simp [needElems]

theorem needPairs_pos (kvs : List (Val × Val)) : 1 ≤ needPairs kvs := by
  cases kvs <;> simp [needPairs]

end Tars
