import TarsModel.Proofs.MemberScalar
import TarsModel.Proofs.SchemaUnfold

/-!
  The generated read of one member as the program it is: `SkipToNoCheck(tag, require)`, then — only
  when the head was found — the switch on the wire type, `memberBody`.  What is said about a member
  read (absent, missing, mistyped, cut short, round trip) is said about one of the two halves.
-/
namespace Tars
open Consts

namespace Evolve

/-- the target variable has the Go type the schema says (top level only): the generated code is
    statically typed, so this always holds in Go; unsigned targets are within their range -/
def targetOk (env : Env) (ty : Ty) (old : Val) : Bool :=
  match ty, old with
  | .bool, .bool _ | .i8, .int _ | .i16, .int _ | .i32, .int _ | .i64, .int _ | .enum, .int _
  | .f32, .f32 _ | .f64, .f64 _ | .str, .str _ => true
  | .u8, .int i => decide (0 ≤ i ∧ i < 2 ^ 8)
  | .u16, .int i => decide (0 ≤ i ∧ i < 2 ^ 16)
  | .u32, .int i => decide (0 ≤ i ∧ i < 2 ^ 32)
  | .vec _, _ | .arr _ _, _ | .map _ _, _ => true
  | .struct name, .struct _ => (env.find name).isSome
  | _, _ => false

/-- what an absent optional member leaves in the target: the previous value; for a nested struct
    the previous value after `ResetDefault` (generated `ReadBlock` calls it before looking) -/
def absentVal (env : Env) (fuel : Nat) (ty : Ty) (old : Val) : Val :=
  match ty, old with
  | .struct name, .struct ovs =>
    match env.find name with
    | some fs => .struct (resetDefault env fuel fs ovs)
    | none => old
  | _, _ => old

theorem targetOk_struct {env : Env} {name : String} {fs : List Field} (h : env.find name = some fs)
    (ovs : List Val) : targetOk env (.struct name) (.struct ovs) = true :=
  congrArg Option.isSome h

end Evolve

/-! ### scalars -/

/-- the switch on the wire type that `readBuf.Read<T>` runs behind `SkipToNoCheck`: `ReadBool` and
    `ReadUintN` are conversions of `ReadInt8` and of the next wider `ReadIntN` -/
def scalarBody : Ty → Nat → RM Val
  | .bool, w => fun r1 => mapRes (fun n : Int => .bool !(n == 0)) (intBody 1 w r1)
  | .i8, w => fun r1 => mapRes .int (intBody 1 w r1)
  | .u8, w => fun r1 => mapRes (fun n => .int (toU 8 n)) (intBody 2 w r1)
  | .i16, w => fun r1 => mapRes .int (intBody 2 w r1)
  | .u16, w => fun r1 => mapRes (fun n => .int (toU 16 n)) (intBody 4 w r1)
  | .i32, w | .enum, w => fun r1 => mapRes .int (intBody 4 w r1)
  | .u32, w => fun r1 => mapRes (fun n => .int (toU 32 n)) (intBody 8 w r1)
  | .i64, w => fun r1 => mapRes .int (intBody 8 w r1)
  | .f32, w => fun r1 => mapRes .f32 (f32Body w r1)
  | .f64, w => fun r1 => mapRes .f64 (f64Body w r1)
  | _, w => fun r1 => mapRes .str (strBody w r1)

/-- what an absent optional scalar member leaves in its target: the target, except that
    `ReadUintN` goes through the next wider signed reader and converts back -/
def absentScalar : Ty → Val → Val
  | .u8, .int o => .int (toU 8 (o.toNat : Int))
  | .u16, .int o => .int (toU 16 (o.toNat : Int))
  | .u32, .int o => .int (toU 32 (o.toNat : Int))
  | _, old => old

theorem readScalar_eq_readWith {ty : Ty} {old : Val} (hs : ScalarShape ty old) (tag : Nat) (req : Bool) :
    readScalar ty old tag req = readWith (absentScalar ty old) tag req (scalarBody ty) := by
  funext r
  cases ty <;> cases old <;> try (exact False.elim hs)
  case bool.bool o =>
    rw [readScalar, readBool, mapRes_mapRes, readInt8_body, mapRes_readWith]
    cases o <;> rfl
  case i8.int o => rw [readScalar, readInt8_body, mapRes_readWith]; rfl
  case u8.int o => rw [readScalar, readUint8, mapRes_mapRes, readInt16_body, mapRes_readWith]; rfl
  case i16.int o => rw [readScalar, readInt16_body, mapRes_readWith]; rfl
  case u16.int o => rw [readScalar, readUint16, mapRes_mapRes, readInt32_body, mapRes_readWith]; rfl
  case i32.int o => rw [readScalar, readInt32_body, mapRes_readWith]; rfl
  case u32.int o => rw [readScalar, readUint32, mapRes_mapRes, readInt64_body, mapRes_readWith]; rfl
  case i64.int o => rw [readScalar, readInt64_body, mapRes_readWith]; rfl
  case enum.int o => rw [readScalar, readInt32_body, mapRes_readWith]; rfl
  case f32.f32 o => exact mapRes_readWith Val.f32 o tag req f32Body r
  case f64.f64 o => exact mapRes_readWith Val.f64 o tag req f64Body r
  case str.str o => exact mapRes_readWith Val.str o tag req strBody r

theorem scalar_of_targetOk {env : Env} {ty : Ty} {old : Val} (hat : Total.isAtom ty = true)
    (hok : Evolve.targetOk env ty old = true) : ScalarShape ty old ∧ absentScalar ty old = old := by
  have unsigned : ∀ (bits : Nat) (o : Int), (0 ≤ o ∧ o < 2 ^ bits) →
      Val.int (toU bits (o.toNat : Int)) = .int o := fun bits o h => by
    rw [Int.toNat_of_nonneg h.1, toU_of_range h.1 h.2]
  cases ty <;> try (cases hat; done)
  all_goals cases old <;> try (cases hok; done)
  case u8.int i => exact ⟨trivial, unsigned 8 i (of_decide_eq_true hok)⟩
  case u16.int i => exact ⟨trivial, unsigned 16 i (of_decide_eq_true hok)⟩
  case u32.int i => exact ⟨trivial, unsigned 32 i (of_decide_eq_true hok)⟩
  all_goals exact ⟨trivial, rfl⟩

/-! ### the guards of the generated container reads -/

/-- the guard `!require && !have` of the generated container reads is the "not there" case of
    `readWith`: with `require` set, `SkipToNoCheck` never reports "not there" -/
theorem readWith_of_guard {α : Type} (a : α) (tag : Nat) (req : Bool) (found : Nat → Reader → Res α)
    (r : Reader) :
    (match skipToNoCheck tag req r with
      | (.error e, r') => (.error e, r')
      | (.ok (have_, tyc), r1) => if !req && !have_ then (.ok a, r1) else found tyc r1)
    = readWith a tag req found r := by
  unfold readWith
  rcases h : skipToNoCheck tag req r with ⟨e | ⟨_ | _, tyc⟩, r1⟩
  · rfl
  · rw [(skipToNoCheck_found h).miss]; rfl
  · simp

theorem readWith_of_skipTo_guard {α : Type} (a : α) (ty tag : Nat) (req : Bool) (found : Reader → Res α)
    (r : Reader) :
    (match skipTo ty tag req r with
      | (.error e, r') => (.error e, r')
      | (.ok have_, r1) => if !req && !have_ then (.ok a, r1) else found r1)
    = readWith a tag req (fun tyc r1 => if ty ≠ tyc then (.error .mismatch, r1) else found r1) r := by
  unfold readWith skipTo
  rcases h : skipToNoCheck tag req r with ⟨e | ⟨_ | _, tyc⟩, r1⟩
  · rfl
  · rw [(skipToNoCheck_found h).miss]; simp
  · by_cases hc : ty = tyc <;> simp [hc]

/-- the shape of `ReadBlock`: an absent required struct is reported after `SkipTo` -/
theorem readWith_of_skipTo_block {α : Type} (a : α) (ty tag : Nat) (req : Bool) (found : Reader → Res α)
    (r : Reader) :
    (match skipTo ty tag req r with
      | (.error e, r') => (.error e, r')
      | (.ok have_, r1) =>
        if !have_ then (if req then (.error .require, r1) else (.ok a, r1)) else found r1)
    = readWith a tag req (fun tyc r1 => if ty ≠ tyc then (.error .mismatch, r1) else found r1) r := by
  unfold readWith skipTo
  rcases h : skipToNoCheck tag req r with ⟨e | ⟨_ | _, tyc⟩, r1⟩
  · rfl
  · rw [(skipToNoCheck_found h).miss]; simp
  · by_cases hc : ty = tyc <;> simp [hc]

/-! ### the bodies of the container reads -/

namespace Total

def oldBytes : Val → Bytes
  | .list vs => int8Bytes vs
  | _ => []

def oldList : Val → List Val
  | .list vs => vs
  | _ => []

end Total

/-- `genReadVector` behind the head -/
def vecBody (env : Env) (fuel : Nat) (e : Ty) (old : Val) (tyc : Nat) : RM Val := fun r1 =>
  if tyc = tyLIST then
    match readLen r1 with
    | (.error er, r') => (.error er, r')
    | (.ok len, r2) =>
      match checkLength len r2 with
      | (.error er, r') => (.error er, r')
      | (.ok (), r3) => decElems env fuel e len.toNat [] r3
  else if tyc = tySimpleList then
    if e = .i8 ∨ e = .u8 then
      match skipTo tyBYTE 0 true r1 with
      | (.error er, r') => (.error er, r')
      | (.ok _, r2) =>
        match readLen r2 with
        | (.error er, r') => (.error er, r')
        | (.ok len, r3) =>
          match readSlice8 (Total.oldBytes old) len r3 with
          | (.error er, r') => (.error er, r')
          | (.ok bs, r4) => (.ok (.list (bytesToVals (e = .i8) bs)), r4)
    else (.error .mismatch, r1)
  else (.error .mismatch, r1)

/-- `genReadArray` behind the head -/
def arrBody (env : Env) (fuel n : Nat) (e : Ty) (old : Val) (tyc : Nat) : RM Val := fun r1 =>
  if tyc = tyLIST then
    match readLen r1 with
    | (.error er, r') => (.error er, r')
    | (.ok len, r2) =>
      if len > (n : Int) then (.error .mismatch, r2)
      else decArr env fuel e n 0 len (Total.oldList old) r2
  else (.error .mismatch, r1)

/-- `genReadMap` behind the head (`SkipTo` has compared the wire type) -/
def mapBody (env : Env) (fuel : Nat) (k v : Ty) (tyc : Nat) : RM Val := fun r1 =>
  if tyMAP ≠ tyc then (.error .mismatch, r1)
  else
    match readLen r1 with
    | (.error er, r') => (.error er, r')
    | (.ok len, r2) =>
      match checkLength len r2 with
      | (.error er, r') => (.error er, r')
      | (.ok (), r3) => decPairs env fuel k v len [] r3

/-- `ReadBlock` behind the StructBegin head: the members after the two `ResetDefault`s of
    `ReadBlock` and `ReadFrom`, then `SkipToStructEnd` -/
def blockBody (env : Env) (fuel : Nat) (fs : List Field) (ovs : List Val) (tyc : Nat) : RM Val := fun r1 =>
  if tyStructBegin ≠ tyc then (.error .mismatch, r1)
  else
    match decMembers env fuel fs (resetDefault env fuel fs (resetDefault env fuel fs ovs)) r1 with
    | (.error er, r') => (.error er, r')
    | (.ok vs, r2) =>
      match skipToStructEnd r2.fuel r2 with
      | (.error er, r') => (.error er, r')
      | (.ok (), r3) => (.ok (.struct vs), r3)

/-! The four equations restate, behind `readWith`, the container alternatives of `decVar` in
    `Model/Schema.lean`; with the bodies above this is the one place where they are written out. -/

theorem decVar_vec_eq (env : Env) (F tag : Nat) (req : Bool) (e : Ty) (old : Val) :
    decVar env (F+1) tag req (.vec e) old = readWith old tag req (vecBody env F e old) := by
  funext r
  conv => lhs; unfold decVar
  exact readWith_of_guard old tag req (vecBody env F e old) r

theorem decVar_arr_eq (env : Env) (F tag : Nat) (req : Bool) (n : Nat) (e : Ty) (old : Val) :
    decVar env (F+1) tag req (.arr n e) old = readWith old tag req (arrBody env F n e old) := by
  funext r
  conv => lhs; unfold decVar
  exact readWith_of_guard old tag req (arrBody env F n e old) r

theorem decVar_map_eq (env : Env) (F tag : Nat) (req : Bool) (k v : Ty) (old : Val) :
    decVar env (F+1) tag req (.map k v) old = readWith old tag req (mapBody env F k v) := by
  funext r
  conv => lhs; unfold decVar
  exact readWith_of_skipTo_guard old tyMAP tag req _ r

theorem decVar_struct_cases (env : Env) (F tag : Nat) (req : Bool) (name : String) (old : Val)
    (r : Reader) :
    decVar env (F+1) tag req (.struct name) old r =
      match env.find name, old with
      | some fs, .struct ovs =>
        readWith (.struct (resetDefault env F fs ovs)) tag req (blockBody env F fs ovs) r
      | _, _ => (.error illTyped, r) := by
  conv => lhs; unfold decVar
  dsimp only
  split
  · rename_i fs ovs hfs
    simp only [hfs]
    exact (readWith_of_skipTo_block _ _ _ _ _ r).trans rfl
  · rename_i hno
    split
    · exact absurd rfl (hno _ _ ‹_›)
    · rfl

theorem decVar_struct_eq (env : Env) (F tag : Nat) (req : Bool) {name : String} {fs : List Field}
    (ovs : List Val) (hfs : env.find name = some fs) :
    decVar env (F+1) tag req (.struct name) (.struct ovs)
      = readWith (.struct (resetDefault env F fs ovs)) tag req (blockBody env F fs ovs) := by
  funext r
  rw [decVar_struct_cases]; simp only [hfs]

/-! ### one equation for every member -/

/-- `genReadStruct` behind the head: `ReadBlock` of the struct's definition on a struct target -/
def structBody (env : Env) (fuel : Nat) (name : String) (old : Val) : Nat → RM Val :=
  match env.find name, old with
  | some fs, .struct ovs => blockBody env fuel fs ovs
  | _, _ => fun _ r1 => (.error illTyped, r1)

/-- what `genReadVar` emits behind the head of a member of type `ty` whose target holds `old`:
    the switch on the wire type found there -/
def memberBody (env : Env) (fuel : Nat) : Ty → Val → Nat → RM Val
  | .vec e, old => vecBody env fuel e old
  | .arr n e, old => arrBody env fuel n e old
  | .map k v, _ => mapBody env fuel k v
  | .struct name, old => structBody env fuel name old
  | ty, _ => scalarBody ty

theorem memberBody_vec (env : Env) (F : Nat) (e : Ty) (old : Val) :
    memberBody env F (.vec e) old = vecBody env F e old := rfl
theorem memberBody_arr (env : Env) (F n : Nat) (e : Ty) (old : Val) :
    memberBody env F (.arr n e) old = arrBody env F n e old := rfl
theorem memberBody_map (env : Env) (F : Nat) (k v : Ty) (old : Val) :
    memberBody env F (.map k v) old = mapBody env F k v := rfl
theorem memberBody_struct {env : Env} {name : String} {fs : List Field} (F : Nat) (ovs : List Val)
    (hfs : env.find name = some fs) :
    memberBody env F (.struct name) (.struct ovs) = blockBody env F fs ovs := by
  show structBody env F name (.struct ovs) = _
  unfold structBody; simp only [hfs]
theorem memberBody_atom (env : Env) (F : Nat) {ty : Ty} (old : Val) (hat : Total.isAtom ty = true) :
    memberBody env F ty old = scalarBody ty := by
  cases ty <;> first | rfl | cases hat

theorem decVar_readWith_or_ill (env : Env) (F : Nat) (ty : Ty) (old : Val) (tag : Nat) (req : Bool) :
    decVar env (F+1) tag req ty old
        = readWith (Evolve.absentVal env F ty (absentScalar ty old)) tag req
            (memberBody env F ty old) ∨
    (Evolve.targetOk env ty old ≠ true ∧
      ∀ r, decVar env (F+1) tag req ty old r = (.error illTyped, r)) := by
  by_cases hat : Total.isAtom ty = true
  · have ha : ∀ x, Evolve.absentVal env F ty x = x := fun x => by
      cases ty <;> first | rfl | cases hat
    by_cases hs : ScalarShape ty old
    · refine .inl (funext fun r => ?_)
      rw [decVar_atom env F tag req ty old r hat, readScalar_eq_readWith hs, ha,
        memberBody_atom env F old hat]
    · exact .inr ⟨fun hok => hs (scalar_of_targetOk hat hok).1, fun r => by
        rw [decVar_atom env F tag req ty old r hat, readScalar_ill hs]⟩
  · cases ty <;> try (exact absurd rfl hat)
    case vec e => exact .inl (decVar_vec_eq ..)
    case arr n e => exact .inl (decVar_arr_eq ..)
    case map k v => exact .inl (decVar_map_eq ..)
    case struct name =>
      by_cases h : ∃ fs ovs, env.find name = some fs ∧ old = .struct ovs
      · obtain ⟨fs, ovs, hfs, rfl⟩ := h
        refine .inl ?_
        rw [decVar_struct_eq env F tag req ovs hfs, memberBody_struct F ovs hfs]
        simp only [Evolve.absentVal, absentScalar, hfs]
      · refine .inr ⟨fun hok => h ?_, fun r => ?_⟩
        · cases old <;> try (cases hok; done)
          exact (Option.isSome_iff_exists.mp hok).elim fun fs hfs => ⟨fs, _, hfs, rfl⟩
        · rw [decVar_struct_cases]
          split
          · exact absurd ⟨_, _, ‹_›, rfl⟩ h
          · rfl

theorem decVar_eq_readWith (env : Env) (F : Nat) (ty : Ty) (old : Val)
    (hok : Evolve.targetOk env ty old = true) (tag : Nat) (req : Bool) :
    decVar env (F+1) tag req ty old
      = readWith (Evolve.absentVal env F ty old) tag req (memberBody env F ty old) := by
  have ha : absentScalar ty old = old := by
    by_cases hat : Total.isAtom ty = true
    · exact (scalar_of_targetOk hat hok).2
    · cases ty <;> first | rfl | exact absurd rfl hat
  have h := (decVar_readWith_or_ill env F ty old tag req).resolve_right fun h => h.1 hok
  rwa [ha] at h

theorem decVar_hit (env : Env) (F : Nat) (ty : Ty) (old : Val) (hok : Evolve.targetOk env ty old = true)
    (r : Reader) (hty tag : Nat) (req : Bool) (rest : Bytes) (h16 : hty < 16) (hne : hty ≠ tyStructEnd)
    (htag : tag < 256) (h : r.rest = writeHead hty tag ++ rest) :
    decVar env (F+1) tag req ty old r
      = memberBody env F ty old hty (r.adv (writeHead hty tag).length) := by
  rw [decVar_eq_readWith env F ty old hok, readWith_hit _ _ r hty tag req rest h16 hne htag h]

theorem decVar_absent_opt (env : Env) (F : Nat) (ty : Ty) (old : Val) (hok : Evolve.targetOk env ty old = true)
    (r : Reader) (tag : Nat) (h : NextTagGt tag r.rest) :
    decVar env (F+1) tag false ty old r = (.ok (Evolve.absentVal env F ty old), r) := by
  rw [decVar_eq_readWith env F ty old hok, readWith_absent _ tag _ r h]

theorem decVar_missing_req (env : Env) (F : Nat) (ty : Ty) (old : Val) (hok : Evolve.targetOk env ty old = true)
    (r : Reader) (tag : Nat) (h : NextTagGt tag r.rest) :
    ∃ r', decVar env (F+1) tag true ty old r = (.error .require, r') := by
  obtain ⟨r', ha⟩ := skipToNoCheck_missing r tag h
  exact ⟨r', by rw [decVar_eq_readWith env F ty old hok]; unfold readWith; rw [ha]⟩

end Tars
