/-
  `parse var (render d) = .ok d.endpoint` (`parse_render`): a well-formed description renders to a
  protocol word followed by blank-separated words (`Desc.pairs_ok`), so `strings.Fields` returns exactly
  its tokens (`fields_pairs`) and the flag parser performs its assignments left to right
  (`parseArgs_items`).  Past the guard both variants of `Parse` run the same body (`parse_eq_parseCore`);
  the body panics exactly on short or field-less strings.  Order independence is extensionality of the
  flag variables in `Flags.get`; key agreement is `String()` reading four members only.
-/
import TarsModel.Proofs.EndpointFields
import TarsModel.Proofs.EndpointFlags

namespace Tars.Endpoint
open Tars

/-! ## well-formed descriptions -/

/-- host / bind values are tokens in the sense of `P` -/
def Opt.StrOk (P : Bytes → Prop) : Opt → Prop
  | .h x => P x
  | .b x => P x
  | _ => True

/-- a written option: non-empty blank runs where the spelling uses them, admissible value -/
def Item.WF (P : Bytes → Prop) (it : Item) : Prop :=
  Blank it.sep ∧ it.sep ≠ [] ∧
  ((it.form = .plain ∨ it.form = .dd) → Blank it.sep2 ∧ it.sep2 ≠ []) ∧
  it.opt.IntOk ∧ it.opt.StrOk P

/-- a description in the sense of DESIGN.md Appendix C; `P` says what a host / bind token is -/
def Desc.WF (P : Bytes → Prop) (d : Desc) : Prop := (∀ it ∈ d.items, it.WF P) ∧ Blank d.trail

theorem fmtInt_tok (v : Int) : Tok (fmtInt v) := by
  have hd : ∀ n, ∀ b ∈ natDigits n, isAsciiSpace b = false ∧ b.val < 128 := by
    intro n b hb
    have := natDigits_digits n b hb
    unfold isAsciiSpace
    simp only [Bool.or_eq_false_iff, Bool.and_eq_false_iff, decide_eq_false_iff_not]
    omega
  unfold fmtInt
  split
  · exact Tok.cons _ _ (by decide) ⟨natDigits_ne_nil _, hd _⟩
  · exact ⟨natDigits_ne_nil _, hd _⟩

theorem Opt.text_tok (o : Opt) (h : o.StrOk FieldTok) : FieldTok o.text := by
  cases o <;> first | exact h | exact (fmtInt_tok _).fieldTok

theorem letter_ascii (fl : Flag) : isAsciiSpace fl.letter = false ∧ fl.letter.val < 128 := by
  cases fl <;> decide

theorem Proto.tok (p : Proto) : Tok p.bytes := by
  cases p <;> exact Tok.cons _ _ (by decide) (Tok.cons _ _ (by decide) (Tok.single _ (by decide)))

theorem flagTok_tok (f : Form) (fl : Flag) : Tok (f.dashes ++ [fl.letter]) := by
  have h1 : Tok [B 45] := Tok.single _ (by decide)
  refine Tok.append ?_ (Tok.single _ (letter_ascii fl))
  cases f
  · exact h1
  · exact h1.append h1
  · exact h1
  · exact h1.append h1

theorem Item.pairs_ok (it : Item) (h : it.WF FieldTok) : Spaced it.pairs := by
  obtain ⟨hb, hne, h2, _, hs⟩ := h
  have htxt := Opt.text_tok it.opt hs
  have hfl := flagTok_tok it.form it.opt.flag
  by_cases hf : it.form = .plain ∨ it.form = .dd
  · rw [it.pairs_sep hf]
    exact List.forall_mem_cons.mpr ⟨⟨hb, hne, hfl.fieldTok⟩, List.forall_mem_cons.mpr
      ⟨⟨(h2 hf).1, (h2 hf).2, htxt⟩, fun _ hp => nomatch hp⟩⟩
  · rw [it.pairs_eq hf]
    intro p hp
    rw [List.mem_singleton.mp hp, List.append_cons _ (B 61)]
    exact ⟨hb, hne, fieldTok_append _ _ (hfl.append (Tok.single _ (by decide))) (Or.inr htxt)⟩

theorem Desc.pairs_ok (d : Desc) (h : d.WF FieldTok) : Spaced (d.items.flatMap Item.pairs) := by
  intro p hp
  obtain ⟨it, hit, hp⟩ := List.mem_flatMap.mp hp
  exact Item.pairs_ok it (h.1 it hit) p hp

/-! ## the body of `Parse` and its two variants -/

theorem parseCore_panics_iff (s : Bytes) :
    (∃ site, parseCore s = .panic site) ↔ (s.length < Consts.epProtoLen ∨ fields s = []) := by
  unfold parseCore
  by_cases hl : s.length < Consts.epProtoLen
  · rw [if_pos hl]; exact ⟨fun _ => Or.inl hl, fun _ => ⟨_, rfl⟩⟩
  · rw [if_neg hl]
    cases fields s with
    | nil => exact ⟨fun _ => Or.inr rfl, fun _ => ⟨_, rfl⟩⟩
    | cons a args =>
      refine ⟨fun ⟨_, h⟩ => (nomatch h), fun h => ?_⟩
      rcases h with h | h
      · exact absurd h hl
      · cases h

theorem parse_eq_parseCore (var : Variant) (s : Bytes) (h : ¬ (s.length < Consts.epProtoLen ∨ fields s = [])) :
    parse var s = parseCore s := by
  cases var
  · rfl
  · exact if_neg h

theorem parse_of_fields (var : Variant) {s a : Bytes} {args : List Bytes} (hl : ¬ s.length < Consts.epProtoLen)
    (hf : fields s = a :: args) :
    parse var s = .ok (finish (s.take Consts.epProtoLen) (parseArgs args defaultFlags).1) := by
  rw [parse_eq_parseCore var s (fun h => h.elim hl fun h => nomatch hf.symm.trans h), parseCore, if_neg hl, hf]

theorem parse_ok (var : Variant) {s : Bytes} (h : ¬ (s.length < Consts.epProtoLen ∨ fields s = [])) :
    ∃ fl, parse var s = .ok (finish (s.take Consts.epProtoLen) fl) := by
  cases hf : fields s with
  | nil => exact absurd (Or.inr hf) h
  | cons a args => exact ⟨_, parse_of_fields var (fun hl => h (Or.inl hl)) hf⟩

/-! ## the main lemma -/

theorem fields_render (d : Desc) (h : d.WF FieldTok) :
    fields (render d) = d.proto.bytes :: (d.items.flatMap Item.pairs).map (·.2) :=
  fields_pairs _ _ _ d.proto.tok.fieldTok (d.pairs_ok h) h.2

theorem Proto.length (p : Proto) : p.bytes.length = Consts.epProtoLen := by cases p <;> rfl

theorem Proto.not_short {s : Bytes} {p : Proto} (hp : s.take Consts.epProtoLen = p.bytes) :
    ¬ s.length < Consts.epProtoLen := by
  have := congrArg List.length hp
  rw [List.length_take, p.length] at this
  omega

theorem parse_render (var : Variant) (d : Desc) (h : d.WF FieldTok) : parse var (render d) = .ok d.endpoint := by
  have hf := fields_render d h
  have htake : (render d).take Consts.epProtoLen = d.proto.bytes := by
    unfold render; rw [List.append_assoc]; exact List.take_left' d.proto.length
  rw [parse_of_fields var (Proto.not_short htake) hf, htake,
    parseArgs_items d.items defaultFlags (fun it hit => (h.1 it hit).2.2.2.1)]
  rfl

/-! ## order independence -/

theorem get_apply (st : Flags) (o : Opt) (k : Flag) :
    (st.apply o).get k = if o.flag = k then o.val else st.get k := by
  cases o <;> cases k <;> rfl

theorem Flags.ext_get (a b : Flags) (h : ∀ k, a.get k = b.get k) : a = b := by
  cases a; cases b
  rw [Flags.mk.injEq]
  exact ⟨Val.str.inj (h .host), Val.int.inj (h .port), Val.int.inj (h .timeout), Val.int.inj (h .grid),
    Val.int.inj (h .qos), Val.int.inj (h .weight), Val.int.inj (h .weightType), Val.int.inj (h .authType),
    Val.str.inj (h .bind)⟩

theorem get_foldl_absent (os : List Opt) (st : Flags) (k : Flag) (h : ∀ o ∈ os, o.flag ≠ k) :
    (os.foldl Flags.apply st).get k = st.get k := by
  induction os generalizing st with
  | nil => rfl
  | cons o os ih =>
    rw [List.foldl_cons, ih _ (fun x hx => h x (by simp [hx])), get_apply, if_neg (h o (by simp))]

theorem get_foldl_last (os1 : List Opt) (o : Opt) (os2 : List Opt) (st : Flags) (h : ∀ x ∈ os2, x.flag ≠ o.flag) :
    ((os1 ++ o :: os2).foldl Flags.apply st).get o.flag = o.val := by
  rw [List.foldl_append, List.foldl_cons, get_foldl_absent _ _ _ h, get_apply, if_pos rfl]

theorem get_foldl_present (os : List Opt) (st : Flags) (o : Opt) (hm : o ∈ os)
    (nd : (os.map Opt.flag).Nodup) : (os.foldl Flags.apply st).get o.flag = o.val := by
  obtain ⟨os1, os2, rfl⟩ := List.append_of_mem hm
  rw [List.map_append, List.map_cons] at nd
  exact get_foldl_last os1 o os2 st fun x hx e =>
    (List.nodup_cons.mp (List.nodup_append.mp nd).2.1).1 (e ▸ List.mem_map_of_mem hx)

theorem flags_opts (d : Desc) : d.flags = d.opts.foldl Flags.apply defaultFlags := by
  unfold Desc.flags Desc.opts
  rw [List.foldl_map]

theorem foldl_perm (os os' : List Opt) (st : Flags) (hp : os.Perm os') (nd : (os.map Opt.flag).Nodup) :
    os.foldl Flags.apply st = os'.foldl Flags.apply st := by
  have nd' : (os'.map Opt.flag).Nodup := (hp.map Opt.flag).nodup_iff.mp nd
  apply Flags.ext_get
  intro k
  by_cases hk : ∃ o ∈ os, o.flag = k
  · obtain ⟨o, ho, hok⟩ := hk
    subst hok
    rw [get_foldl_present os st o ho nd, get_foldl_present os' st o (hp.mem_iff.mp ho) nd']
  · have h1 : ∀ o ∈ os, o.flag ≠ k := fun o ho hok => hk ⟨o, ho, hok⟩
    have h2 : ∀ o ∈ os', o.flag ≠ k := fun o ho hok => hk ⟨o, hp.mem_iff.mpr ho, hok⟩
    rw [get_foldl_absent os st k h1, get_foldl_absent os' st k h2]

/-! ## keys -/

theorem wrapS_zero : wrapS 32 0 = 0 := by decide

theorem string_congr {e e' : Endpoint} (hp : e.proto = e'.proto) (hh : e.host = e'.host) (hport : e.port = e'.port)
    (ht : e.timeout = e'.timeout) : e.string = e'.string := by
  unfold Endpoint.string; rw [hp, hh, hport, ht]

theorem finish_proto (p : Proto) (fl : Flags) :
    (finish p.bytes fl).proto = (if (finish p.bytes fl).istcp = (Consts.epUDP : Int) then sUdp else sTcp) := by
  cases p <;> rfl

theorem key_registry (e : Endpoint) (hk : e.key = e.string)
    (hproto : e.proto = if e.istcp = (Consts.epUDP : Int) then sUdp else sTcp) (f : EndpointF)
    (hh : f.host = e.host) (hp : f.port = e.port) (ht : f.timeout = e.timeout) (hi : f.istcp = e.istcp) :
    (tars2endpoint f).key = e.key := by
  rw [hk]
  exact string_congr (by rw [hproto, ← hi]) hh hp ht

theorem parse_of_proto (var : Variant) (s : Bytes) (p : Proto) (hp : s.take Consts.epProtoLen = p.bytes) :
    ∃ fl, parse var s = .ok (finish p.bytes fl) := by
  have hlen := Proto.not_short hp
  cases s with
  | nil => exact absurd (Nat.zero_lt_succ 2) hlen
  | cons c r =>
    have hc := p.tok.2 c (by rw [← hp]; exact List.mem_cons_self)
    exact hp ▸ parse_ok var fun h => h.elim hlen (fields_ne_nil c r hc)

end Tars.Endpoint
