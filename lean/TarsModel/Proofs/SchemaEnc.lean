import TarsModel.Proofs.SchemaVal
import TarsModel.Proofs.WireRead

/-! What the generated encoder emits: reader-free facts about `encVar` and the normal form `normVar`. -/
namespace Tars
open Consts

/-! ## heads -/

theorem Terminated.nextTagGt {t : Bytes} (h : Terminated t) (tag : Nat) : NextTagGt tag t := by
  rcases h with h | ⟨tg, t', htg, h⟩
  · exact Or.inl h
  · exact Or.inr ⟨tyStructEnd, tg, t', by decide, htg, Or.inl rfl, h⟩

theorem writeInt8_headAt (v : Int) (tag : Nat) : HeadAt tag (writeInt8 v tag) := by
  unfold writeInt8; split
  · exact ⟨tyZeroTag, [], by decide, (List.append_nil _).symm⟩
  · exact HeadAt.of_append (by decide)

theorem writeInt16_headAt (v : Int) (tag : Nat) : HeadAt tag (writeInt16 v tag) := by
  unfold writeInt16; split
  · exact writeInt8_headAt v tag
  · exact HeadAt.of_append (by decide)

theorem writeInt32_headAt (v : Int) (tag : Nat) : HeadAt tag (writeInt32 v tag) := by
  unfold writeInt32; split
  · exact writeInt16_headAt v tag
  · exact HeadAt.of_append (by decide)

theorem writeInt64_headAt (v : Int) (tag : Nat) : HeadAt tag (writeInt64 v tag) := by
  unfold writeInt64; split
  · exact writeInt32_headAt v tag
  · exact HeadAt.of_append (by decide)

theorem writeString_headAt (s : Bytes) (tag : Nat) : HeadAt tag (writeString s tag) := by
  unfold writeString; split
  · exact ⟨tySTRING4, be 4 s.length ++ s, by decide, by simp⟩
  · exact ⟨tySTRING1, [byte s.length] ++ s, by decide, by simp⟩

theorem writeScalar_headAt (ty : Ty) (v : Val) (tag : Nat) :
    writeScalar ty v tag = [] ∨ HeadAt tag (writeScalar ty v tag) := by
  unfold writeScalar
  -- one alternative of `writeScalar` at a time, in the order of its definition: written this way
  -- because the obvious way, a search through the writers' lemmas, is slow to check
  split
  case h_1 => exact .inr (writeInt8_headAt _ _)
  case h_2 => exact .inr (writeInt8_headAt _ _)
  case h_3 => exact .inr (writeInt16_headAt _ _)
  case h_4 => exact .inr (writeInt16_headAt _ _)
  case h_5 => exact .inr (writeInt32_headAt _ _)
  case h_6 => exact .inr (writeInt32_headAt _ _)
  case h_7 => exact .inr (writeInt64_headAt _ _)
  case h_8 => exact .inr (writeInt64_headAt _ _)
  case h_9 => exact .inr (writeInt32_headAt _ _)
  case h_10 => exact .inr (HeadAt.of_append (by decide))
  case h_11 => exact .inr (HeadAt.of_append (by decide))
  case h_12 => exact .inr (writeString_headAt _ _)
  case h_13 => exact .inl rfl

theorem writeScalar_int (ty : Ty) (i : Int) (tag : Nat) (h : ScalarOK ty (.int i)) :
    writeScalar ty (.int i) tag = specInt i tag := by
  rw [← writeInt64_specInt]
  cases ty <;> simp only [ScalarOK] at h
  all_goals simp only [writeScalar, writeUint8, writeUint16, writeUint32]
  · exact writeInt8_eq_writeInt64 i tag h
  · rw [Int.toNat_of_nonneg h.1]; exact writeInt16_eq_writeInt64 i tag (by omega)
  · exact writeInt16_eq_writeInt64 i tag h
  · rw [Int.toNat_of_nonneg h.1]; exact writeInt32_eq_writeInt64 i tag (by omega)
  · exact writeInt32_eq_writeInt64 i tag h
  · rw [Int.toNat_of_nonneg h.1]
  · exact writeInt32_eq_writeInt64 i tag h

theorem writeBool_spec (b : Bool) (tag : Nat) :
    writeBool b tag = specInt (if b then 1 else 0) tag := by
  unfold writeBool
  rw [writeInt8_eq_writeInt64 _ tag (by cases b <;> simp), writeInt64_specInt]

/-! ## what `genWriteVar` emits per kind of value -/

/-- the guard `genWriteVar` puts around an optional member: an empty container, or a scalar that is
    Go-`==` to its default, is not written -/
def omitted (req : Bool) (ty : Ty) (dflt : Option Val) : Val → Bool
  | .list vs => !req && vs.isEmpty
  | .map kvs => !req && kvs.isEmpty
  | .struct _ => false
  | v => !req && ty != .enum && !scalarNeDefault ty dflt v

theorem omitted_req (ty : Ty) (dflt : Option Val) (v : Val) : omitted true ty dflt v = false := by
  cases v <;> rfl

theorem omitted.not_req {req : Bool} {ty : Ty} {dflt : Option Val} {v : Val}
    (h : omitted req ty dflt v = true) : req = false := by
  cases req
  · rfl
  · rw [omitted_req] at h; cases h

theorem omitted_leaf (req : Bool) (ty : Ty) (dflt : Option Val) {v : Val} (h : v.isLeaf = true) :
    omitted req ty dflt v = (!req && ty != .enum && !scalarNeDefault ty dflt v) := by
  cases v <;> first | rfl | cases h

theorem encVar_leaf (env : Env) (tag : Nat) (req : Bool) (ty : Ty) (dflt : Option Val) {v : Val}
    (h : v.isLeaf = true) :
    encVar env tag req ty dflt v =
      if ty = .enum then writeScalar ty v tag
      else if ty.isScalar then
        if !req && !scalarNeDefault ty dflt v then [] else writeScalar ty v tag
      else [] := by
  cases v <;> first | (cases h; done) | simp only [encVar]

/-- the guard `if len(x) > 0` that `genWriteVar` emits for optional containers only -/
theorem optional_empty {req : Bool} {α : Type} {xs : List α} (h : (!req && xs.isEmpty) = true) :
    xs = [] := by
  cases req <;> simp_all

theorem encVar_list (env : Env) (tag : Nat) (req : Bool) {ty : Ty} (dflt : Option Val) {vs : List Val}
    {e : Ty} (hty : ty = .vec e ∨ ty = .arr vs.length e) :
    encVar env tag req ty dflt (.list vs) =
      if omitted req ty dflt (.list vs) then []
      else if e = .i8 then
        writeHead tySimpleList tag ++ writeHead tyBYTE 0 ++ writeInt32 (wrapS 32 vs.length) 0 ++
          int8Bytes vs
      else writeHead tyLIST tag ++ writeInt32 (wrapS 32 vs.length) 0 ++ encElems env e vs := by
  rcases hty with rfl | rfl <;> rw [encVar] <;> rfl

theorem encVar_map (env : Env) (tag : Nat) (req : Bool) (dflt : Option Val) (k w : Ty)
    (kvs : List (Val × Val)) :
    encVar env tag req (.map k w) dflt (.map kvs) =
      if omitted req (.map k w) dflt (.map kvs) then []
      else writeHead tyMAP tag ++ writeInt32 (wrapS 32 kvs.length) 0 ++ encPairs env k w kvs := by
  rw [encVar]; rfl

theorem encVar_headAt (env : Env) (tag : Nat) (req : Bool) (ty : Ty) (dflt : Option Val) (v : Val) :
    encVar env tag req ty dflt v = [] ∨ HeadAt tag (encVar env tag req ty dflt v) := by
  by_cases hl : v.isLeaf = true
  · rw [encVar_leaf env tag req ty dflt hl]
    split
    · exact writeScalar_headAt _ _ _
    · split
      · split
        · exact .inl rfl
        · exact writeScalar_headAt _ _ _
      · exact .inl rfl
  · cases v with
    | list vs =>
      simp only [encVar]
      split
      all_goals first
        | exact .inl rfl
        | (split
           · exact .inl rfl
           · split
             · exact .inr ⟨tySimpleList, _, by decide, by (simp only [List.append_assoc]; rfl)⟩
             · exact .inr ⟨tyLIST, _, by decide, by (simp only [List.append_assoc]; rfl)⟩)
    | map kvs =>
      simp only [encVar]
      split
      · split
        · exact .inl rfl
        · exact .inr ⟨tyMAP, _, by decide, by (simp only [List.append_assoc]; rfl)⟩
      · exact .inl rfl
    | struct vs =>
      simp only [encVar]
      split
      · split
        · exact .inr ⟨tyStructBegin, _, by decide, by (simp only [List.append_assoc]; rfl)⟩
        · exact .inl rfl
      · exact .inl rfl
    | _ => exact absurd rfl hl

theorem encMembers_nextTagGt (env : Env) (tag : Nat) (t : Bytes) (ht : Terminated t) :
    ∀ (fs : List Field) (vs : List Val), (∀ f ∈ fs, tag < f.tag ∧ f.tag < 256) →
      NextTagGt tag (encMembers env fs vs ++ t)
  | [], vs, _ => by cases vs <;> simpa [encMembers] using ht.nextTagGt tag
  | f :: fs, [], _ => by simpa [encMembers] using ht.nextTagGt tag
  | f :: fs, v :: vs, h => by
    rw [encMembers]
    have hf := h f (by simp)
    rcases encVar_headAt env f.tag f.req f.ty f.dflt v with h0 | hh
    · rw [h0]
      simpa using encMembers_nextTagGt env tag t ht fs vs (fun g hg => h g (by simp [hg]))
    · have := hh.nextTagGt hf.1 hf.2 (encMembers env fs vs ++ t)
      simpa [List.append_assoc] using this

/-! ## scalar members: written or omitted, and the normal form -/

theorem encVar_scalarVal (env : Env) (tag : Nat) (req : Bool) (ty : Ty) (dflt : Option Val) (v : Val)
    (hv : ScalarOK ty v) :
    encVar env tag req ty dflt v = if omitted req ty dflt v then [] else writeScalar ty v tag := by
  rw [encVar_leaf env tag req ty dflt hv.isLeaf, omitted_leaf req ty dflt hv.isLeaf]
  have hat := scalarOK_isAtom hv
  by_cases he : ty = .enum
  · simp [he]
  · have : ty.isScalar = true := by simpa [Ty.isAtom, he] using hat
    simp [he, this]

/-- a scalar that Go finds `==` to the member's default is the default, floats apart (`-0 == +0`) -/
theorem eq_dflt_of_not_ne {ty : Ty} {dflt : Option Val} {v : Val}
    (h : scalarNeDefault ty dflt v = false) (h32 : ∀ b, v ≠ .f32 b) (h64 : ∀ b, v ≠ .f64 b) :
    v = dflt.getD (scalarZero ty) := by
  unfold scalarNeDefault at h
  generalize dflt.getD (scalarZero ty) = d at h ⊢
  cases v <;> cases d <;> try (cases h; done)
  case f32.f32 a _ => exact absurd rfl (h32 a)
  case f64.f64 a _ => exact absurd rfl (h64 a)
  all_goals
    simp only [bne_eq_false_iff_eq] at h
    rw [h]

theorem normVar_scalar (env : Env) (req : Bool) (ty : Ty) (dflt : Option Val) (v : Val)
    (hv : ScalarOK ty v) :
    normVar env req ty dflt v =
      if omitted req ty dflt v then dflt.getD (scalarZero ty) else v := by
  rw [omitted_leaf req ty dflt hv.isLeaf]
  rcases hv.shape with ⟨b, rfl, rfl⟩ | ⟨i, rfl⟩ | ⟨b, rfl, rfl⟩ | ⟨b, rfl, rfl⟩ | ⟨s, rfl, rfl⟩
  -- a float: `normVar` and `scalarNeDefault` look at the same default
  case inr.inr.inl =>
    cases hD : dflt.getD (.f32 0) <;> simp [normVar, scalarNeDefault, scalarZero, hD]
  case inr.inr.inr.inl =>
    cases hD : dflt.getD (.f64 0) <;> simp [normVar, scalarNeDefault, scalarZero, hD]
  -- anything else is its own normal form, and is the default when it is `==` to it
  all_goals
    simp only [normVar]
    split
    · rename_i h
      simp only [Bool.and_eq_true, Bool.not_eq_eq_eq_not, Bool.not_true] at h
      exact eq_dflt_of_not_ne h.2 nofun nofun
    · rfl

/-- `.arr 0 e`: an array can only be empty if it has no elements at all -/
theorem normVar_omitted {env : Env} {req : Bool} {ty : Ty} {dflt : Option Val} {v : Val}
    (hwt : WT env ty v) (hd : DfltOK ty dflt) (hom : omitted req ty dflt v = true) :
    (ty.isAtom = true ∧ normVar env req ty dflt v = dflt.getD (scalarZero ty)) ∨
    (dflt = none ∧ (∃ e, ty = .vec e ∨ ty = .arr 0 e) ∧ normVar env req ty dflt v = .list []) ∨
    (dflt = none ∧ (∃ k w, ty = .map k w) ∧ normVar env req ty dflt v = .map []) := by
  by_cases hl : v.isLeaf = true
  · have hv := (WT_leaf hl).mp hwt
    exact .inl ⟨scalarOK_isAtom hv, by rw [normVar_scalar env req ty dflt v hv, if_pos hom]⟩
  · cases v with
    | list vs =>
      cases optional_empty (xs := vs) hom
      obtain ⟨e, hty, _, _⟩ := WT_list_inv hwt
      refine .inr (.inl ⟨?_, ⟨e, hty⟩, ?_⟩) <;> rcases hty with rfl | rfl
      · exact dflt_none_of_nonatom hd rfl
      · exact dflt_none_of_nonatom hd rfl
      · simp [normVar, normElems]
      · simp [normVar, normElems]
    | map kvs =>
      cases optional_empty (xs := kvs) hom
      obtain ⟨k, w, rfl, _⟩ := WT_map_inv hwt
      exact .inr (.inr ⟨dflt_none_of_nonatom hd rfl, ⟨k, w, rfl⟩, by simp [normVar, normPairs]⟩)
    | struct vs => cases hom
    | _ => exact absurd rfl hl

theorem normVar_scalar_present (env : Env) (req : Bool) (ty : Ty) (dflt : Option Val) (v : Val)
    (hv : ScalarOK ty v) (hom : omitted req ty dflt v = false) : normVar env req ty dflt v = v := by
  rw [normVar_scalar env req ty dflt v hv, hom]; rfl

/-! ## byte vectors, map keys -/

theorem normElems_length (env : Env) (e : Ty) : ∀ (vs : List Val),
    (normElems env e vs).length = vs.length
  | [] => rfl
  | _ :: vs => by simp [normElems, normElems_length env e vs]

theorem int8Bytes_length (vs : List Val) : (int8Bytes vs).length = vs.length :=
  List.length_map _

theorem bytesToVals_int8Bytes (env : Env) : ∀ (vs : List Val), WTs env .i8 vs →
    bytesToVals true (int8Bytes vs) = vs
  | [], _ => rfl
  | v :: vs, h => by
    simp only [WTs] at h
    have hv := h.1
    cases v <;> simp only [WT, ScalarOK] at hv
    rename_i i
    have ih := bytesToVals_int8Bytes env vs h.2
    simp only [bytesToVals, int8Bytes, List.map_cons, if_true] at ih ⊢
    rw [ih]
    congr 1
    have hlt := toU_lt 8 i
    rw [byte_val, Nat.mod_eq_of_lt (by simpa using hlt)]
    rw [toS_toU 8 (by decide) i (by omega) (by omega)]

theorem normElems_atom (env : Env) {e : Ty} (hat : e.isAtom = true) : ∀ (vs : List Val),
    WTs env e vs → normElems env e vs = vs
  | [], _ => rfl
  | v :: vs, h => by
    simp only [WTs] at h
    rw [normElems, normVar_scalar_present env true e none v (WT_atom hat h.1) (omitted_req e none v),
      normElems_atom env hat vs h.2]

/-- a container or struct is `==` to nothing, and the normal form of anything else is itself: taking
    the normal form of a key changes no comparison -/
theorem keyEq_norm (env : Env) (k : Ty) (a c : Val) :
    keyEq (normVar env true k none a) c = keyEq a c ∧
    keyEq c (normVar env true k none a) = keyEq c a := by
  cases a with
  | list vs =>
    obtain ⟨ws, hws⟩ : ∃ ws, normVar env true k none (.list vs) = .list ws := by
      simp only [normVar]; split <;> exact ⟨_, rfl⟩
    rw [hws]; cases c <;> simp [keyEq]
  | map kvs =>
    obtain ⟨ws, hws⟩ : ∃ ws, normVar env true k none (.map kvs) = .map ws := by
      simp only [normVar]; split <;> exact ⟨_, rfl⟩
    rw [hws]; cases c <;> simp [keyEq]
  | struct vs =>
    obtain ⟨ws, hws⟩ : ∃ ws, normVar env true k none (.struct vs) = .struct ws := by
      simp only [normVar]
      split
      · split <;> exact ⟨_, rfl⟩
      · exact ⟨_, rfl⟩
    rw [hws]; cases c <;> simp [keyEq]
  | _ => simp [normVar]

/-- the keys read so far stay distinct from the keys to come when the normal form of the next
    pair joins them -/
theorem keys_fresh_snoc (env : Env) (k : Ty) {acc kvs : List (Val × Val)} {a b b' : Val}
    (hacc : ∀ p ∈ acc, ∀ q ∈ (a, b) :: kvs, keyEq p.1 q.1 = false)
    (hd : ∀ q ∈ kvs, keyEq a q.1 = false) :
    (∀ p ∈ acc, keyEq p.1 (normVar env true k none a) = false) ∧
    ∀ p ∈ acc ++ [(normVar env true k none a, b')], ∀ q ∈ kvs, keyEq p.1 q.1 = false := by
  refine ⟨fun p hp => ?_, fun p hp q hq => ?_⟩
  · rw [(keyEq_norm env k a p.1).2]
    exact hacc p hp (a, b) (by simp)
  · rcases List.mem_append.mp hp with hp | hp
    · exact hacc p hp q (by simp [hq])
    · cases List.mem_singleton.mp hp
      rw [(keyEq_norm env k a q.1).1]
      exact hd q hq

end Tars
