import TarsModel.Proofs.CallPathSpec
import TarsModel.Proofs.CallPathDec

/-!
# The server half of a call: from the request frame to the response frame
-/
namespace Tars.CallPath
open Tars Consts Filter

theorem encVar_bufVal_length (env : Env) (tag : Nat) (bs : Bytes) :
    bs.length ≤ (encVar env tag true (.vec .i8) none (bufVal bs)).length := by
  rw [bufVal, encVar]
  simp only [Bool.not_true, Bool.false_and, Bool.false_eq_true, if_false, if_true,
    List.length_append, int8Bytes_bytesToVals]
  omega

theorem encMembers_member_le (env : Env) : ∀ (fs : List Field) (vs : List Val) (i : Nat) (f : Field)
    (v : Val), fs[i]? = some f → vs[i]? = some v →
    (encVar env f.tag f.req f.ty f.dflt v).length ≤ (encMembers env fs vs).length
  | [], _, _, _, _, hf, _ => by cases hf
  | _ :: _, [], _, _, _, _, hv => by cases hv
  | g :: fs, w :: vs, 0, f, v, hf, hv => by
    cases hf; cases hv
    simp only [encMembers, List.length_append]; omega
  | g :: fs, w :: vs, i + 1, f, v, hf, hv => by
    have := encMembers_member_le env fs vs i f v hf hv
    simp only [encMembers, List.length_append]; omega

theorem reqBuffer_le_body (p : ReqPacket) :
    p.sBuffer.length ≤ (encStruct packetEnv reqPacketName p.toVal).length := by
  simp only [encStruct, find_req, ReqPacket.toVal]
  exact Nat.le_trans (encVar_bufVal_length packetEnv cpReqTagSBuffer p.sBuffer)
    (encMembers_member_le packetEnv reqPacketFields _ 6 _ _ rfl rfl)

theorem rspBuffer_le_body (p : RspPacket) :
    p.sBuffer.length ≤ (encStruct packetEnv rspPacketName p.toVal).length := by
  simp only [encStruct, find_rsp, RspPacket.toVal]
  exact Nat.le_trans (encVar_bufVal_length packetEnv cpRspTagSBuffer p.sBuffer)
    (encMembers_member_le packetEnv rspPacketFields _ 5 _ _ rfl rfl)

theorem reqBuffer_lt (p : ReqPacket) (maxLen : Int) (h1 : maxLen < 2 ^ 31)
    (h2 : ((requestPack p).length : Int) ≤ maxLen) : p.sBuffer.length < 2 ^ 31 := by
  have := reqBuffer_le_body p
  rw [requestPack_shape, Frame.frame_length] at h2
  omega

theorem rspBuffer_lt (p : RspPacket) (maxLen : Int) (h1 : maxLen < 2 ^ 31)
    (h2 : ((rsp2Byte p).length : Int) ≤ maxLen) : p.sBuffer.length < 2 ^ 31 := by
  have := rspBuffer_le_body p
  rw [rsp2Byte_shape, Frame.frame_length] at h2
  omega

theorem reqFields_req (sig : Sig) : ∀ f ∈ reqFields sig, f.req = true := fun f hf => by
  obtain ⟨_, _, _, _, _, rfl⟩ := mem_reqFieldsFrom _ _ f hf
  rfl

section
variable {env : Env} {rk : String → Nat} {cfg : Cfg} {fn : Bytes} {sig : Sig} {oneway : Bool}
  {args : List Val} {opts : List (Option StrMap)}

theorem proxyRequest_ok (h : CallOK env rk cfg fn sig oneway args opts) :
    ReqPacketOK (proxyRequest env cfg fn sig oneway args opts) := by
  have hb := reqBuffer_lt _ cfg.maxLen h.maxLen h.fits
  refine ⟨?_, ?_, ?_, h.reqId, h.servant, h.fnLen, hb, h.timeout, h.ctx, h.status⟩
  · simp only [proxyRequest, mkRequest, h.version, I16]; decide
  · simp only [proxyRequest, mkRequest, I8]; cases oneway <;> decide
  · simp only [proxyRequest, mkRequest, I32]; decide

theorem dispatchArgs_ok (h : CallOK env rk cfg fn sig oneway args opts) :
    dispatchArgs env (proxyRequest env cfg fn sig oneway args opts) sig
      = .ok (normIns env sig args) := by
  unfold dispatchArgs normIns
  by_cases hemp : (inFields sig).isEmpty = true
  · simp only [hemp, if_true]
    rw [List.isEmpty_iff] at hemp
    rw [hemp]; simp [normMembers]
  · have hfuel := needElems_le_argFuel env (reqFields sig) args (reqFields_req sig) h.argsWT
    have := decIns_rt env rk h.envWF sig.params 0 args _ _ [] (by have := h.nparams; omega) h.tys
      h.argsWT (proxyRequest_ok h).buf hfuel (Reader.rest_mk0_append_nil _)
    simp only [hemp, Bool.false_eq_true, if_false, proxyRequest, mkRequest, h.version, if_true]
    simp only [inFields, reqFields] at this ⊢
    rw [this]

end

theorem dispatch_ok (env : Env) (iface : Iface) (f : Func) (req : ReqPacket) (ins : List Val)
    (hfind : iface.find req.sFuncName = some f) (hver : req.iVersion = cpTARSVERSION)
    (hargs : dispatchArgs env req f.sig = .ok ins) (rsp : RspPacket) :
    let out := f.impl ins req.context req.status
    dispatch env iface req rsp =
      ([Ev.impl f.name ins req.context req.status], out.err.map SrvErr.impl,
       match out.err with
       | none => dispatchRsp env req f.sig out
       | some _ => rsp) := by
  intro out
  unfold dispatch
  simp only [hfind, hargs]
  cases out.err with
  | none => simp [out, hver]
  | some e => simp

theorem serverCore_ok (vs : Variants) {env : Env} {sreg : ServerReg} {sb sa : List Ev}
    (hsreg : Transparent (runServer vs.postFilter none sreg) sb sa)
    {iface : Iface} {f : Func} (req : ReqPacket) {ins : List Val}
    (hfind : iface.find req.sFuncName = some f) (hver : req.iVersion = cpTARSVERSION)
    (hargs : dispatchArgs env req f.sig = .ok ins) (hping : req.sFuncName ≠ ascii "tars_ping") :
    let tr := sb ++ [Ev.impl f.name ins req.context req.status] ++ sa
    let frame := rsp2Byte (replyPacket vs.zeroCode env req f.sig (f.impl ins req.context req.status))
    serverCore vs env sreg iface req =
      if req.cPacketType = (cpTARSONEWAY : Int) then (tr, .silent)
      else (tr ++ [Ev.reply frame], .reply frame) := by
  have hv3 : ¬ (req.iVersion = (cpTUPVERSION : Int)) := by rw [hver]; decide
  unfold serverCore
  simp only [hping, ne_eq, not_false_eq_true, if_true, hsreg (dispatch env iface req),
    dispatch_ok env iface f req ins hfind hver hargs]
  generalize f.impl ins req.context req.status = out
  cases hout : out.err with
  | none => simp only [Option.map_none, replyPacket, hout, dispatchRsp, hv3, if_false]
  | some e =>
    simp only [Option.map_some, replyPacket, hout, SrvErr.toGo, RspPacket.zero, hv3, if_false]

theorem serverHandle_pack (vs : Variants) (env : Env) (sreg : ServerReg) (iface : Iface)
    (req : ReqPacket) (h : ReqPacketOK req) :
    serverHandle vs env sreg iface (requestPack req) = serverCore vs env sreg iface req := by
  unfold serverHandle
  rw [requestPack_shape]
  simp only [cpInvokeHeaderSkip, frame_not_short, if_false, frame_drop4,
    decStruct_mk0 (reqPacket_wt req h) (reqPacket_norm req), reqPacket_ofVal]

theorem serverErr_code_ok (v : Variant) (e : GoErr) (h : ∀ c m, e = .tars c m → I32 c) :
    I32 (serverErr v e).1 := by
  cases e with
  | plain m => simp only [serverErr, cpPlainErrRet, I32]; decide
  | tars c m =>
    have hc := h c m rfl
    cases v with
    | asFound => exact hc
    | repaired =>
      simp only [serverErr]
      split
      · exact hc
      · simp only [cpPlainErrRet, I32]; decide

theorem serverErr_msg (v : Variant) (e : GoErr) : (serverErr v e).2 = e.msg := by
  cases e with
  | plain m => rfl
  | tars c m => cases v <;> simp only [serverErr, GoErr.msg] <;> split <;> rfl

theorem replyPacket_ok {zc : Variant} {env : Env} {cfg : Cfg} {req : ReqPacket} {sig : Sig}
    {out : ImplOut} (hreq : ReqPacketOK req) (himpl : ImplOK zc env cfg req sig out)
    (hmax : cfg.maxLen < 2 ^ 31) : RspPacketOK (replyPacket zc env req sig out) := by
  have hb := rspBuffer_lt _ cfg.maxLen hmax himpl.fits
  cases hout : out.err with
  | none =>
    simp only [replyPacket, hout, dispatchRsp] at hb ⊢
    exact ⟨hreq.ver, hreq.pt, hreq.id, by simp only [I32, cpDispatchMessageType]; decide,
      by simp only [I32, cpDispatchRet]; decide, hb, himpl.status, by simp, himpl.ctx⟩
  | some e =>
    simp only [replyPacket, hout, RspPacket.zero] at hb ⊢
    refine ⟨hreq.ver, hreq.pt, hreq.id, by simp only [I32]; decide, ?_, hb, mapOK_nil, ?_, mapOK_nil⟩
    · exact serverErr_code_ok zc e (fun c m hcm => himpl.code c m (by rw [hout, hcm]))
    · rw [serverErr_msg]; exact himpl.msg e hout

theorem replyPacket_of_ok {zc : Variant} {env : Env} {req : ReqPacket} {sig : Sig} {out : ImplOut}
    (h : out.err = none) :
    replyPacket zc env req sig out = { dispatchRsp env req sig out with cPacketType := req.cPacketType } := by
  simp only [replyPacket, h]

theorem replyPacket_ids (zc : Variant) (env : Env) (req : ReqPacket) (sig : Sig) (out : ImplOut) :
    (replyPacket zc env req sig out).iRequestId = req.iRequestId ∧
    (replyPacket zc env req sig out).cPacketType = req.cPacketType := by
  unfold replyPacket; split <;> exact ⟨rfl, rfl⟩

end Tars.CallPath
