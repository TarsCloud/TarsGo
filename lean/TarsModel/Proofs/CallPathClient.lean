import TarsModel.Proofs.CallPathServer

/-!
# The client half of a call: from the request frame sent to the proxy's reading of the response
-/
namespace Tars.CallPath
open Tars Consts Filter

theorem recvFirst_requestPack (maxLen : Int) (req : ReqPacket) (h1 : maxLen < 2 ^ 31)
    (h2 : ((requestPack req).length : Int) ≤ maxLen) :
    recvFirst maxLen (requestPack req) = .pkg (requestPack req) := by
  rw [requestPack_shape] at h2 ⊢
  exact recvFirst_frame maxLen _ h1 h2

theorem recvFirst_rsp2Byte (maxLen : Int) (p : RspPacket) (h1 : maxLen < 2 ^ 31)
    (h2 : ((rsp2Byte p).length : Int) ≤ maxLen) :
    recvFirst maxLen (rsp2Byte p) = .pkg (rsp2Byte p) := by
  rw [rsp2Byte_shape] at h2 ⊢
  exact recvFirst_frame maxLen _ h1 h2

theorem doInvoke_wire (vs : Variants) (env : Env) (cfg : Cfg) (sreg : ServerReg) (iface : Iface)
    (req : ReqPacket) (h : ReqPacketOK req) (h1 : cfg.maxLen < 2 ^ 31)
    (h2 : ((requestPack req).length : Int) ≤ cfg.maxLen) (resp : RspPacket) :
    doInvoke vs env cfg sreg iface req resp
      = afterServer vs cfg req resp (serverCore vs env sreg iface req) := by
  show afterSend vs env cfg sreg iface req resp (recvFirst cfg.maxLen (requestPack req)) = _
  rw [recvFirst_requestPack cfg.maxLen req h1 h2]
  simp only [afterSend, serverHandle_pack vs env sreg iface req h]

theorem clientRecv_rsp2Byte (reqId : Int) (p : RspPacket) (h : RspPacketOK p)
    (hid : p.iRequestId = reqId) (hnz : reqId ≠ 0) (hpt : p.cPacketType ≠ (cpTARSONEWAY : Int)) :
    clientRecv reqId (rsp2Byte p) = .ok p := by
  unfold clientRecv
  rw [rsp2Byte_shape]
  simp only [cpUnpackHeaderSkip, frame_not_short, if_false, frame_drop4,
    decStruct_mk0 (rspPacket_wt p h) (rspPacket_norm p), rspPacket_ofVal, hpt, hid, if_true]
  simp only [hnz, if_false]

theorem afterServer_reply (vs : Variants) (cfg : Cfg) (req : ReqPacket) (resp : RspPacket)
    (tr : List Ev) (rsp : RspPacket) (hpt : req.cPacketType ≠ (cpTARSONEWAY : Int))
    (hrsp : RspPacketOK rsp) (hid : rsp.iRequestId = req.iRequestId) (hnz : req.iRequestId ≠ 0)
    (hpt2 : rsp.cPacketType = req.cPacketType) (hmax : cfg.maxLen < 2 ^ 31)
    (hfits : ((rsp2Byte rsp).length : Int) ≤ cfg.maxLen) :
    afterServer vs cfg req resp (tr, .reply (rsp2Byte rsp)) =
      (tr, (match clientErr vs.emptyDesc rsp.iRet rsp.sResultDesc with
            | some e => DoRes.err e
            | none => DoRes.nil), rsp) := by
  -- stepwise on purpose: a single `simp only` with all of these elaborates, but the kernel runs out
  -- of stack on its proof term
  simp only [afterServer, hpt, if_false]
  rw [recvFirst_rsp2Byte cfg.maxLen rsp hmax hfits]
  simp only [awaitReply]
  rw [clientRecv_rsp2Byte _ rsp hrsp hid hnz (hpt2 ▸ hpt)]
  simp only [deliver]
  cases clientErr vs.emptyDesc rsp.iRet rsp.sResultDesc <;> rfl

def implEv (env : Env) (f : Func) (args : List Val) (opts : List (Option StrMap)) : Ev :=
  Ev.impl f.name (normIns env f.sig args) ((optsMaps opts).1.getD []) ((optsMaps opts).2.getD [])

def implOut (env : Env) (f : Func) (args : List Val) (opts : List (Option StrMap)) : ImplOut :=
  f.impl (normIns env f.sig args) ((optsMaps opts).1.getD []) ((optsMaps opts).2.getD [])

/-- `doInvoke` for the request of a well-formed call against a server whose filters pass the call
    through: the trace is the server's; a one-way call returns nil at once and leaves `msg.Resp`
    alone; otherwise `msg.Resp` becomes exactly the packet the server built and the returned error
    is `clientErr` of its `(IRet, SResultDesc)` -/
theorem doInvoke_ok (vs : Variants) {env : Env} {rk : String → Nat} {cfg : Cfg}
    {sreg : ServerReg} {sb sa : List Ev}
    (hsreg : Transparent (runServer vs.postFilter none sreg) sb sa)
    {iface : Iface} {f : Func} {oneway : Bool} {args : List Val} {opts : List (Option StrMap)}
    (hcall : CallOK env rk cfg f.name f.sig oneway args opts)
    (hfind : iface.find f.name = some f)
    (himpl : oneway = false → ImplOK vs.zeroCode env cfg
      (proxyRequest env cfg f.name f.sig oneway args opts) f.sig (implOut env f args opts))
    (resp : RspPacket) :
    let req := proxyRequest env cfg f.name f.sig oneway args opts
    let rsp := replyPacket vs.zeroCode env req f.sig (implOut env f args opts)
    doInvoke vs env cfg sreg iface req resp =
      if oneway then (sb ++ [implEv env f args opts] ++ sa, .nil, resp)
      else
        (sb ++ [implEv env f args opts] ++ sa ++ [Ev.reply (rsp2Byte rsp)],
         (match clientErr vs.emptyDesc rsp.iRet rsp.sResultDesc with
          | some e => DoRes.err e
          | none => DoRes.nil),
         rsp) := by
  intro req rsp
  have hreq : ReqPacketOK req := proxyRequest_ok hcall
  rw [doInvoke_wire vs env cfg sreg iface req hreq hcall.maxLen hcall.fits,
    serverCore_ok vs hsreg req hfind hcall.version (dispatchArgs_ok hcall) hcall.notPing]
  cases oneway with
  | true =>
    have hpt : req.cPacketType = (cpTARSONEWAY : Int) := by
      show (cpProxyOnewayType : Int) = cpTARSONEWAY; decide
    simp only [hpt, if_true, afterServer]
    rfl
  | false =>
    have himpl' := himpl rfl
    have hpt : req.cPacketType ≠ (cpTARSONEWAY : Int) := by
      show (cpProxyNormalType : Int) ≠ cpTARSONEWAY; decide
    obtain ⟨hid, hpt2⟩ := replyPacket_ids vs.zeroCode env req f.sig (implOut env f args opts)
    rw [if_neg hpt]
    exact afterServer_reply vs cfg req resp _ rsp hpt
      (replyPacket_ok hreq himpl' hcall.maxLen) hid hcall.reqIdNZ hpt2
      hcall.maxLen himpl'.fits

theorem proxyFinish_ok (v : Variant) {env : Env} {rk : String → Nat} {cfg : Cfg} {fn : Bytes}
    {sig : Sig} {oneway : Bool} {args : List Val} {opts : List (Option StrMap)}
    (hcall : CallOK env rk cfg fn sig oneway args opts) (resp : RspPacket) (ret : Option Val)
    (outs : List Val)
    (hbuf : resp.sBuffer = encMembers env (rspFields sig) (ret.toList ++ outs))
    (hwt : WTm env (rspFields sig) (ret.toList ++ outs))
    (hshape : ret.isSome = sig.ret.isSome) :
    proxyFinish v env sig args opts resp =
      match copyBackAll v opts resp.context resp.status with
      | .error site => .panicked site
      | .ok cs => .returned none ⟨normRet env sig ret, normOuts env sig outs, cs.1, cs.2⟩ := by
  have hout := outFieldsFrom_ok env rk sig.params 0 (by have := hcall.nparams; omega) hcall.tys
  have houtOlds := argOlds_of_WTm env _ _ (WTm_out env sig.params 0 args hcall.argsWT)
  -- the return value, if there is one, is one more required member in front, read into a zero value
  obtain ⟨hfields, holds, hv1, hv2⟩ :
      (∀ f ∈ rspFields sig, ArgFieldOK env rk f) ∧
      ArgOlds env (rspFields sig) ((sig.ret.map (zeroOf env)).toList ++ outVals sig.params args) ∧
      (if sig.ret.isSome then (normMembers env (rspFields sig) (ret.toList ++ outs)).head? else none)
        = normRet env sig ret ∧
      (if sig.ret.isSome then (normMembers env (rspFields sig) (ret.toList ++ outs)).drop 1
        else normMembers env (rspFields sig) (ret.toList ++ outs)) = normOuts env sig outs := by
    unfold rspFields retFields normRet normOuts
    cases hsr : sig.ret with
    | none =>
      cases ret with
      | some v => simp [hsr] at hshape
      | none => exact ⟨hout, houtOlds, rfl, rfl⟩
    | some t =>
      cases ret with
      | none => simp [hsr] at hshape
      | some v =>
        have ht := hcall.retTy t hsr
        exact ⟨List.forall_mem_cons.2 ⟨⟨by simp only [cpRetTag]; decide, rfl, rfl, ht⟩, hout⟩,
          ⟨.inl (zeroOf_ready hcall.envWF t ht), houtOlds⟩, rfl, rfl⟩
  have hreq : ∀ f ∈ rspFields sig, f.req = true := fun f hf => (hfields f hf).2.1
  have hfuel := needElems_le_argFuel env (rspFields sig) (ret.toList ++ outs) hreq hwt
  have hdec := decMembers_req_rt env rk hcall.envWF (ret.toList ++ outs) (rspFields sig) _ _ _ []
    hfields hwt holds hfuel (Reader.rest_mk0_append_nil _)
  unfold proxyFinish
  simp only [hbuf, hdec, hv1, hv2]
  cases copyBackAll v opts resp.context resp.status with
  | error site => rfl
  | ok p => rfl

theorem copyBackAll_nonnil (opts : List (Option StrMap)) (rctx rst : StrMap)
    (hnil : ∀ m ∈ opts, m ≠ none) :
    copyBackAll .asFound opts rctx rst = .ok (copiedMaps opts rctx rst) := by
  match opts, hnil with
  | [], _ => simp [copyBackAll, copiedMaps]
  | [none], h => exact absurd rfl (h none (by simp))
  | [some c], _ => simp [copyBackAll, copiedMaps, copyBack]
  | [none, _], h => exact absurd rfl (h none (by simp))
  | [some _, none], h => exact absurd rfl (h none (by simp))
  | [some c, some s], _ => simp [copyBackAll, copiedMaps, copyBack]
  | _ :: _ :: _ :: _, _ => simp [copyBackAll, copiedMaps]

/-- as found: copying a non-empty response context into a nil map panics (D20) -/
theorem copyBackAll_asFound_nil (rctx rst : StrMap) (h : rctx ≠ []) :
    copyBackAll .asFound [none] rctx rst = .error "assignment to entry in nil map" := by
  cases rctx with
  | nil => exact absurd rfl h
  | cons _ _ => rfl

theorem copyBackAll_repaired (opts : List (Option StrMap)) (rctx rst : StrMap) :
    copyBackAll .repaired opts rctx rst = .ok (copiedMaps opts rctx rst) := by
  match opts with
  | [] => simp [copyBackAll, copiedMaps, optsMaps]
  | [c] => cases c <;> simp [copyBackAll, copiedMaps, optsMaps]
  | [c, s] => cases c <;> cases s <;> simp [copyBackAll, copiedMaps, optsMaps]
  | _ :: _ :: _ :: _ => simp [copyBackAll, copiedMaps, optsMaps]

end Tars.CallPath
