import TarsModel.Proofs.SchemaVal
import TarsModel.Proofs.SchemaUnfold

/-!
# Targets: what the decoder needs of the value it decodes into, and what `ResetDefault` makes of it

`Ready env ty o`, for a scalar, vector or map type: `o` is the Go zero value of `ty` (what a
vector/map element or a freshly reset member holds); for a fixed array: `n` ready elements.  For
a struct type it only says that `o` has the *shape* of the struct: one member value per declared
member, and every member of struct type (without explicit default) is again such a value — all
other members may hold anything, because `ResetDefault` assigns every non-struct member before
any read.
`OldOK`: the value a member holds when its read is executed (after `ResetDefault`).
-/
namespace Tars
open Consts

mutual
def Ready (env : Env) : Ty → Val → Prop
  | ty, .list os =>
    match ty with
    | .vec _ => os = []
    | .arr n e => os.length = n ∧ ReadyAll env e os
    | _ => False
  | ty, .map kvs =>
    match ty with
    | .map _ _ => kvs = []
    | _ => False
  | ty, .struct os =>
    match ty with
    | .struct name =>
      match env.find name with
      | some fs => ReadyMembers env fs os
      | none => False
    | _ => False
  | ty, v => ty.isAtom = true ∧ v = scalarZero ty
def ReadyAll (env : Env) : Ty → List Val → Prop
  | _, [] => True
  | e, o :: os => Ready env e o ∧ ReadyAll env e os
def ReadyMembers (env : Env) : List Field → List Val → Prop
  | [], [] => True
  | f :: fs, o :: os =>
    (match f.dflt with
     | some _ => True
     | none =>
       match f.ty with
       | .struct _ => Ready env f.ty o
       | _ => True) ∧ ReadyMembers env fs os
  | _, _ => False
end

/-- an admissible decode target for struct `S`: any struct value with one member per declared
    member whose struct-typed members are again admissible targets; every other member is
    arbitrary (stale data of a reused target, even of the wrong Go type in the model) -/
abbrev TargetOK (env : Env) (S : String) (old : Val) : Prop := Ready env (.struct S) old

def OldOK (env : Env) (ty : Ty) (dflt : Option Val) (o : Val) : Prop :=
  match dflt with
  | some d => o = d
  | none => Ready env ty o

def OldOKs (env : Env) : List Field → List Val → Prop
  | [], [] => True
  | f :: fs, o :: os => OldOK env f.ty f.dflt o ∧ OldOKs env fs os
  | _, _ => False

theorem readyMembers_cons {env : Env} {f : Field} {fs : List Field} {o : Val} {os : List Val} :
    ReadyMembers env (f :: fs) (o :: os) ↔
      (f.dflt = none → ∀ nm, f.ty = .struct nm → Ready env (.struct nm) o) ∧
        ReadyMembers env fs os := by
  simp only [ReadyMembers]
  refine and_congr_left' ?_
  split
  · simp [*]
  · split <;> simp_all

theorem OldOKs.ready {env : Env} : ∀ {fs : List Field} {os : List Val},
    OldOKs env fs os → ReadyMembers env fs os
  | [], [], _ => by simp [ReadyMembers]
  | [], _ :: _, h => by simp [OldOKs] at h
  | _ :: _, [], h => by simp [OldOKs] at h
  | f :: fs, o :: os, h => by
    simp only [OldOKs] at h
    exact readyMembers_cons.mpr ⟨fun hd nm hty => by simpa [OldOK, hd, hty] using h.1, h.2.ready⟩

theorem OldOKs.take_drop {env : Env} : ∀ {fs : List Field} {os : List Val} (k : Nat), OldOKs env fs os →
    OldOKs env (fs.take k) (os.take k) ∧ OldOKs env (fs.drop k) (os.drop k)
  | [], [], _, _ => by simp [OldOKs]
  | [], _ :: _, _, h => by simp [OldOKs] at h
  | _ :: _, [], _, h => by simp [OldOKs] at h
  | _ :: _, _ :: _, 0, h => by simpa [OldOKs] using h
  | _ :: fs, _ :: os, k+1, h => by
    simp only [OldOKs, List.take_succ_cons, List.drop_succ_cons] at h ⊢
    exact ⟨⟨h.1, (OldOKs.take_drop k h.2).1⟩, (OldOKs.take_drop k h.2).2⟩

theorem OldOKs.length {env : Env} : ∀ {fs : List Field} {os : List Val}, OldOKs env fs os →
    os.length = fs.length
  | [], [], _ => rfl
  | [], _ :: _, h => by simp [OldOKs] at h
  | _ :: _, [], h => by simp [OldOKs] at h
  | _ :: _, _ :: _, h => by simp [OldOKs.length h.2]

/-! ## what `Ready` says per kind of type -/

theorem ready_atom {env : Env} {ty : Ty} {o : Val} (h : ty.isAtom = true) (hr : Ready env ty o) :
    o = scalarZero ty := by
  cases o <;> first
    | exact (by simpa [Ready] using hr : _ ∧ _).2
    | (cases ty <;> first | (simp [Ready] at hr; done) | (simp [Ty.isAtom, Ty.isScalar] at h; done))

theorem OldOK.atom {env : Env} {ty : Ty} {dflt : Option Val} {old : Val}
    (h : ty.isAtom = true) (hd : DfltOK ty dflt) (ho : OldOK env ty dflt old) :
    ScalarOK ty old ∧ old = dflt.getD (scalarZero ty) := by
  unfold OldOK at ho; unfold DfltOK at hd
  cases dflt with
  | none => cases ready_atom h ho; exact ⟨scalarOK_zero h, rfl⟩
  | some d => cases ho; exact ⟨hd.2, rfl⟩

theorem ready_vec {env : Env} {e : Ty} {o : Val} (h : Ready env (.vec e) o) : o = .list [] := by
  cases o <;> simp [Ready, Ty.isAtom, Ty.isScalar] at h
  rw [h]

theorem ready_arr {env : Env} {n : Nat} {e : Ty} {o : Val} (h : Ready env (.arr n e) o) :
    ∃ os, o = .list os ∧ os.length = n ∧ ReadyAll env e os := by
  cases o <;> simp [Ready, Ty.isAtom, Ty.isScalar] at h
  exact ⟨_, rfl, h.1, h.2⟩

theorem ready_map {env : Env} {k v : Ty} {o : Val} (h : Ready env (.map k v) o) : o = .map [] := by
  cases o <;> simp [Ready, Ty.isAtom, Ty.isScalar] at h
  rw [h]

theorem ready_structTy_inv {env : Env} {name : String} {o : Val} (h : Ready env (.struct name) o) :
    ∃ fs os, env.find name = some fs ∧ o = .struct os ∧ ReadyMembers env fs os := by
  cases o <;> simp [Ready, Ty.isAtom, Ty.isScalar] at h
  cases hfs : env.find name with
  | none => simp [hfs] at h
  | some fs => exact ⟨fs, _, rfl, rfl, by simpa [hfs] using h⟩

theorem ready_struct {env : Env} {name : String} {fs : List Field} {o : Val}
    (hfs : env.find name = some fs) (h : Ready env (.struct name) o) :
    ∃ os, o = .struct os ∧ ReadyMembers env fs os := by
  obtain ⟨fs', os, hfs', rfl, hm⟩ := ready_structTy_inv h
  cases hfs.symm.trans hfs'
  exact ⟨os, rfl, hm⟩

theorem ReadyAll.mem {env : Env} {e : Ty} : ∀ {os : List Val}, ReadyAll env e os →
    ∀ o ∈ os, Ready env e o
  | [], _, o, ho => by cases ho
  | x :: xs, h, o, ho => by
    simp only [ReadyAll] at h
    rcases List.mem_cons.mp ho with rfl | ho
    · exact h.1
    · exact ReadyAll.mem h.2 o ho

/-- every well-typed struct value (e.g. the result of a previous decode, or any value the
    application stored in the target) is an admissible target -/
theorem WT.targetOK (env : Env) (v : Val) (S : String) (h : WT env (.struct S) v) : TargetOK env S v :=
  WT.ind (P := fun ty v => ∀ S, ty = .struct S → Ready env ty v)
    (fun _ hv S hS => by subst hS; exact absurd (scalarOK_isAtom hv) Bool.false_ne_true)
    (fun hty _ _ S hS => by subst hS; rcases hty with h | h <;> cases h)
    (fun _ _ _ S hS => nomatch hS)
    (fun {S' fs vs} hfs hw ih S _ => by
      simp only [Ready, hfs]
      have key : ∀ (gs : List Field) (ws : List Val), (∀ w ∈ ws, w ∈ vs) → WTm env gs ws →
          ReadyMembers env gs ws := by
        intro gs
        induction gs with
        | nil => intro ws _ hw; cases ws <;> simp [WTm, ReadyMembers] at hw ⊢
        | cons g gs ihg =>
          intro ws hsub hw
          cases ws with
          | nil => simp [WTm] at hw
          | cons w ws =>
            simp only [WTm] at hw
            exact readyMembers_cons.mpr ⟨fun _ nm hty => hty ▸ ih w (hsub w (by simp)) g.ty hw.1 nm hty,
              ihg ws (fun x hx => hsub x (by simp [hx])) hw.2⟩
      exact key fs vs (fun w hw => hw) hw) v _ h S rfl

/-! ## zero values are ready -/

theorem readyAll_replicate (env : Env) (e : Ty) (o : Val) (h : Ready env e o) :
    ∀ n, ReadyAll env e (List.replicate n o)
  | 0 => by simp [ReadyAll]
  | n+1 => by simp only [List.replicate_succ, ReadyAll]; exact ⟨h, readyAll_replicate env e o h n⟩

theorem readyMembers_map_zero (env : Env) (g : Ty → Val) :
    ∀ (gs : List Field), (∀ f ∈ gs, Ready env f.ty (g f.ty)) →
      ReadyMembers env gs (gs.map fun f => g f.ty)
  | [], _ => by simp [ReadyMembers]
  | f :: gs, h =>
    readyMembers_cons.mpr ⟨fun _ _ hty => hty ▸ h f (by simp),
      readyMembers_map_zero env g gs (fun f' hf' => h f' (by simp [hf']))⟩

/-- the fuel of `zeroVal` is also the rank bound: a struct that is `TyOK` below the bound `fuel` has
    a rank below it, its members are `TyOK` below that rank (`EnvWF`), and entering a struct is the
    only step of `zeroVal` that costs fuel; at the bound 0 no struct type is `TyOK` -/
theorem zeroVal_ready {env : Env} {rk : String → Nat} (hE : EnvWF env rk) :
    ∀ (fuel : Nat) (ty : Ty), TyOK env rk fuel ty → Ready env ty (zeroVal env fuel ty) := by
  -- the types are handled uniformly in the fuel, given the struct case at that fuel
  have step : ∀ fuel, (∀ name, TyOK env rk fuel (.struct name) →
      Ready env (.struct name) (zeroVal env fuel (.struct name))) →
      ∀ ty, TyOK env rk fuel ty → Ready env ty (zeroVal env fuel ty) := by
    intro fuel hS ty
    induction ty with
    | vec e _ => intro _; simp [zeroVal, Ready]
    | arr n e ih =>
      intro h; simp only [TyOK] at h
      rw [zeroVal]; simp only [Ready, List.length_replicate, true_and]
      exact readyAll_replicate env e _ (ih h.2.2) n
    | map k v _ _ => intro _; simp [zeroVal, Ready]
    | struct name => exact hS name
    | _ => intro _; simp [zeroVal, Ready, scalarZero, Ty.isAtom, Ty.isScalar]
  intro fuel
  induction fuel with
  | zero => exact step 0 (fun name h => by simp [TyOK] at h)
  | succ fuel ihf =>
    refine step (fuel+1) (fun name h => ?_)
    simp only [TyOK] at h
    obtain ⟨⟨fs, hfs⟩, hrk⟩ := h
    rw [zeroVal]
    simp only [hfs, Ready]
    obtain ⟨_, _, hf⟩ := hE name fs hfs
    exact readyMembers_map_zero env (zeroVal env fuel) fs fun f hfm =>
      ihf f.ty (TyOK.mono (by omega) (hf f hfm).2.1)

theorem zeroOf_ready {env : Env} {rk : String → Nat} (hE : EnvWF env rk) (ty : Ty)
    (h : TyOK env rk (env.length + 1) ty) : Ready env ty (zeroOf env ty) :=
  zeroVal_ready hE _ ty h

/-! ## `ResetDefault` -/

theorem resetMember_ready (env : Env) (fuel : Nat)
    (ih : ∀ (fs : List Field) (os : List Val), ReadyMembers env fs os →
      ReadyMembers env fs (resetDefault env fuel fs os))
    (f : Field) (nm : String) (hty : f.ty = .struct nm) (hd : f.dflt = none) (o : Val)
    (h : Ready env (.struct nm) o) : Ready env (.struct nm) (Evolve.resetMember env fuel f o) := by
  obtain ⟨ifs, inner, hfind, rfl, hm⟩ := ready_structTy_inv h
  rw [Evolve.resetMember_struct env fuel f nm inner ifs hd hty hfind]
  simp only [Ready, hfind]
  exact ih ifs inner hm

theorem resetDefault_ready (env : Env) : ∀ (fuel : Nat) (fs : List Field) (os : List Val),
    ReadyMembers env fs os → ReadyMembers env fs (resetDefault env fuel fs os) := by
  intro fuel
  induction fuel with
  | zero => intro fs os h; rw [resetDefault_fuel0]; exact h
  | succ fuel ihf =>
    intro fs
    induction fs with
    | nil => intro os h; cases os <;> simp [resetDefault, ReadyMembers] at h ⊢
    | cons f fs ih =>
      intro os h
      cases os with
      | nil => simp [ReadyMembers] at h
      | cons o os =>
        rw [readyMembers_cons] at h
        rw [Evolve.resetDefault_cons]
        exact readyMembers_cons.mpr ⟨fun hd nm hty =>
          resetMember_ready env fuel ihf f nm hty hd o (h.1 hd nm hty), ih os h.2⟩

theorem resetDefault_oldOK {env : Env} {rk : String → Nat} (hE : EnvWF env rk) (fuel : Nat) :
    ∀ (fs : List Field) (os : List Val), (∀ f ∈ fs, MemberOK env rk f) →
    ReadyMembers env fs os → OldOKs env fs (resetDefault env (fuel+1) fs os)
  | [], [], _, _ => by simp [resetDefault, OldOKs]
  | [], _ :: _, _, h => by simp [ReadyMembers] at h
  | _ :: _, [], _, h => by simp [ReadyMembers] at h
  | f :: fs, o :: os, hmo, h => by
    rw [readyMembers_cons] at h
    have ih := resetDefault_oldOK hE fuel fs os (fun g hg => hmo g (by simp [hg])) h.2
    have htf := (hmo f (by simp)).2.1
    obtain ⟨tag, req, ty, dflt⟩ := f
    rw [Evolve.resetDefault_cons]
    simp only [OldOKs]
    refine ⟨?_, ih⟩
    unfold OldOK
    cases dflt with
    | some d => rfl
    | none =>
      simp only at htf
      cases ty with
      | struct nm =>
        exact resetMember_ready env fuel (resetDefault_ready env fuel) _ _ rfl rfl o (h.1 rfl nm rfl)
      | arr n e =>
        cases e with
        | struct s =>
          -- `[N]S{}` followed by `ResetDefault` of every element: `n` admissible targets
          simp only [Evolve.resetMember]
          cases hfs : env.find s with
          | none => exact zeroOf_ready hE _ htf
          | some ifs =>
            simp only [Ready, List.length_replicate, true_and]
            apply readyAll_replicate
            simp only [Ready, hfs]
            apply resetDefault_ready
            exact readyMembers_map_zero env (zeroOf env) ifs fun g hg =>
              zeroOf_ready hE _ (hE.memberOK hfs g hg).2.1
        | _ => simp only [Evolve.resetMember]; exact zeroOf_ready hE _ htf
      | _ => simp only [Evolve.resetMember]; exact zeroOf_ready hE _ htf

/-- the two `ResetDefault` calls of `ReadBlock` + `ReadFrom` -/
theorem resetDefault_twice_oldOK {env : Env} {rk : String → Nat} (hE : EnvWF env rk) (fuel : Nat)
    (fs : List Field) (os : List Val) (hmo : ∀ f ∈ fs, MemberOK env rk f)
    (h : ReadyMembers env fs os) :
    OldOKs env fs (resetDefault env (fuel+1) fs (resetDefault env (fuel+1) fs os)) :=
  resetDefault_oldOK hE fuel fs _ hmo (resetDefault_oldOK hE fuel fs os hmo h).ready

end Tars
