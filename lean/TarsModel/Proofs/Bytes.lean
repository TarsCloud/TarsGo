import TarsModel.Model.Bytes

namespace Tars

theorem beVal_be (n x : Nat) : beVal (be n x) = x % 256 ^ n := by
  induction n with
  | zero => simp [be, beVal, Nat.mod_one]
  | succ n ih =>
    simp only [be, beVal, be_length, byte_val, ih]
    rw [Nat.mod_pow_succ]
    rw [Nat.mul_comm]
    omega

theorem beVal_lt (bs : Bytes) : beVal bs < 256 ^ bs.length := by
  induction bs with
  | nil => simp [beVal]
  | cons b bs ih =>
    simp only [beVal, List.length_cons, Nat.pow_succ]
    have hb := b.isLt
    have : b.val * 256 ^ bs.length ≤ 255 * 256 ^ bs.length := Nat.mul_le_mul_right _ (by omega)
    omega

theorem be_mod (n x : Nat) : be n (x % 256 ^ n) = be n x := by
  induction n generalizing x with
  | zero => rfl
  | succ n ih =>
    simp only [be]
    congr 1
    · apply Fin.ext
      simp only [byte_val, Nat.pow_succ, Nat.mod_mul_right_div_self, Nat.mod_mod]
    · rw [← ih, Nat.mod_mod_of_dvd _ ⟨256, Nat.pow_succ ..⟩, ih]

theorem be_beVal (bs : Bytes) : be bs.length (beVal bs) = bs := by
  induction bs with
  | nil => rfl
  | cons b bs ih =>
    have hlt := beVal_lt bs
    simp only [List.length_cons, be, beVal]
    congr 1
    · apply Fin.ext
      rw [byte_val, Nat.mul_comm, Nat.mul_add_div (Nat.pow_pos (by decide)), Nat.div_eq_of_lt hlt]
      have := b.isLt
      omega
    · rw [← be_mod, Nat.mul_comm, Nat.mul_add_mod, Nat.mod_eq_of_lt hlt, ih]

theorem toU_lt (bits : Nat) (v : Int) : toU bits v < 2 ^ bits := by
  unfold toU
  have hp : (0 : Int) < ((2 ^ bits : Nat) : Int) := by
    have : 0 < 2 ^ bits := Nat.pow_pos (by decide)
    omega
  have h1 := Int.emod_nonneg v (Int.ne_of_gt hp)
  have h2 := Int.emod_lt_of_pos v hp
  omega

theorem toS_toU (bits : Nat) (hb : 0 < bits) (v : Int)
    (hlo : -(2 : Int) ^ (bits - 1) ≤ v) (hhi : v < (2 : Int) ^ (bits - 1)) :
    toS bits (toU bits v) = v := by
  obtain ⟨n, rfl⟩ : ∃ n, bits = n + 1 := ⟨bits - 1, by omega⟩
  rw [Nat.add_sub_cancel, ← show ((2 ^ n : Nat) : Int) = (2 : Int) ^ n from Int.natCast_pow 2 n] at hlo hhi
  have hlt := toU_lt (n + 1) v
  unfold toS
  simp only [Nat.mod_eq_of_lt hlt]
  unfold toU at hlt ⊢
  simp only [Nat.add_sub_cancel, Nat.pow_succ] at *
  generalize 2 ^ n = P at *
  -- `v mod 2P` is `v` for `0 ≤ v` and `v + 2P` for `v < 0`
  by_cases hv : 0 ≤ v
  · rw [Int.emod_eq_of_lt hv (by omega)] at hlt ⊢
    split <;> omega
  · rw [← Int.add_emod_right, Int.emod_eq_of_lt (by omega) (by omega)] at hlt ⊢
    split <;> omega

theorem toU_ofNat (bits : Nat) (n : Nat) (h : n < 2 ^ bits) : toU bits (n : Int) = n := by
  unfold toU
  have : ((n : Int) % ((2 ^ bits : Nat) : Int)) = (n : Int) := Int.emod_eq_of_lt (by omega) (by omega)
  rw [this]; simp

theorem toU_of_range {bits : Nat} {i : Int} (h0 : 0 ≤ i) (h1 : i < 2 ^ bits) : toU bits i = i := by
  rw [← Int.toNat_of_nonneg h0, toU_ofNat bits _ ((Int.toNat_lt h0).2 (by simpa using h1))]

/-- Go's `int32(len(x))` on a length below 2^31 -/
theorem wrapS32_len (n : Nat) (h : n < 2^31) : wrapS 32 (n : Int) = (n : Int) := by
  unfold wrapS
  exact toS_toU 32 (by decide) _ (by omega) (by omega)

end Tars
