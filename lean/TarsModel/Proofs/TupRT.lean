import TarsModel.Proofs.TupBasic

/-!
  TUP attribute set: what `UniAttribute.Decode` does on inputs of a known
  shape — the encoding of an entry list (round trip, duplicates), an exhausted input (the spin of
  the as-found loop), a value or element head of the wrong wire type.
-/
namespace Tars.Tup
open Tars Consts

theorem readBytes_full (r : Reader) (v t : Bytes) (h : r.rest = v ++ t) :
    readBytes (v.length : Int) r = (.ok v, r.adv v.length) ∧ bytesAlloc (v.length : Int) r = v.length := by
  unfold readBytes bytesAlloc
  rw [checkLength_within r (Nat.le_refl _) h, Int.toNat_natCast]
  exact ⟨readFull_full v r t h, rfl⟩

theorem decodeEntry_rt (r : Reader) (k v t : Bytes) (hk : k.length < 2 ^ 32) (hv : v.length < 2 ^ 31)
    (h : r.rest = encodeEntry k v ++ t) :
    decodeEntry r = ⟨.ok (some (k, v)), k.length + v.length, r.adv (encodeEntry k v).length⟩ := by
  unfold encodeEntry at h ⊢
  rw [wrapS32_len _ hv] at h ⊢
  simp only [List.append_assoc] at h
  have h1 := readString_writeString k 0 [] false (by decide) hk r _ h
  have r1 := r.rest_adv h
  have h2 := skipToNoCheck_hit tySimpleList 1 false (by decide) (by decide) (by decide) _ _ r1
  have r2 := Reader.rest_adv _ r1
  have h3 := skipTo_hit tyBYTE 0 true (by decide) (by decide) (by decide) _ _ r2
  have r3 := Reader.rest_adv _ r2
  have h4 := readInt32_writeInt32 (v.length : Int) 0 0 true (by decide) (by omega) _ (v ++ t) r3
  obtain ⟨h5, h6⟩ := readBytes_full _ v t (Reader.rest_adv _ r3)
  simp only [decodeEntry, h1, h2, h3, h4, h5, h6, if_true]
  simp only [Reader.adv_adv, List.length_append, Nat.add_assoc]

/-- `u.data[p.1] = p.2` for the entries in order -/
def putAll (m : TupMap) (es : TupMap) : TupMap := es.foldl (fun m p => put m p.1 p.2) m

@[simp] theorem putAll_nil (m : TupMap) : putAll m [] = m := rfl
@[simp] theorem putAll_cons (m : TupMap) (p : Bytes × Bytes) (es : TupMap) :
    putAll m (p :: es) = putAll (put m p.1 p.2) es := rfl

theorem lookup_filter_ne (m : TupMap) {k k' : Bytes} (hk : k' ≠ k) :
    (m.filter fun p => !(p.1 == k)).lookup k' = m.lookup k' := by
  induction m with
  | nil => rfl
  | cons p rest ih =>
    by_cases hp : p.1 = k
    · have : (k' == p.1) = false := by rw [hp]; exact beq_eq_false_iff_ne.mpr hk
      rw [List.filter_cons_of_neg (by simp [hp]), List.lookup_cons, this]
      exact ih
    · rw [List.filter_cons_of_pos (by simp [hp]), List.lookup_cons, List.lookup_cons, ih]

theorem get_put (m : TupMap) (k v k' : Bytes) :
    get (put m k v) k' = if k' = k then some v else get m k' := by
  unfold get put
  rw [List.lookup_cons]
  by_cases hk : k' = k
  · rw [if_pos hk, beq_iff_eq.mpr hk]
  · rw [if_neg hk, beq_eq_false_iff_ne.mpr hk]
    exact lookup_filter_ne m hk

theorem get_putAll (es : TupMap) : ∀ (m : TupMap) (k : Bytes),
    get (putAll m es) k = (es.reverse.lookup k).or (get m k) := by
  induction es with
  | nil => intro m k; rfl
  | cons p rest ih =>
    intro m k
    rw [putAll_cons, ih, get_put, List.reverse_cons, List.lookup_append, Option.or_assoc,
      List.lookup_singleton]
    by_cases hk : k = p.1 <;> simp [hk]

theorem putAll_nodup : ∀ (es m : TupMap), (es.map (·.1)).Nodup →
    (∀ p ∈ es, ∀ q ∈ m, q.1 ≠ p.1) → putAll m es = es.reverse ++ m := by
  intro es
  induction es with
  | nil => intro m _ _; rfl
  | cons p rest ih =>
    intro m hnd hdis
    rw [List.map_cons, List.nodup_cons] at hnd
    have hput : put m p.1 p.2 = p :: m :=
      congrArg _ (List.filter_eq_self.mpr fun q hq => by simpa using hdis p (List.mem_cons_self ..) q hq)
    rw [putAll_cons, hput, ih _ hnd.2, List.reverse_cons, List.append_assoc]
    · rfl
    · intro p' hp' q hq
      rcases List.mem_cons.mp hq with rfl | hq
      · exact fun heq => hnd.1 (heq ▸ List.mem_map_of_mem hp')
      · exact hdis p' (List.mem_cons_of_mem _ hp') q hq

theorem lookup_nodup : ∀ (l : TupMap), (l.map (·.1)).Nodup → ∀ k v, l.lookup k = some v ↔ (k, v) ∈ l := by
  intro l
  induction l with
  | nil => intro _ k v; simp
  | cons p rest ih =>
    intro hnd k v
    obtain ⟨a, b⟩ := p
    rw [List.map_cons, List.nodup_cons] at hnd
    rw [List.lookup_cons, List.mem_cons]
    by_cases hk : k = a
    · subst hk
      have : (k, v) ∉ rest := fun h => hnd.1 (List.mem_map_of_mem (f := (·.1)) h)
      simp [this, eq_comm]
    · simp [beq_eq_false_iff_ne.mpr hk, hk, ih hnd.2]

theorem encodeEntries_length_ge (es : TupMap) : es.length ≤ (encodeEntries es).length := by
  induction es with
  | nil => exact Nat.le_refl _
  | cons p rest ih =>
    have := writeHead_length_pos tySimpleList 1
    simp only [encodeEntries, encodeEntry, List.length_cons, List.length_append]
    omega

/-- sizes the Go conversions `uint32(len(k))` / `int32(len(v))` represent exactly -/
def Sized (es : TupMap) : Prop := ∀ p ∈ es, p.1.length < 2 ^ 32 ∧ p.2.length < 2 ^ 31

instance (es : TupMap) : Decidable (Sized es) := List.decidableBAll _ es

theorem decodeLoop_entries : ∀ (es : TupMap), Sized es → ∀ (n : Nat) (m : TupMap) (it al : Nat) (r : Reader) (t : Bytes),
    r.rest = encodeEntries es ++ t →
    decodeLoop (es.length + n) m it al r =
      decodeLoop n (putAll m es) (it + es.length) (al + dataBytes es) (r.adv (encodeEntries es).length) := by
  intro es
  induction es with
  | nil => intro _ n m it al r t _; simp [encodeEntries, dataBytes]
  | cons p rest ih =>
    intro hs n m it al r t h
    obtain ⟨hk, hv⟩ := hs p (List.mem_cons_self ..)
    rw [encodeEntries, List.append_assoc] at h
    rw [List.length_cons, Nat.add_right_comm, decodeLoop_succ, decodeEntry_rt r p.1 p.2 _ hk hv h]
    simp only
    rw [ih (fun q hq => hs q (List.mem_cons_of_mem _ hq)) n _ _ _ _ t (r.rest_adv h)]
    simp only [putAll_cons, dataBytes, encodeEntries, List.length_append, Reader.adv_adv,
      Nat.add_assoc, Nat.add_comm 1]

theorem decodeV_header (chk : Bool) (m0 : TupMap) (r : Reader) (c : Int) (body : Bytes)
    (hc : -(2 : Int) ^ 31 ≤ c ∧ c < (2 : Int) ^ 31)
    (h : r.rest = writeHead tyMAP 0 ++ writeInt32 c 0 ++ body) :
    decodeV chk m0 r =
      if chk = true ∧ (c < 0 ∨ (body.length : Int) < c) then
        ⟨some .eof, m0, r.adv (writeHead tyMAP 0 ++ writeInt32 c 0).length, 0, 0⟩
      else decodeLoop c.toNat m0 0 0 (r.adv (writeHead tyMAP 0 ++ writeInt32 c 0).length) := by
  have hrem := Reader.remaining_of_rest (r.rest_adv h)
  rw [List.append_assoc] at h
  have r1 := r.rest_adv h
  unfold decodeV
  rw [skipTo_hit tyMAP 0 false (by decide) (by decide) (by decide) r _ h]
  simp only
  rw [readInt32_writeInt32 c 0 0 true (by decide) hc _ body r1]
  simp only [Reader.adv_adv, ← List.length_append]
  cases chk with
  | false => simp
  | true =>
    simp only [if_true, true_and]
    by_cases hb : c < 0 ∨ (body.length : Int) < c
    · rw [if_pos hb, checkLength_of_gt (by rw [hrem]; exact hb)]
    · rw [if_neg hb, checkLength_of_le (by omega) (by rw [hrem]; omega)]

theorem decodeV_entries (chk : Bool) (m0 : TupMap) (r : Reader) (es : TupMap) (n : Nat) (rest : Bytes)
    (hs : Sized es) (hn : es.length + n < 2 ^ 31)
    (h : r.rest = writeHead tyMAP 0 ++ writeInt32 (wrapS 32 ((es.length + n : Nat) : Int)) 0
          ++ (encodeEntries es ++ rest))
    (hc : chk = true → es.length + n ≤ (encodeEntries es ++ rest).length) :
    ∃ r', r'.rest = rest ∧
      r'.pos = r.pos + (writeHead tyMAP 0 ++ writeInt32 (wrapS 32 ((es.length + n : Nat) : Int)) 0
        ++ encodeEntries es).length ∧
      decodeV chk m0 r = decodeLoop n (putAll m0 es) es.length (dataBytes es) r' := by
  rw [wrapS32_len _ hn] at h ⊢
  have r1 := r.rest_adv h
  refine ⟨_, Reader.rest_adv _ r1, ?_, ?_⟩
  · simp only [Reader.adv_pos, List.length_append, Nat.add_assoc]
  · rw [decodeV_header chk m0 r _ _ (by omega) h,
      if_neg (fun ⟨hchk, hb⟩ => by have := hc hchk; omega), Int.toNat_natCast,
      decodeLoop_entries es hs n m0 0 0 _ rest r1]
    simp only [Nat.zero_add]

theorem decodeV_bad_entry (chk : Bool) {r : Reader} (es : TupMap) {bad : Bytes} (n' : Nat) {e : Err}
    (hs : Sized es) (hn : es.length + (n' + 1) < 2 ^ 31)
    (hbad : ∀ r' : Reader, r'.rest = bad → (decodeEntry r').res = .error e)
    (h : r.rest = writeHead tyMAP 0 ++ writeInt32 (wrapS 32 ((es.length + (n' + 1) : Nat) : Int)) 0
          ++ (encodeEntries es ++ bad))
    (hc : chk = true → es.length + (n' + 1) ≤ (encodeEntries es ++ bad).length) :
    (decodeV chk [] r).err = some e ∧ (decodeV chk [] r).data = putAll [] es := by
  obtain ⟨r', hr', _, he⟩ := decodeV_entries chk [] r es (n' + 1) bad hs hn h hc
  rw [he, decodeLoop_succ, hbad r' hr']
  exact ⟨rfl, rfl⟩

theorem decodeV_encode (chk : Bool) (l : TupMap) (t : Bytes) (hs : Sized l) (hl : l.length < 2 ^ 31) :
    ∃ r', r'.pos = (encode l).length ∧
      decodeV chk [] (Reader.mk0 (encode l ++ t)) = ⟨none, putAll [] l, r', l.length, dataBytes l⟩ := by
  obtain ⟨r', _, hpos, he⟩ := decodeV_entries chk [] (Reader.mk0 (encode l ++ t)) l 0 t hs hl
    (by rw [Reader.rest_mk0]; simp [encode]) (fun _ => by
      have := encodeEntries_length_ge l
      simp only [List.length_append]; omega)
  exact ⟨r', hpos.trans (Nat.zero_add _), he⟩

theorem decodeEntry_eof (r : Reader) (h : r.rest = []) : decodeEntry r = ⟨.ok none, 0, r⟩ := by
  simp only [decodeEntry, readString, skipToNoCheck_nil _ _ false h, Bool.false_eq_true, if_false]
  rfl

theorem decodeLoop_eof {r : Reader} (h : r.rest = []) : ∀ (n : Nat) (m : TupMap) (it al : Nat),
    decodeLoop n m it al r = ⟨none, m, r, it + n, al⟩ := by
  intro n
  induction n with
  | zero => intro m it al; rfl
  | succ n ih =>
    intro m it al
    rw [decodeLoop_succ, decodeEntry_eof r h]
    simp only
    rw [ih, Nat.add_assoc, Nat.add_comm 1]
    rfl

/-- the value head (tag 1) is there but is not a SimpleList: "require vector, but not" -/
theorem decodeEntry_value_wrong_type (k t : Bytes) (ty : Nat) (hk : k.length < 2 ^ 32)
    (hty : ty < 16) (h1 : ty ≠ tySimpleList) (h2 : ty ≠ tyStructEnd)
    (r : Reader) (h : r.rest = writeString k 0 ++ writeHead ty 1 ++ t) :
    (decodeEntry r).res = .error .mismatch := by
  rw [List.append_assoc] at h
  have e1 := readString_writeString k 0 [] false (by decide) hk r _ h
  have e2 := skipToNoCheck_hit ty 1 false hty h2 (by decide) _ t (r.rest_adv h)
  simp only [decodeEntry, e1, e2, if_neg h1]

theorem decodeEntry_elem_wrong_type (k t : Bytes) (ty tg : Nat) (hk : k.length < 2 ^ 32)
    (hty : ty < 16) (htg : tg < 256) (hne : ¬ (ty = tyBYTE ∧ tg = 0))
    (r : Reader) (h : r.rest = writeString k 0 ++ writeHead tySimpleList 1 ++ writeHead ty tg ++ t) :
    (decodeEntry r).res = .error (if ty = tyStructEnd ∨ tg > 0 then .require else .mismatch) := by
  simp only [List.append_assoc] at h
  have e1 := readString_writeString k 0 [] false (by decide) hk r _ h
  have r1 := r.rest_adv h
  have e2 := skipToNoCheck_hit tySimpleList 1 false (by decide) (by decide) (by decide) _ _ r1
  have r2 := Reader.rest_adv _ r1
  have e3 : ∃ r3, skipTo tyBYTE 0 true ((r.adv (writeString k 0).length).adv (writeHead tySimpleList 1).length)
      = (.error (if ty = tyStructEnd ∨ tg > 0 then .require else .mismatch), r3) := by
    by_cases hc : ty = tyStructEnd ∨ tg > 0
    · rw [if_pos hc, skipTo, skipToNoCheck_past _ 0 ty tg true t hty htg hc r2]
      exact ⟨_, rfl⟩
    · have htg0 : tg = 0 := by omega
      subst htg0
      rw [if_neg hc]
      exact ⟨_, skipTo_found_mismatch
        (skipToNoCheck_hit ty 0 true hty (fun h => hc (.inl h)) (by decide) _ t r2) fun h => hne ⟨h.symm, rfl⟩⟩
  obtain ⟨r3, e3⟩ := e3
  simp only [decodeEntry, e1, e2, e3, if_true]

/-- the key head (tag 0) is there but is not a string: "need string" -/
theorem decodeEntry_key_wrong_type (t : Bytes) (ty : Nat)
    (hty : ty < 16) (h1 : ty ≠ tySTRING1) (h4 : ty ≠ tySTRING4) (h2 : ty ≠ tyStructEnd)
    (r : Reader) (h : r.rest = writeHead ty 0 ++ t) :
    (decodeEntry r).res = .error .mismatch := by
  have e0 := skipToNoCheck_hit ty 0 false hty h2 (by decide) r t h
  have e1 := readString_mismatch (old := []) e0 (by simp [strLenWidth, h1, h4])
  simp only [decodeEntry, e1]

end Tars.Tup
