import TarsModel.Model.Cost
import TarsModel.Proofs.TotalShape
import TarsModel.Proofs.MemberRead
import TarsModel.Proofs.WireExact

/-!
  The generated decoders, followed once, in their instrumented form (`Model/Cost.lean`).  The
  instrumented decoders return the original results (`decA_eq`, both programs side by side), and
  one induction (`decA_ok`) gives for every call `RunOK`: where the position ends up, of which
  class an error is, and how much was allocated.  Termination, absence of panics and the
  allocation bound, for the instrumented and the plain decoders, are read off it; at `ReadFrom`
  the fuel `decFuel` meets the budget of that induction (`decFuel_ge_members`).
-/
namespace Tars
open Consts

/-- The fuel a byte of input pays for: `decFuel` allots `env.width + 3` units per byte.  What a
    byte can open at most is a nested struct (by its StructBegin head), whose member sequence
    takes one unit per member — an absent optional member costs fuel and no input — and two more
    for its own frames, `env.width + 2` at most; an element of a list or map takes one. -/
abbrev Env.perByte (env : Env) : Nat := env.width + 3

/-- consuming a byte frees `a` units of a budget of `a` per remaining byte -/
theorem mul_step (a : Nat) {ρ1 ρ : Nat} (h : ρ1 + 1 ≤ ρ) : a * ρ1 + a ≤ a * ρ :=
  Nat.mul_succ a ρ1 ▸ Nat.mul_le_mul_left a h

theorem fst_ite {α β : Type} {c : Prop} [Decidable c] {x y : α × β} {a b : α}
    (hx : c → x.1 = a) (hy : ¬ c → y.1 = b) : (if c then x else y).1 = if c then a else b := by
  split
  · exact hx ‹_›
  · exact hy ‹_›

structure DecAEq (env : Env) (f : Nat) : Prop where
  var : ∀ tag req ty old r, (decVarA env f tag req ty old r).1 = decVar env f tag req ty old r
  elems : ∀ e n acc r, (decElemsA env f e n acc r).1 = decElems env f e n acc r
  arr : ∀ e n i len cur r, (decArrA env f e n i len cur r).1 = decArr env f e n i len cur r
  pairs : ∀ k v len acc r, (decPairsA env f k v len acc r).1 = decPairs env f k v len acc r
  members : ∀ fs olds r, (decMembersA env f fs olds r).1 = decMembers env f fs olds r

theorem decA_eq (env : Env) : ∀ f : Nat, DecAEq env f := by
  intro f
  induction f with
  | zero =>
    refine ⟨?_, ?_, ?_, ?_, ?_⟩ <;> intros
    · rw [decVar_fuel0]; unfold decVarA; rfl
    · rw [decElems_fuel0]; unfold decElemsA; rfl
    · rw [decArr_fuel0]; unfold decArrA; rfl
    · rw [decPairs_fuel0]; unfold decPairsA; rfl
    · rw [decMembers_fuel0]; unfold decMembersA; rfl
  | succ f ih =>
    obtain ⟨ihV, ihE, ihA, ihP, ihM⟩ := ih
    refine ⟨?_, ?_, ?_, ?_, ?_⟩
    · intro tag req ty old r
      unfold decVarA decVar
      cases ty with
      | vec e =>
        rcases skipToNoCheck tag req r with ⟨_ | ⟨hv, tyCur⟩, r1⟩
        · rfl
        refine fst_ite (fun _ => rfl) (fun _ => fst_ite (fun _ => ?_)
          (fun _ => fst_ite (fun _ => fst_ite (fun _ => ?_) (fun _ => rfl)) (fun _ => rfl)))
        · rcases readLen r1 with ⟨_ | len, r2⟩
          · rfl
          dsimp only
          rcases checkLength len r2 with ⟨_ | u, r3⟩
          · rfl
          · exact ihE _ _ _ _
        · rcases skipTo tyBYTE 0 true r1 with ⟨_ | b, r2⟩
          · rfl
          dsimp only
          rcases readLen r2 with ⟨_ | len, r3⟩
          · rfl
          dsimp only [Total.oldBytes]
          rcases readSlice8 (match old with | .list vs => int8Bytes vs | _ => []) len r3
            with ⟨_ | bs, r4⟩ <;> rfl
      | arr n e =>
        rcases skipToNoCheck tag req r with ⟨_ | ⟨hv, tyCur⟩, r1⟩
        · rfl
        refine fst_ite (fun _ => rfl) (fun _ => fst_ite (fun _ => ?_) (fun _ => rfl))
        rcases readLen r1 with ⟨_ | len, r2⟩
        · rfl
        · exact fst_ite (fun _ => rfl) (fun _ => ihA _ _ _ _ _ _)
      | map k v =>
        rcases skipTo tyMAP tag req r with ⟨_ | hv, r1⟩
        · rfl
        refine fst_ite (fun _ => rfl) (fun _ => ?_)
        rcases readLen r1 with ⟨_ | len, r2⟩
        · rfl
        dsimp only
        rcases checkLength len r2 with ⟨_ | u, r3⟩
        · rfl
        · exact ihP _ _ _ _ _
      | struct name =>
        dsimp only
        split
        · rename_i fs ovs hfs
          simp only [hfs]
          rcases skipTo tyStructBegin tag req r with ⟨_ | hv, r1⟩
          · rfl
          refine fst_ite (fun _ => by split <;> rfl) (fun _ => ?_)
          rw [← ihM]
          rcases decMembersA env f fs (resetDefault env f fs (resetDefault env f fs ovs)) r1
            with ⟨⟨_ | vs, r2⟩, c⟩
          · rfl
          dsimp only
          rcases skipToStructEnd r2.fuel r2 with ⟨_ | u, r3⟩ <;> rfl
        · rename_i hno
          split
          · exact absurd rfl (hno _ _ ‹_›)
          · rfl
      | bool | i8 | u8 | i16 | u16 | i32 | u32 | i64 | f32 | f64 | str | enum => rfl
    · intro e n acc r
      unfold decElemsA decElems
      cases n with
      | zero => rfl
      | succ n' =>
        rw [← ihV]
        rcases decVarA env f 0 true e (zeroOf env e) r with ⟨⟨_ | v, r1⟩, c⟩
        · rfl
        · exact ihE _ _ _ _
    · intro e n i len cur r
      rw [Tars.decArr_succ]
      unfold decArrA
      refine fst_ite (fun _ => rfl) (fun _ => fst_ite (fun _ => rfl) (fun _ => ?_))
      rw [← ihV]
      rcases decVarA env f 0 true e (cur.getD i (zeroOf env e)) r with ⟨⟨_ | v, r1⟩, c⟩
      · rfl
      · exact ihA _ _ _ _ _ _
    · intro k v len acc r
      rw [Tars.decPairs_succ]
      unfold decPairsA
      refine fst_ite (fun _ => rfl) (fun _ => ?_)
      rw [← ihV]
      rcases decVarA env f 0 true k (zeroOf env k) r with ⟨⟨_ | a, r1⟩, c⟩
      · rfl
      dsimp only
      rw [← ihV]
      rcases decVarA env f 1 true v (zeroOf env v) r1 with ⟨⟨_ | b, r2⟩, c'⟩
      · rfl
      · exact ihP _ _ _ _ _
    · intro fs olds r
      unfold decMembersA decMembers
      cases fs with
      | nil => rfl
      | cons fld fs' =>
      cases olds with
      | nil => rfl
      | cons o os =>
        dsimp only
        rw [← ihV]
        rcases decVarA env f fld.tag fld.req fld.ty o r with ⟨⟨_ | v, r1⟩, c⟩
        · rfl
        dsimp only
        rw [← ihM]
        rcases decMembersA env f fs' os r1 with ⟨⟨_ | vs, r2⟩, c'⟩ <;> rfl

@[simp] theorem Cost.zero_alloc : Cost.zero.alloc = 0 := rfl
@[simp] theorem Cost.zero_nest : Cost.zero.nest = 0 := rfl
@[simp] theorem Cost.seq_alloc (a b : Cost) : (Cost.seq a b).alloc = a.alloc + b.alloc := rfl
@[simp] theorem Cost.seq_nest (a b : Cost) : (Cost.seq a b).nest = max a.nest b.nest := rfl
@[simp] theorem Cost.make_alloc (n : Nat) (c : Cost) : (Cost.make n c).alloc = n + c.alloc := rfl
@[simp] theorem Cost.make_nest (n : Nat) (c : Cost) : (Cost.make n c).nest = c.nest + 1 := rfl
@[simp] theorem Cost.flat_alloc (n : Nat) : (Cost.flat n).alloc = n := rfl
@[simp] theorem Cost.flat_nest (n : Nat) : (Cost.flat n).nest = 1 := rfl
theorem Cost.seq_assoc (a b c : Cost) : Cost.seq (Cost.seq a b) c = Cost.seq a (Cost.seq b c) := by
  simp only [Cost.seq, Nat.add_assoc, Nat.max_assoc]

/-- **What a run of an instrumented decoder guarantees**, the one statement carried through the
    decoders: the position never moves backwards; a successful run consumed at least what it
    allocated plus `ex` bytes (`ex` is 1 for a required member/element, the element count for a
    vector's element loop); a failed run ends in an error of class `ErrClass A B` and allocated
    at most `nest` times the remaining input more than it consumed. -/
def RunOK {α : Type} (A B : Prop) (ex : Nat) (r : Reader) (x : Res α × Cost) : Prop :=
  Sat x.1 (fun _ r' => r.Le r' ∧ x.2.alloc + ex + r'.remaining ≤ r.remaining)
    (fun e r' => r.Le r' ∧ ErrClass A B e ∧
      x.2.alloc + r'.remaining ≤ r.remaining + x.2.nest * r.remaining)

namespace RunOK
variable {α β : Type} {A A' B B' : Prop} {ex ex' ey k : Nat} {r r1 r' : Reader} {x : Res α × Cost}
  {a : α} {b : β} {e : Err} {c : Cost}

theorem decOK {req : Bool} (h : RunOK A B ex r x) (hreq : req = true → 1 ≤ ex) : DecOK A B req r x.1 :=
  Sat.mono h (fun _ _ h => ⟨h.1, fun hr => by have := hreq hr; omega⟩) (fun _ _ h => ⟨h.1, h.2.1⟩)

theorem le (h : RunOK A B ex r x) : r.Le x.1.2 := by
  obtain ⟨⟨_ | _, _⟩, _⟩ := x <;> exact h.1

theorem alloc_ok (h : RunOK A B ex r x) (hv : x.1.1 = .ok a) :
    x.2.alloc + ex + x.1.2.remaining ≤ r.remaining := by
  obtain ⟨⟨_ | _, _⟩, _⟩ := x
  · cases hv
  · exact h.2

/-- failed or not: a failed run consumed nothing it can count on, a successful one paid in full -/
theorem alloc_le (h : RunOK A B ex r x) : x.2.alloc ≤ (x.2.nest + 1) * r.remaining := by
  rw [Nat.add_mul, Nat.one_mul]
  obtain ⟨⟨_ | _, _⟩, _⟩ := x
  · have := h.2.2; dsimp only at *; omega
  · have := h.2; dsimp only at *; omega

theorem ite {p : Prop} [Decidable p] {x y : Res α × Cost}
    (hx : p → RunOK A B ex r x) (hy : ¬ p → RunOK A B ex r y) : RunOK A B ex r (if p then x else y) := by
  split
  · exact hx ‹_›
  · exact hy ‹_›

theorem err0 (hle : r.Le r') (h : ErrClass A B e) :
    RunOK A B ex r (((.error e, r'), Cost.zero) : Res α × Cost) :=
  ⟨hle, h, by have := hle.remaining; simp only [Cost.zero_alloc]; omega⟩

/-- `.fuel` and the index panic, the errors `ErrClass` admits only when `A` fails -/
theorem unset (hle : r.Le r') (h : ¬ A) : RunOK A B ex r (((.error e, r'), Cost.zero) : Res α × Cost) :=
  err0 hle (.inr (.inr h))

theorem noStruct {env : Env} {name : String} {old : Val}
    (hno : ∀ fs ovs, env.find name = some fs → old = .struct ovs → False)
    (hB : B → Shape env (.struct name) old) :
    RunOK A B ex r (((.error illTyped, r), Cost.zero) : Res α × Cost) :=
  err0 (.refl _) (.inr (.inl ⟨rfl, fun h => by
    obtain ⟨fs, ovs, ho, hfs⟩ := Shape.struct_inv (hB h)
    exact hno fs ovs hfs ho⟩))

theorem ok0 (hle : r.Le r') : RunOK A B 0 r (((.ok a, r'), Cost.zero) : Res α × Cost) :=
  ⟨hle, by have := hle.remaining; simp only [Cost.zero_alloc]; omega⟩

theorem done : RunOK A B 0 r (((.ok a, r), Cost.zero) : Res α × Cost) := ok0 (.refl r)

theorem thenOk (h : RunOK A B ex r (((.ok a, r1), c) : Res α × Cost)) (h2 : r1.Le r') :
    RunOK A B ex r (((.ok b, r'), c) : Res β × Cost) :=
  ⟨h.1.trans h2, by have := h.2; have := h2.remaining; dsimp only at *; omega⟩

theorem thenFail (h : RunOK A B ex r (((.ok a, r1), c) : Res α × Cost)) (h2 : PlainAt r1 e r') :
    RunOK A' B' ex' r (((.error e, r'), c) : Res β × Cost) :=
  ⟨h.1.trans h2.1, .inl h2.2, by have := h.2; have := h2.1.remaining; dsimp only at *; omega⟩

theorem fail (hle : r.Le r1) (h : PlainAt r1 e r') :
    RunOK A B ex r (((.error e, r'), Cost.zero) : Res α × Cost) :=
  (ok0 (a := ()) hle : RunOK A B 0 r _).thenFail h

theorem err_cast (h : RunOK A' B' ex r (((.error e, r'), c) : Res α × Cost)) (hA : A → A') (hB : B → B') :
    RunOK A B ex' r (((.error e, r'), c) : Res β × Cost) :=
  ⟨h.1, h.2.1.mono hA hB, h.2.2⟩

theorem consumed (h : RunOK A B ex r (((.ok a, r1), c) : Res α × Cost)) : r1.remaining + ex ≤ r.remaining := by
  have := h.2; dsimp only at this; omega

/-- a run started at the later position `r1`, `k` bytes further on, seen from `r`: the bytes
    consumed in between pay for `k` more -/
theorem after (h : RunOK A' B' ex r1 x) (hle : r.Le r1) (hk : r1.remaining + k ≤ r.remaining)
    (hex : ex' ≤ ex + k) (hA : A → A') (hB : B → B') : RunOK A B ex' r x :=
  Sat.mono h (fun _ _ h => ⟨hle.trans h.1, by have := h.2; omega⟩)
    (fun _ _ h => ⟨hle.trans h.1, h.2.1.mono hA hB, by
      have := h.2.2
      have := Nat.mul_le_mul_left x.2.nest (show r1.remaining ≤ r.remaining by omega)
      omega⟩)

theorem mono (h : RunOK A' B' ex r x) (hex : ex' ≤ ex) (hA : A → A') (hB : B → B') : RunOK A B ex' r x :=
  h.after (k := 0) (.refl r) (Nat.le_refl _) hex hA hB

theorem seq {cx : Cost} {y : Res β × Cost} (hx : RunOK A' B' ex r (((.ok a, r1), cx) : Res α × Cost))
    (hy : RunOK A B ey r1 y) : RunOK A B (ex + ey) r (y.1, Cost.seq cx y.2) := by
  have h1 := hx.2
  dsimp only at h1
  refine Sat.mono hy (fun _ _ h => ⟨hx.1.trans h.1, ?_⟩) (fun _ _ h => ⟨hx.1.trans h.1, h.2.1, ?_⟩)
  · have := h.2
    simp only [Cost.seq_alloc]; omega
  · have := h.2.2
    have := Nat.mul_le_mul (Nat.le_max_right cx.nest y.2.nest) (show r1.remaining ≤ r.remaining by omega)
    simp only [Cost.seq_alloc, Cost.seq_nest]; omega

/-- `make([]T, n)` after `CheckLength(n)`, then the element loop, whose `n` required reads pay
    for the `n` elements -/
theorem make {n : Nat} {y : Res α × Cost} (hy : RunOK A B n r y) (hn : n ≤ r.remaining) :
    RunOK A B 0 r (y.1, Cost.make n y.2) :=
  Sat.mono hy (fun _ _ h => ⟨h.1, by have := h.2; simp only [Cost.make_alloc]; omega⟩)
    (fun _ _ h => ⟨h.1, h.2.1, by
      have := h.2.2
      simp only [Cost.make_alloc, Cost.make_nest, Nat.add_mul, Nat.one_mul]; omega⟩)

end RunOK

/-- `ReadSliceInt8/Uint8`, behind its `len ≤ 0` test `ReadBytes`: the bytes of the slice are
    allocated only after `CheckLength`, and are part of what a successful read consumed -/
theorem slice8_run {α : Type} {A B : Prop} (old : Bytes) (len : Int) (f : Bytes → α) (r : Reader) :
    RunOK A B 0 r
      (match readSlice8 old len r with
        | (.error er, r') => (((.error er, r') : Res α),
            if len ≤ 0 then Cost.zero else
              match checkLength len r with
              | (.ok (), _) => Cost.flat len.toNat
              | (.error _, _) => Cost.zero)
        | (.ok bs, r4) => ((.ok (f bs), r4),
            if len ≤ 0 then Cost.zero else
              match checkLength len r with
              | (.ok (), _) => Cost.flat len.toNat
              | (.error _, _) => Cost.zero)) := by
  have e : readSlice8 old len r = if len ≤ 0 then (.ok [], r) else readBytes len r := rfl
  rw [e]
  by_cases c5 : len ≤ 0
  · simp only [if_pos c5]
    exact .done
  · simp only [if_neg c5]
    rcases readBytes_cases len r with ⟨hc, hr⟩ | ⟨hc, hn, hr⟩ <;> rw [hc, hr]
    · exact .fail (.refl r) ⟨.refl r, rfl⟩
    · refine ⟨r.le_adv _, ?_⟩
      simp only [Cost.flat_alloc, Reader.remaining, Reader.adv_data, Reader.adv_pos] at hn ⊢
      omega

theorem scalarBody_fwd (ty : Ty) (w : Nat) (r1 : Reader) : Fwd r1 (scalarBody ty w r1) := by
  cases ty with
  | f32 => exact Sat.mapRes _ (f32Body_eq ▸ fixedBody_fwd r1)
  | f64 => exact Sat.mapRes _ (f64Body_eq ▸ fixedBody_fwd r1)
  | bool | i8 | u8 | i16 | u16 | i32 | u32 | i64 | enum => exact Sat.mapRes _ (intBody_fwd _ w r1)
  | str | vec _ | arr _ _ | map _ _ | struct _ => exact Sat.mapRes _ (strBody_fwd w r1)

theorem readScalar_ok (ty : Ty) (old : Val) (tag : Nat) (req : Bool) (r : Reader) :
    DecOK True (ScalarShape ty old) req r (readScalar ty old tag req r) := by
  by_cases hs : ScalarShape ty old
  · rw [readScalar_eq_readWith hs]
    exact readWith_spec (scalarBody_fwd ty)
  · rw [readScalar_ill hs]
    exact ⟨.refl _, .inr (.inl ⟨rfl, hs⟩)⟩

/-- a scalar read with its allocation: a `.str` result forces the declared type `str`
    (`readScalar_str`), and `readString_found` puts the string inside the bytes the read consumed
    after the head; every other scalar allocates nothing -/
theorem readScalarA_run (ty : Ty) (old : Val) (tag : Nat) (req : Bool) (r : Reader) :
    RunOK True (ScalarShape ty old) (if req then 1 else 0) r
      (readScalar ty old tag req r, ⟨strAlloc tag req r (readScalar ty old tag req r), 0⟩) := by
  have hstep := readScalar_ok ty old tag req r
  rcases hx : readScalar ty old tag req r with ⟨e | v, r'⟩
  · have h := hstep.err hx
    have h0 : strAlloc tag req r ((.error e, r') : Res Val) = 0 := by
      unfold strAlloc
      split
      · rename_i hv; cases hv
      · rfl
    refine ⟨h.1, h.2, ?_⟩
    have := h.1.remaining
    simp only [h0]; omega
  · have h := hstep.ok hx
    have hle := h.1.remaining
    refine ⟨h.1, ?_⟩
    unfold strAlloc
    split
    · rename_i ty1 r1 s r'' hs hv
      cases hv
      obtain ⟨rfl, o, rfl, hx'⟩ := readScalar_str hx
      have := (readString_found hx' hs).2
      dsimp only
      split <;> omega
    · by_cases hr : req = true
      · have := h.2 hr; simp only [if_pos hr]; omega
      · simp only [if_neg hr]; omega

/-- **The generated decoders, followed once** (in their instrumented form, at fuel `f`): each is
    `RunOK` from any start `r`.  An error is a plain Go error unless
    * the target was not well-shaped for a closed environment (only then: the ill-typed marker), or
    * the fuel was below `(W+3)·remaining + 1` (`W = env.width`; `+2` for the loops,
      `+ #members + 2` for a member sequence), or the array loop was entered with `len > n` (only
      then: `.fuel`, an index panic).
    Lengths and element counts are validated before use, which is why no other panic occurs and
    why every element allocated is paid for by a byte of input. -/
structure DecAOK (env : Env) (f : Nat) : Prop where
  var : ∀ tag req ty old (r : Reader),
    RunOK (env.perByte * r.remaining + 1 ≤ f) (EnvClosed env ∧ TyClosed env ty ∧ Shape env ty old)
      (if req then 1 else 0) r (decVarA env f tag req ty old r)
  elems : ∀ e n acc (r : Reader),
    RunOK (env.perByte * r.remaining + 2 ≤ f) (EnvClosed env ∧ TyClosed env e)
      n r (decElemsA env f e n acc r)
  arr : ∀ e (n : Nat) i len cur (r : Reader),
    RunOK (env.perByte * r.remaining + 2 ≤ f ∧ len ≤ (n : Int))
      (EnvClosed env ∧ TyClosed env e ∧ ∀ j, i ≤ j → Shape env e (cur.getD j (zeroOf env e)))
      0 r (decArrA env f e n i len cur r)
  pairs : ∀ k v len acc (r : Reader),
    RunOK (env.perByte * r.remaining + 2 ≤ f) (EnvClosed env ∧ TyClosed env k ∧ TyClosed env v)
      0 r (decPairsA env f k v len acc r)
  members : ∀ fs olds (r : Reader),
    RunOK (env.perByte * r.remaining + fs.length + 2 ≤ f)
      (EnvClosed env ∧ (∀ g, g ∈ fs → TyClosed env g.ty) ∧ ShapeMembers env fs olds)
      0 r (decMembersA env f fs olds r)

theorem decA_ok (env : Env) : ∀ f : Nat, DecAOK env f := by
  intro f
  induction f with
  | zero =>
    refine ⟨?_, ?_, ?_, ?_, ?_⟩ <;> intros
    · unfold decVarA; exact .unset (.refl _) (by omega)
    · unfold decElemsA; exact .unset (.refl _) (by omega)
    · unfold decArrA; exact .unset (.refl _) (by omega)
    · unfold decPairsA; exact .unset (.refl _) (by omega)
    · unfold decMembersA; exact .unset (.refl _) (by omega)
  | succ f ih =>
    obtain ⟨ihV, ihE, ihA, ihP, ihM⟩ := ih
    -- for `omega`, to which `env.perByte` is an atom: a loop step needs `1 ≤ perByte`, entering
    -- a struct `fs.length + 2 ≤ perByte`
    have hW : env.perByte = env.width + 3 := rfl
    refine ⟨?_, ?_, ?_, ?_, ?_⟩
    · intro tag req ty old r
      generalize hex : (if req = true then 1 else 0) = ex
      have absent : ∀ {A B : Prop} {hv : Bool} {r1 : Reader}, Found req r hv r1 → (!req && !hv) = true →
          RunOK A B ex r (((.ok old, r1), Cost.zero) : Res Val × Cost) :=
        fun h c => by
          cases req
          · exact hex ▸ .ok0 h.1
          · cases c
      -- a field that was found: its head byte pays for `ex`
      have hex1 : ex ≤ 1 := by rw [← hex]; split <;> omega
      cases ty with
      | vec e =>
        unfold decVarA
        refine (skipToNoCheck_sat tag req r).elim (fun _ _ h => .fail (.refl _) h) (fun _ r1 h => ?_)
        refine .ite (absent h) (fun c => ?_)
        have hlt := h.lt c
        have mism : ∀ {A B : Prop}, RunOK A B ex r (((.error .mismatch, r1), Cost.zero) : Res Val × Cost) :=
          .fail hlt.le ⟨.refl _, rfl⟩
        refine .ite (fun _ => ?_) (fun _ => .ite (fun _ => .ite (fun _ => ?_) (fun _ => mism)) (fun _ => mism))
        · refine (readLen_sat r1).elim (fun _ _ h2 => .fail hlt.le h2) (fun len r2 h2 => ?_)
          dsimp only
          refine (checkLength_sat len r2).elim (fun _ _ h3 => .fail (hlt.trans h2).le h3)
            (fun _ r3 h3 => ?_)
          obtain ⟨rfl, hn⟩ := h3
          have s1 := mul_step env.perByte hlt.remaining
          have s2 := mul_step env.perByte h2.remaining
          -- head and length prefix, two bytes, pay for the loop's `+ 2`
          exact ((ihE e len.toNat [] r3).make hn).after (k := 2) (hlt.trans h2).le
            (hk := by have := hlt.remaining; have := h2.remaining; omega) (hex := by omega)
            (hA := by omega) (hB := fun hB => ⟨hB.1, hB.2.1⟩)
        · refine (skipTo_sat tyBYTE 0 true r1).elim (fun _ _ h2 => .fail hlt.le h2) (fun _ r2 h2 => ?_)
          dsimp only
          refine (readLen_sat r2).elim (fun _ _ h3 => .fail (hlt.le.trans h2.1) h3) (fun len r3 h3 => ?_)
          exact (slice8_run _ len (fun bs => Val.list (bytesToVals (e = .i8) bs)) r3).after
            (k := 1) ((hlt.le.trans h2.1).trans h3.le)
            (hk := by have := hlt.remaining; have := h2.1.remaining; have := h3.le.remaining; omega)
            (hex := by omega) (hA := id) (hB := id)
      | arr n e =>
        unfold decVarA
        refine (skipToNoCheck_sat tag req r).elim (fun _ _ h => .fail (.refl _) h) (fun _ r1 h => ?_)
        refine .ite (absent h) (fun c => ?_)
        have hlt := h.lt c
        refine .ite (fun _ => ?_) (fun _ => .fail hlt.le ⟨.refl _, rfl⟩)
        refine (readLen_sat r1).elim (fun _ _ h2 => .fail hlt.le h2) (fun len r2 h2 => ?_)
        refine .ite (fun _ => .fail (hlt.trans h2).le ⟨.refl _, rfl⟩) (fun _ => ?_)
        have s1 := mul_step env.perByte hlt.remaining
        have s2 := mul_step env.perByte h2.remaining
        refine (ihA e n 0 len (Total.oldList old) r2).after (k := 2) (hlt.trans h2).le
          (hk := by have := hlt.remaining; have := h2.remaining; omega) (hex := by omega)
          (hA := by omega) (hB := fun hB => ⟨hB.1, hB.2.1, fun j _ => ?_⟩)
        obtain ⟨vs, rfl, hall⟩ := Shape.arr_inv hB.2.2
        exact shapeAll_getD hall (shape_zeroOf hB.1 hB.2.1) j
      | map k v =>
        unfold decVarA
        refine (skipTo_sat tyMAP tag req r).elim (fun _ _ h => .fail (.refl _) h) (fun hv r1 h => ?_)
        refine .ite (absent h) (fun c => ?_)
        have hlt := h.lt c
        refine (readLen_sat r1).elim (fun _ _ h2 => .fail hlt.le h2) (fun len r2 h2 => ?_)
        dsimp only
        refine (checkLength_sat len r2).elim (fun _ _ h3 => .fail (hlt.trans h2).le h3)
          (fun _ r3 h3 => ?_)
        obtain ⟨rfl, -⟩ := h3
        have s1 := mul_step env.perByte hlt.remaining
        have s2 := mul_step env.perByte h2.remaining
        exact (ihP k v len [] r3).after (k := 2) (hlt.trans h2).le
          (hk := by have := hlt.remaining; have := h2.remaining; omega) (hex := by omega)
          (hA := by omega) (hB := fun hB => ⟨hB.1, hB.2.1⟩)
      | struct name =>
        unfold decVarA
        dsimp only
        split
        · rename_i fs ovs hfs
          refine (skipTo_sat tyStructBegin tag req r).elim (fun _ _ h => .fail (.refl _) h) (fun hv r1 h => ?_)
          refine .ite (fun _ => .ite (fun _ => .fail h.1 ⟨.refl _, rfl⟩)
            (fun c => by rw [← hex, if_neg c]; exact .ok0 h.1)) (fun c => ?_)
          have hlt := h.lt (fun c' => c (Bool.and_eq_true_iff.mp c').2)
          have s1 := mul_step env.perByte hlt.remaining
          have hw := Env.find_width hfs
          have hM := (ihM fs (resetDefault env f fs (resetDefault env f fs ovs)) r1).after (k := 1)
            (A := env.perByte * r.remaining + 1 ≤ f + 1)
            (B := EnvClosed env ∧ TyClosed env (.struct name) ∧ Shape env (.struct name) (.struct ovs))
            hlt.le (hk := hlt.remaining) (hex := hex1)
            -- the StructBegin head pays for the whole member sequence: `hw`, `hW`
            (hA := by omega)
            (hB := fun hB => ⟨hB.1, hB.1.closed name fs hfs,
              shape_resetDefault hB.1 f hfs (shape_resetDefault hB.1 f hfs (hB.2.2.members hfs))⟩)
          generalize decMembersA env f fs (resetDefault env f fs (resetDefault env f fs ovs)) r1 = x at hM ⊢
          obtain ⟨⟨_ | vs, r2⟩, c⟩ := x
          · exact hM.err_cast id id
          · dsimp only
            exact (skipToStructEnd_fwd r2).elim (fun _ _ h3 => hM.thenFail h3) (fun _ _ h3 => hM.thenOk h3)
        · rename_i hno
          exact .noStruct hno fun hB => hB.2.2
      | bool | i8 | u8 | i16 | u16 | i32 | u32 | i64 | f32 | f64 | str | enum =>
        unfold decVarA
        exact hex ▸ (readScalarA_run _ old tag req r).mono (Nat.le_refl _)
          (fun _ => trivial) (fun hB => Shape.atom_inv rfl hB.2.2)
    · intro e n acc r
      unfold decElemsA
      cases n with
      | zero => exact .done
      | succ n' =>
        dsimp only
        have hV : RunOK _ _ 1 r _ := ihV 0 true e (zeroOf env e) r
        generalize decVarA env f 0 true e (zeroOf env e) r = x at hV ⊢
        obtain ⟨⟨_ | v, r1⟩, c⟩ := x
        · exact hV.err_cast (by omega) (fun hB => ⟨hB.1, hB.2, shape_zeroOf hB.1 hB.2⟩)
        · have s1 := mul_step env.perByte hV.consumed
          exact Nat.add_comm n' 1 ▸ hV.seq ((ihE e n' (v :: acc) r1).mono (Nat.le_refl _) (by omega) id)
    · intro e n i len cur r
      unfold decArrA
      refine .ite (fun _ => .done) fun hlen => .ite (fun hin => ?_) fun hin => ?_
      · -- reachable only with `len > n`
        exact (arrOverflow_sat e r).elim
          (fun _ _ h => .unset h fun hA => by omega) (fun _ _ h => h.elim)
      have hV : RunOK _ _ 1 r _ := ihV 0 true e (cur.getD i (zeroOf env e)) r
      generalize decVarA env f 0 true e (cur.getD i (zeroOf env e)) r = x at hV ⊢
      obtain ⟨⟨_ | v, r1⟩, c⟩ := x
      · exact hV.err_cast (by omega) (fun hB => ⟨hB.1, hB.2.1, hB.2.2 i (Nat.le_refl _)⟩)
      · have s1 := mul_step env.perByte hV.consumed
        refine (hV.seq ((ihA e n (i+1) len (listSet cur i v) r1).mono (Nat.le_refl _)
          (fun hA => ⟨by omega, hA.2⟩) (fun hB => ⟨hB.1, hB.2.1, fun j hj => ?_⟩))).mono (Nat.zero_le _) id id
        rw [getD_listSet_ne _ _ _ _ _ (by omega)]
        exact hB.2.2 j (by omega)
    · intro k v len acc r
      unfold decPairsA
      refine .ite (fun _ => .done) fun _ => ?_
      have hV : RunOK _ _ 1 r _ := ihV 0 true k (zeroOf env k) r
      generalize decVarA env f 0 true k (zeroOf env k) r = x at hV ⊢
      obtain ⟨⟨_ | a, r1⟩, c⟩ := x
      · exact hV.err_cast (by omega) (fun hB => ⟨hB.1, hB.2.1, shape_zeroOf hB.1 hB.2.1⟩)
      dsimp only
      have s1 := mul_step env.perByte hV.consumed
      have hV2 : RunOK _ _ 1 r1 _ := ihV 1 true v (zeroOf env v) r1
      generalize decVarA env f 1 true v (zeroOf env v) r1 = y at hV2 ⊢
      obtain ⟨⟨_ | b, r2⟩, c'⟩ := y
      · exact (hV.seq hV2).err_cast (by omega) (fun hB => ⟨hB.1, hB.2.2, shape_zeroOf hB.1 hB.2.2⟩)
      · -- the two required reads consumed two bytes; one of them pays for the map entry
        have s2 := mul_step env.perByte hV2.consumed
        have hxy : RunOK True True 2 r (((.ok b, r2), Cost.seq c c') : Res Val × Cost) := hV.seq hV2
        have h1 : RunOK True True 1 r (((.ok b, r2), Cost.seq (Cost.seq c c') ⟨1, 0⟩) : Res Val × Cost) :=
          ⟨hxy.1, by have := hxy.2; simp only [Cost.seq_alloc] at *; omega⟩
        dsimp only
        rw [← Cost.seq_assoc]
        exact (h1.seq (ihP k v (len - 1) _ r2)).mono (Nat.zero_le _) (by omega) id
    · intro fs olds r
      unfold decMembersA
      split
      · rename_i fld fs' o os
        have tl : ShapeMembers env (fld :: fs') (o :: os) → Shape env fld.ty o ∧ ShapeMembers env fs' os :=
          fun hs => by cases hs with | cons ho hrest => exact ⟨ho, hrest⟩
        have hV := ihV fld.tag fld.req fld.ty o r
        generalize decVarA env f fld.tag fld.req fld.ty o r = x at hV ⊢
        obtain ⟨⟨_ | v, r1⟩, c⟩ := x
        · exact hV.err_cast (by simp only [List.length_cons]; omega)
            (fun hB => ⟨hB.1, hB.2.1 fld List.mem_cons_self, (tl hB.2.2).1⟩)
        dsimp only
        have s1 := Nat.mul_le_mul_left env.perByte hV.1.remaining
        have hM := (hV.mono (ex' := 0) (Nat.zero_le _) id id).seq
          ((ihM fs' os r1).mono (Nat.le_refl _)
            (A := env.perByte * r.remaining + (fld :: fs').length + 2 ≤ f + 1)
            (B := EnvClosed env ∧ (∀ g, g ∈ fld :: fs' → TyClosed env g.ty) ∧ ShapeMembers env (fld :: fs') (o :: os))
            (by simp only [List.length_cons]; omega)
            (fun hB => ⟨hB.1, fun g hg => hB.2.1 g (List.mem_cons_of_mem _ hg), (tl hB.2.2).2⟩))
        generalize decMembersA env f fs' os r1 = y at hM ⊢
        obtain ⟨⟨_ | vs, r2⟩, c'⟩ := y
        · exact hM.err_cast id id
        · exact hM.thenOk (.refl _)
      · exact .done

theorem decVar_ok (env : Env) (f tag : Nat) (req : Bool) (ty : Ty) (old : Val) (r : Reader)
    (hf : env.perByte * r.remaining + 1 ≤ f) :
    DecOK True (EnvClosed env ∧ TyClosed env ty ∧ Shape env ty old) req r (decVar env f tag req ty old r) :=
  (decA_eq env f).var .. ▸ (((decA_ok env f).var tag req ty old r).mono (Nat.le_refl _) (fun _ => hf) id).decOK
    (fun h => by rw [if_pos h]; exact Nat.le_refl 1)

theorem decElemsA_le (env : Env) (f : Nat) (e : Ty) (n : Nat) (acc : List Val) (r : Reader) :
    r.Le (decElemsA env f e n acc r).1.2 := ((decA_ok env f).elems e n acc r).le
theorem decArrA_le (env : Env) (f : Nat) (e : Ty) (n i : Nat) (len : Int) (cur : List Val) (r : Reader) :
    r.Le (decArrA env f e n i len cur r).1.2 := ((decA_ok env f).arr e n i len cur r).le
theorem decPairsA_le (env : Env) (f : Nat) (k v : Ty) (len : Int) (acc : List (Val × Val)) (r : Reader) :
    r.Le (decPairsA env f k v len acc r).1.2 := ((decA_ok env f).pairs k v len acc r).le

/-! ### `ReadFrom` -/

theorem decFuel_ge_members (env : Env) (r : Reader) {name : String} {fs : List Field}
    (h : env.find name = some fs) :
    env.perByte * r.remaining + fs.length + 2 ≤ decFuel env r := by
  have hw := Env.find_width h
  have := decFuel_lb env r.remaining_le_size
  unfold Env.perByte
  omega

theorem decStructA_eq (env : Env) (name : String) (old : Val) (r : Reader) :
    (decStructA env name old r).1 = decStruct env name old r := by
  rw [decStruct_eq]
  unfold decStructA
  cases hfind : env.find name with
  | none => rfl
  | some fs =>
    cases old with
    | struct ovs =>
      simp only
      rw [← (decA_eq env _).members]
      rcases decMembersA env (decFuel env r) fs (resetDefault env (decFuel env r) fs ovs) r
        with ⟨⟨_ | vs, r1⟩, c⟩ <;> rfl
    | _ => rfl

/-- `ReadFrom` for every struct, every target, every input: `decFuel` always suffices, the
    ill-typed marker needs an ill-shaped target, and the allocation bound holds -/
theorem decStructA_ok (env : Env) (name : String) (old : Val) (r : Reader) :
    RunOK True (EnvClosed env ∧ Shape env (.struct name) old) 0 r (decStructA env name old r) := by
  unfold decStructA
  split
  · rename_i fs ovs hfs
    dsimp only
    have hM := ((decA_ok env (decFuel env r)).members fs (resetDefault env (decFuel env r) fs ovs) r).mono
      (A := True) (B := EnvClosed env ∧ Shape env (.struct name) (.struct ovs)) (Nat.le_refl _)
      (fun _ => decFuel_ge_members env r hfs) (fun hB => ⟨hB.1, hB.1.closed name fs hfs,
        shape_resetDefault hB.1 _ hfs (hB.2.members hfs)⟩)
    generalize decMembersA env (decFuel env r) fs (resetDefault env (decFuel env r) fs ovs) r = x at hM ⊢
    obtain ⟨⟨_ | vs, r1⟩, c⟩ := x
    · exact hM.err_cast id id
    · exact hM.thenOk (.refl _)
  · rename_i hno
    exact .noStruct hno fun hB => hB.2

theorem decStruct_ok (env : Env) (name : String) (old : Val) (r : Reader) :
    DecOK True (EnvClosed env ∧ Shape env (.struct name) old) false r (decStruct env name old r) :=
  decStructA_eq .. ▸ (decStructA_ok env name old r).decOK nofun

end Tars
