/-
  `sortTag` yields a permutation of the members that, after `checkTag` (`dupTag = false`), is strictly
  ascending in the tags; the struct schemas extracted from the syntax tree of a grammar program.
-/
import TarsModel.Model.Idl

namespace Tars.Idl

theorem insertByTag_perm (m : StructMember) (l : List StructMember) :
    (insertByTag m l).Perm (m :: l) := by
  induction l with
  | nil => exact List.Perm.refl _
  | cons x xs ih =>
    unfold insertByTag
    split
    · exact List.Perm.refl _
    · exact ((List.perm_cons x).mpr ih).trans (List.Perm.swap m x xs)

theorem sortTag_perm (l : List StructMember) : (sortTag l).Perm l := by
  induction l with
  | nil => exact List.Perm.refl _
  | cons m ms ih =>
    unfold sortTag
    exact (insertByTag_perm m (sortTag ms)).trans ((List.perm_cons m).mpr ih)

theorem insertByTag_sorted (m : StructMember) (l : List StructMember)
    (h : l.Pairwise (fun a b => a.tag ≤ b.tag)) :
    (insertByTag m l).Pairwise (fun a b => a.tag ≤ b.tag) := by
  induction l with
  | nil => simp [insertByTag]
  | cons x xs ih =>
    rw [List.pairwise_cons] at h
    unfold insertByTag
    split
    · rename_i hlt
      rw [List.pairwise_cons]
      refine ⟨?_, List.pairwise_cons.mpr h⟩
      intro a ha
      rcases List.mem_cons.mp ha with rfl | ha
      · omega
      · have := h.1 a ha; omega
    · rename_i hge
      rw [List.pairwise_cons]
      refine ⟨?_, ih h.2⟩
      intro a ha
      rcases List.mem_cons.mp ((insertByTag_perm m xs).mem_iff.mp ha) with rfl | ha
      · omega
      · exact h.1 a ha

theorem sortTag_sorted (l : List StructMember) :
    (sortTag l).Pairwise (fun a b => a.tag ≤ b.tag) := by
  induction l with
  | nil => simp [sortTag]
  | cons m ms ih => unfold sortTag; exact insertByTag_sorted m _ ih

theorem dupTag_false (l : List StructMember) (h : dupTag l = false) :
    l.Pairwise (fun a b => a.tag ≠ b.tag) := by
  induction l with
  | nil => simp
  | cons m ms ih =>
    simp only [dupTag, Bool.or_eq_false_iff] at h
    rw [List.pairwise_cons]
    refine ⟨?_, ih h.2⟩
    intro a ha heq
    have := h.1
    rw [List.any_eq_false] at this
    exact this a ha (by simp [heq])

/-- after `checkTag`, `sortTag` gives strictly ascending tags -/
theorem sortTag_strict (l : List StructMember) (h : dupTag l = false) :
    (sortTag l).Pairwise (fun a b => a.tag < b.tag) := by
  have h1 := sortTag_sorted l
  have h2 : (sortTag l).Pairwise (fun a b => a.tag ≠ b.tag) :=
    (sortTag_perm l).symm.pairwise (dupTag_false l h) (fun h => fun e => h e.symm)
  exact (h1.and h2).imp (fun ⟨a, b⟩ => by omega)

theorem structs_foldl (ds : List GDecl) (m : Module) :
    (ds.foldl GDecl.addTo m).structs =
      m.structs ++ (ds.filterMap GDecl.struct?).map
        fun s => ⟨s.name, sortTag (s.fields.map GField.ast)⟩ := by
  induction ds generalizing m with
  | nil => simp
  | cons d ds ih =>
    simp only [List.foldl_cons]
    rw [ih]
    cases d <;> simp [GDecl.addTo, GDecl.struct?, List.filterMap_cons]

theorem declsWF_structs (ds : List GDecl) (m : Module) (h : declsWF m ds = true) :
    ∀ s ∈ (ds.filterMap GDecl.struct?),
      dupTag (s.fields.map GField.ast) = false := by
  induction ds generalizing m with
  | nil => simp
  | cons d ds ih =>
    simp only [declsWF, Bool.and_eq_true] at h
    intro s hs
    cases d with
    | struct st =>
      rcases List.mem_cons.1 hs with rfl | hs
      · simp only [GDecl.WF, Bool.and_eq_true, Bool.not_eq_true'] at h
        exact h.1.2
      · exact ih _ h.2 s hs
    | enum _ | const _ | key _ | interface _ => exact ih _ h.2 s hs

end Tars.Idl
