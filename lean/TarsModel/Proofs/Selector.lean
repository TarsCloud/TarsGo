/-
  The selector state machines refine the abstract "current set" over all histories (`Holds`); what a
  selection returns; rotation windows.
-/
import TarsModel.Model.Selector
import TarsModel.Proofs.ListAux
import TarsModel.Proofs.KeyedList
import TarsModel.Proofs.WeightRotation

namespace Tars.Sel
open Tars.Keyed

/-! ### the current set, specified without the selectors' bookkeeping -/

/-- `Add` on the abstract set: an endpoint whose host is already present is refused -/
def specAdd (cur : List Ep) (ep : Ep) : List Ep :=
  if cur.any (fun e => e.host == ep.host) then cur else cur ++ [ep]

/-- The current set after one operation (endpoints are identified by host; the first endpoint given
for a host stays until that host is removed). -/
def specStep (cur : List Ep) : Op → List Ep
  | .refresh eps _ _ => eps.foldl specAdd []
  | .add ep _ _ => specAdd cur ep
  | .remove ep _ _ => cur.filter (fun e => e.host != ep.host)
  | .select _ => cur

def currentSet (ops : List Op) : List Ep := ops.foldl specStep []

theorem currentSet_snoc (ops : List Op) (op : Op) :
    currentSet (ops ++ [op]) = specStep (currentSet ops) op := by
  rw [currentSet, List.foldl_append]; rfl

theorem specAdd_eq : specAdd = install Ep.host := by
  funext cur ep
  have hany : cur.any (fun e => e.host == ep.host) = true ↔ ep.host ∈ cur.map Ep.host := by
    simp [List.any_eq_true]
  unfold specAdd install
  by_cases h : ep.host ∈ cur.map Ep.host
  · rw [if_pos h, if_pos (hany.2 h)]
  · rw [if_neg h, if_neg (mt hany.1 h)]

theorem specAdd_hosts (cur : List Ep) (ep : Ep) (h : List Nat) :
    (∃ e ∈ specAdd cur ep, e.host = h) ↔ ((∃ e ∈ cur, e.host = h) ∨ h = ep.host) := by
  simp only [specAdd_eq, ← List.mem_map]
  exact mem_keys_install

theorem foldl_specAdd_hosts (eps : List Ep) (h : List Nat) :
    (∃ e ∈ eps.foldl specAdd [], e.host = h) ↔ ∃ e ∈ eps, e.host = h := by
  simp only [specAdd_eq, ← List.mem_map]
  exact mem_keys_foldl_install.trans (or_iff_right List.not_mem_nil)

theorem foldl_specAdd_mem : ∀ (eps cur : List Ep) (e : Ep), e ∈ eps.foldl specAdd cur → e ∈ cur ∨ e ∈ eps :=
  fun _ _ _ => mem_foldl_insert fun h => (mem_install.1 (specAdd_eq ▸ h)).imp_right And.left

theorem currentSet_hosts_nodup (ops : List Op) : ((currentSet ops).map (·.host)).Nodup := by
  refine List.foldlRecOn (motive := fun cur : List Ep => (cur.map (·.host)).Nodup) ops specStep
    (b := []) List.nodup_nil fun cur h op _ => ?_
  cases op with
  | refresh eps _ _ => rw [specStep, specAdd_eq]; exact nodup_foldl_install List.nodup_nil
  | add ep _ _ => rw [specStep, specAdd_eq]; exact nodup_install h
  | remove ep _ _ => exact nodup_filter h
  | select _ => exact h

/-! ### the weight list of a set -/

/-- the weight list of a set: what `reBuildLocked` stores in `State.cache`, the "cycle" of the C13 statements -/
def cacheOf (v : Variant) (ew : Bool) (eps : List Ep) : List Nat :=
  if ew then
    match buildStaticWeightList v eps with
    | .ok _ l => l
    | _ => []
  else []

theorem cacheOf_valid (v : Variant) (ew : Bool) (eps : List Ep) : ∀ i ∈ cacheOf v ew eps, i < eps.length := by
  unfold cacheOf
  split
  · split
    · rename_i h; exact build_ok_mem h
    · simp
  · simp

theorem cacheOf_nil_eps (v : Variant) (ew : Bool) : cacheOf v ew [] = [] := by
  have := cacheOf_valid v ew []
  cases h : cacheOf v ew [] with
  | nil => rfl
  | cons a l => have := this a (by simp [h]); simp at this

theorem cacheOf_false (v : Variant) (eps : List Ep) : cacheOf v false eps = [] := by simp [cacheOf]

/-! ### invariant -/

/-- The bookkeeping of the update methods, apart from the cache.  `hmnd`: the Go map `mapValues` is
modelled by the list of its keys. -/
structure CW (s : State) : Prop where
  hmap : ∀ h, h ∈ s.mapValues ↔ ∃ e ∈ s.endpoints, e.host = h
  hnd : (s.endpoints.map (·.host)).Nodup
  hmnd : s.mapValues.Nodup

/-- `s` is a selector of kind `k`, made with `enableWeight = ew`, with consistent bookkeeping, that
holds exactly `eps`; the cache may be stale (inside an update method, before `reBuildLocked`) -/
structure Keeps (k : Kind) (ew : Bool) (eps : List Ep) (s : State) : Prop extends CW s where
  hkind : s.kind = k
  hew : s.enableWeight = ew
  heps : s.endpoints = eps

/-- … and the cache is what `reBuildLocked` computes from `eps`: the state between two method calls.
`Holds.next` says that the model refines `specStep`. -/
structure Holds (v : Variant) (k : Kind) (ew : Bool) (eps : List Ep) (s : State) : Prop
    extends Keeps k ew eps s where
  hcache : s.cache = cacheOf v ew eps

section
variable {v : Variant} {k : Kind} {ew : Bool} {eps : List Ep} {s s' : State}

theorem Keeps.congr (h : Keeps k ew eps s) (he : s'.endpoints = s.endpoints)
    (hm : s'.mapValues = s.mapValues) (hk : s'.kind = s.kind) (hw : s'.enableWeight = s.enableWeight) :
    Keeps k ew eps s' :=
  ⟨⟨by rw [he, hm]; exact h.hmap, by rw [he]; exact h.hnd, by rw [hm]; exact h.hmnd⟩,
    hk.trans h.hkind, hw.trans h.hew, he.trans h.heps⟩

theorem Holds.cacheValid (h : Holds v k ew eps s) : ∀ i ∈ s.cache, i < s.endpoints.length := by
  rw [h.hcache, h.heps]; exact cacheOf_valid _ _ _

theorem Holds.new (v : Variant) (k : Kind) (ew : Bool) : Holds v k ew [] (State.new k ew) :=
  ⟨⟨⟨by simp [State.new], List.nodup_nil, List.nodup_nil⟩, rfl, rfl, rfl⟩, (cacheOf_nil_eps v ew).symm⟩

end

/-! ### the update operations -/

/-- a successful `addLocked` -/
def grown (s : State) (ep : Ep) : State :=
  { s with endpoints := s.endpoints ++ [ep], mapValues := ep.hashKey :: s.mapValues }

/-- `addLocked` looks the host up in `mapValues`; with consistent bookkeeping that is a search of the
endpoints, as in `install` -/
theorem addLocked_eq {s : State} (hs : CW s) (ep : Ep) :
    addLocked s ep = if ep.host ∈ s.endpoints.map (·.host) then none else some (grown s ep) := by
  have hc : s.mapValues.contains ep.host = true ↔ ep.host ∈ s.endpoints.map (·.host) := by
    rw [List.contains_iff_mem, hs.hmap, List.mem_map]
  unfold addLocked Ep.hashKey
  by_cases h : ep.host ∈ s.endpoints.map (·.host)
  · rw [if_pos h, if_pos (hc.2 h)]
  · rw [if_neg h, if_neg (mt hc.1 h)]; rfl

theorem Keeps.grown {k : Kind} {ew : Bool} {s : State} (hs : Keeps k ew s.endpoints s) {ep : Ep}
    (h : ep.host ∉ s.endpoints.map (·.host)) : Keeps k ew (s.endpoints ++ [ep]) (grown s ep) :=
  ⟨⟨fun x => by
      show x ∈ ep.host :: s.mapValues ↔ ∃ e ∈ s.endpoints ++ [ep], e.host = x
      rw [List.mem_cons, hs.hmap, ← List.mem_map, ← List.mem_map, List.map_append, List.mem_append,
        List.map_singleton, List.mem_singleton, or_comm],
    nodup_append_one hs.hnd h,
    List.nodup_cons.2 ⟨fun hm => h (List.mem_map.2 ((hs.hmap _).1 hm)), hs.hmnd⟩⟩, hs.hkind, hs.hew, rfl⟩

theorem specAdd_of_addLocked {s : State} (hs : CW s) (ep : Ep) :
    (match addLocked s ep with | none => s.endpoints | some s' => s'.endpoints) = specAdd s.endpoints ep := by
  rw [addLocked_eq hs, specAdd_eq, install]
  by_cases h : ep.host ∈ s.endpoints.map (·.host)
  · rw [if_pos h, if_pos h]
  · rw [if_neg h, if_neg h]; rfl

theorem Keeps.refreshed {k : Kind} {ew : Bool} : ∀ (l : List Ep) {eps : List Ep} {s : State},
    Keeps k ew eps s → Keeps k ew (l.foldl specAdd eps) (refreshAdd s l)
  | [], _, _, h => h
  | e :: es, _, s, h => by
    obtain rfl := h.heps
    rw [refreshAdd, List.foldl_cons, addLocked_eq h.toCW, specAdd_eq, install]
    split
    · exact specAdd_eq ▸ Keeps.refreshed es h
    · next hn => exact specAdd_eq ▸ Keeps.refreshed es (h.grown hn)

theorem removeFirst_eq (h : List Nat) (l : List Ep) : removeFirst h l = l.eraseP (fun e => e.host == h) :=
  eq_eraseP rfl (fun _ _ => rfl) l

theorem removeFirst_eq_filter {l : List Ep} (hnd : (l.map (·.host)).Nodup) (h : List Nat) :
    removeFirst h l = l.filter (fun e => e.host != h) :=
  (removeFirst_eq h l).trans (eraseP_eq_filter hnd)

theorem filter_host_ne {l : List Ep} {h : List Nat} (hn : ¬ ∃ e ∈ l, e.host = h) :
    l.filter (fun e => e.host != h) = l :=
  List.filter_eq_self.2 fun a ha => by simpa using fun e => hn ⟨a, ha, e⟩

theorem Keeps.removed {k : Kind} {ew : Bool} {s : State} (hs : Keeps k ew s.endpoints s) (ep : Ep) :
    Keeps k ew (s.endpoints.filter (fun e => e.host != ep.host))
      { s with mapValues := s.mapValues.erase ep.hashKey,
               endpoints := removeFirst ep.hashKey s.endpoints } := by
  refine ⟨⟨fun x => ?_, ?_, hs.hmnd.erase _⟩, hs.hkind, hs.hew, removeFirst_eq_filter hs.hnd _⟩
  · show x ∈ s.mapValues.erase ep.host ↔ ∃ e ∈ removeFirst ep.host s.endpoints, e.host = x
    rw [removeFirst_eq_filter hs.hnd, ← List.mem_map, hs.hmnd.mem_erase_iff, hs.hmap, ← List.mem_map, and_comm]
    exact mem_keys_filter_ne.symm
  · show ((removeFirst ep.host s.endpoints).map _).Nodup
    rw [removeFirst_eq_filter hs.hnd]; exact nodup_filter hs.hnd

/-- the assignments of `reBuildLocked` that precede the call of `BuildStaticWeightList`: the weight
list is dropped; round robin also draws a new cursor -/
def cleared (s : State) (r1 : Nat) : State :=
  { s with
    cache := []
    lastPosition :=
      if s.kind = .roundRobin then (if s.endpoints.length > 0 then r1 % s.endpoints.length else 0)
      else s.lastPosition
    lastStaticWeightPosition := if s.kind = .roundRobin then 0 else s.lastStaticWeightPosition }

/-- the assignments of `reBuildLocked` that follow a successful call: the weight list is stored; round
robin also draws a cursor into it -/
def withCache (s : State) (l : List Nat) (r2 : Nat) : State :=
  { s with
    cache := l
    lastStaticWeightPosition :=
      if s.kind = .roundRobin then (if l.length > 0 then r2 % l.length else 0)
      else s.lastStaticWeightPosition }

/-- `reBuildLocked`, the same for the three selectors -/
theorem reBuildLocked_eq (v : Variant) (s : State) (r1 r2 : Nat) :
    reBuildLocked v s r1 r2 =
      if s.enableWeight then
        match buildStaticWeightList v s.endpoints with
        | .panic site => (cleared s r1, .panic site)
        | .nil => (cleared s r1, .done)
        | .ok _ l => (withCache (cleared s r1) l r2, .done)
      else (cleared s r1, .done) := by
  obtain ⟨k, ew, mv, eps, c, lp, lswp⟩ := s
  cases k <;> rfl

theorem reBuild_fields (v : Variant) (s : State) (r1 r2 : Nat) :
    (reBuildLocked v s r1 r2).1.endpoints = s.endpoints ∧ (reBuildLocked v s r1 r2).1.mapValues = s.mapValues ∧
    (reBuildLocked v s r1 r2).1.kind = s.kind ∧ (reBuildLocked v s r1 r2).1.enableWeight = s.enableWeight ∧
    (reBuildLocked v s r1 r2).1.cache = cacheOf v s.enableWeight s.endpoints := by
  rw [reBuildLocked_eq, cacheOf]
  split
  · split <;> exact ⟨rfl, rfl, rfl, rfl, by rename_i h; rw [h]; rfl⟩
  · exact ⟨rfl, rfl, rfl, rfl, rfl⟩

theorem reBuild_panic {v : Variant} {s : State} {r1 r2 : Nat} {site : String}
    (h : (reBuildLocked v s r1 r2).2 = .panic site) : buildStaticWeightList v s.endpoints = .panic site := by
  rw [reBuildLocked_eq] at h
  split at h
  · split at h
    · next hb => cases h; exact hb
    · cases h
    · cases h
  · cases h

theorem Keeps.rebuilt {k : Kind} {ew : Bool} {eps : List Ep} {s : State} (v : Variant) (h : Keeps k ew eps s)
    (r1 r2 : Nat) : Holds v k ew eps (reBuildLocked v s r1 r2).1 := by
  obtain ⟨e1, e2, e3, e4, e5⟩ := reBuild_fields v s r1 r2
  exact ⟨h.congr e1 e2 e3 e4, by rw [e5, h.hew, h.heps]⟩

/-! ### selection -/

theorem pickDirect_eq {eps : List Ep} (h : 0 < eps.length) (pos : Nat) :
    pickDirect eps pos = .selected (eps[pos % eps.length]'(Nat.mod_lt _ h)) := by
  unfold pickDirect index
  have : pos % eps.length < eps.length := Nat.mod_lt _ h
  simp [List.getElem?_eq_getElem this]

/-- what `pickCached` does with one element of the cache -/
def pickIdx (eps : List Ep) (i : Nat) : Res :=
  match eps[i]? with
  | some ep => .selected ep
  | none => .panic "index out of range"

theorem pickCached_eq {eps : List Ep} {l : List Nat} (h : 0 < l.length) (pos : Nat) :
    pickCached eps l pos = pickIdx eps (l[pos % l.length]'(Nat.mod_lt _ h)) := by
  unfold pickCached index pickIdx
  have : pos % l.length < l.length := Nat.mod_lt _ h
  simp only [List.getElem?_eq_getElem this]
  cases eps[l[pos % l.length]]? <;> rfl

theorem pickIdx_valid {eps : List Ep} {i : Nat} (h : i < eps.length) : pickIdx eps i = .selected eps[i] := by
  simp [pickIdx, List.getElem?_eq_getElem h]

def GoodSel (eps : List Ep) (r : Res) : Prop :=
  (eps = [] ∧ r = .err) ∨ (eps ≠ [] ∧ ∃ ep ∈ eps, r = .selected ep)

theorem pickDirect_good {eps : List Ep} (h : eps ≠ []) (pos : Nat) : GoodSel eps (pickDirect eps pos) := by
  have hl : 0 < eps.length := List.length_pos_iff.2 h
  rw [pickDirect_eq hl]
  exact Or.inr ⟨h, _, List.getElem_mem _, rfl⟩

theorem pickCached_good {eps : List Ep} {l : List Nat} (h : eps ≠ []) (hl : l.length ≠ 0)
    (hv : ∀ i ∈ l, i < eps.length) (pos : Nat) : GoodSel eps (pickCached eps l pos) := by
  have hl' : 0 < l.length := by omega
  rw [pickCached_eq hl', pickIdx_valid (hv _ (List.getElem_mem _))]
  exact Or.inr ⟨h, _, List.getElem_mem _, rfl⟩

/-- the cursor round robin advances: through the weight list when there is one -/
def rrPos (s : State) : Nat :=
  if s.cache.length ≠ 0 then s.lastStaticWeightPosition else s.lastPosition

/-- what `Select` returns for position `pos`: read through the weight list when there is one -/
def pickPos (s : State) (pos : Nat) : Res :=
  if s.cache.length ≠ 0 then pickCached s.endpoints s.cache pos else pickDirect s.endpoints pos

/-- the state `Select` leaves: round robin over a non-empty set advances the cursor it uses -/
def afterSelect (s : State) : State :=
  { s with
    lastPosition :=
      if s.kind = .roundRobin ∧ s.endpoints.length ≠ 0 ∧ s.cache.length = 0 then
        (s.lastPosition + 1) % uint64Mod else s.lastPosition
    lastStaticWeightPosition :=
      if s.kind = .roundRobin ∧ s.endpoints.length ≠ 0 ∧ s.cache.length ≠ 0 then
        (s.lastStaticWeightPosition + 1) % uint64Mod else s.lastStaticWeightPosition }

/-- the position `Select` reads: the advanced cursor, the random draw, the hash code (a `uint32`) -/
def selectPos (s : State) (arg : Nat) : Nat :=
  match s.kind with
  | .roundRobin => (rrPos s + 1) % uint64Mod
  | .random => arg
  | .modHash => arg % uint32Mod

/-- `Select`, the same for the three selectors -/
theorem select_eq (s : State) (arg : Nat) :
    select s arg = (afterSelect s, if s.endpoints.length = 0 then .err else pickPos s (selectPos s arg)) := by
  obtain ⟨k, ew, mv, eps, c, lp, lswp⟩ := s
  by_cases h0 : eps.length = 0 <;> by_cases hc : c.length = 0 <;> cases k <;>
    simp [select, afterSelect, selectPos, rrPos, pickPos, h0, hc]

theorem afterSelect_of_ne {s : State} (hk : s.kind ≠ .roundRobin) : afterSelect s = s := by
  simp only [afterSelect, hk, false_and, if_false]

theorem select_res {v : Variant} {k : Kind} {ew : Bool} {eps : List Ep} {s : State} (hs : Holds v k ew eps s)
    (arg : Nat) :
    GoodSel s.endpoints (select s arg).2 := by
  rw [select_eq]
  split
  · next h0 => exact Or.inl ⟨List.eq_nil_of_length_eq_zero h0, rfl⟩
  · next h0 =>
    have hne : s.endpoints ≠ [] := fun e => h0 (by rw [e]; rfl)
    unfold pickPos
    split
    · next hc => exact pickCached_good hne hc hs.cacheValid _
    · exact pickDirect_good hne _

theorem step_select_modHash {v : Variant} {s : State} (hk : s.kind = .modHash) (h : Nat) :
    step v s (.select h) =
      (s, if s.endpoints.length = 0 then .err
          else if s.cache.length ≠ 0 then pickCached s.endpoints s.cache (h % uint32Mod)
          else pickDirect s.endpoints (h % uint32Mod)) := by
  rw [step, select_eq, afterSelect_of_ne (by rw [hk]; decide), selectPos, hk]; rfl

theorem step_select_random {v : Variant} {s : State} (hk : s.kind = .random) (c : Nat) :
    step v s (.select c) =
      (s, if s.endpoints.length = 0 then .err
          else if s.cache.length ≠ 0 then pickCached s.endpoints s.cache c
          else pickDirect s.endpoints c) := by
  rw [step, select_eq, afterSelect_of_ne (by rw [hk]; decide), selectPos, hk]; rfl

/-- `hlt`: the cursor is a `uint64` and does not wrap -/
theorem step_select_roundRobin {v : Variant} {s : State} (hk : s.kind = .roundRobin)
    (hne : s.endpoints ≠ []) (hlt : rrPos s + 1 < uint64Mod) (a : Nat) :
    step v s (.select a) = (afterSelect s, pickPos s (rrPos s + 1)) ∧ rrPos (afterSelect s) = rrPos s + 1 := by
  have h0 : s.endpoints.length ≠ 0 := fun e => hne (List.eq_nil_of_length_eq_zero e)
  refine ⟨by rw [step, select_eq, if_neg h0, selectPos, hk, Nat.mod_eq_of_lt hlt], ?_⟩
  rw [← Nat.mod_eq_of_lt hlt]
  unfold rrPos afterSelect
  by_cases hc : s.cache.length = 0 <;> simp [hk, h0, hc]

/-! ### one step, any history -/

theorem Holds.next {v : Variant} {k : Kind} {ew : Bool} {eps : List Ep} {s : State} (h : Holds v k ew eps s)
    (op : Op) : Holds v k ew (specStep eps op) (step v s op).1 := by
  obtain rfl := h.heps
  cases op with
  | refresh l r1 r2 =>
    exact (Keeps.refreshed l (s := { s with mapValues := [], endpoints := [] })
      ⟨⟨by simp, by simp, by simp⟩, h.hkind, h.hew, rfl⟩).rebuilt v r1 r2
  | add ep r1 r2 =>
    simp only [step, specStep]
    rw [addLocked_eq h.toCW, specAdd_eq, install]
    split
    · exact h
    · next hn => exact (h.toKeeps.grown hn).rebuilt v r1 r2
  | remove ep r1 r2 =>
    simp only [step, specStep]
    split
    · next hc =>
      rw [filter_host_ne]
      · exact h
      · rw [← h.hmap]; simpa [Ep.hashKey, List.contains_iff_mem] using hc
    · exact (h.toKeeps.removed ep).rebuilt v r1 r2
  | select arg =>
    simp only [step, specStep]
    rw [select_eq]
    exact ⟨h.toKeeps.congr rfl rfl rfl rfl, h.hcache⟩

theorem after_cons (v : Variant) (s : State) (op : Op) (ops : List Op) :
    after v s (op :: ops) = after v (step v s op).1 ops := by
  simp [after, run]

theorem Holds.after {v : Variant} {k : Kind} {ew : Bool} : ∀ (ops : List Op) {eps : List Ep} {s : State},
    Holds v k ew eps s → Holds v k ew (ops.foldl specStep eps) (after v s ops)
  | [], _, _, h => h
  | op :: ops, _, _, h => by rw [after_cons]; exact Holds.after ops (h.next op)

theorem holds_reach (v : Variant) (k : Kind) (ew : Bool) (ops : List Op) :
    Holds v k ew (currentSet ops) (after v (State.new k ew) ops) :=
  Holds.after ops (Holds.new v k ew)

/-! ### panics -/

theorem step_panic {v : Variant} {k : Kind} {ew : Bool} {eps : List Ep} {s : State} (hs : Holds v k ew eps s)
    {op : Op} {site : String}
    (h : (step v s op).2 = .panic site) : ∃ eps, buildStaticWeightList v eps = .panic site := by
  cases op with
  | refresh eps r1 r2 => exact ⟨_, reBuild_panic h⟩
  | add ep r1 r2 =>
    simp only [step] at h
    split at h
    · cases h
    · exact ⟨_, reBuild_panic h⟩
  | remove ep r1 r2 =>
    simp only [step] at h
    split at h
    · cases h
    · exact ⟨_, reBuild_panic h⟩
  | select arg =>
    have h' : (select s arg).2 = .panic site := h
    rcases select_res hs arg with ⟨_, e⟩ | ⟨_, ep, _, e⟩ <;> rw [e] at h' <;> cases h'

theorem run_results {v : Variant} {k : Kind} {ew : Bool} (P : Res → Prop)
    (hstep : ∀ {s eps}, Holds v k ew eps s → ∀ op, P (step v s op).2) :
    ∀ (ops : List Op) {s : State} {eps : List Ep}, Holds v k ew eps s → ∀ r ∈ (run v s ops).2, P r
  | [], _, _, _ => by simp [run]
  | op :: ops, s, eps, hs => by
    intro r hr
    simp only [run, List.mem_cons] at hr
    rcases hr with hr | hr
    · rw [hr]; exact hstep hs op
    · exact run_results P hstep ops (hs.next op) r hr

/-! ### reading a list through a list of indices -/

theorem range_filterMap_getElem {α : Type} : ∀ l : List α, (List.range l.length).filterMap (l[·]?) = l
  | [] => rfl
  | a :: t => by
    rw [List.length_cons, List.range_succ_eq_map, List.filterMap_cons, List.filterMap_map]
    exact congrArg (a :: ·) (range_filterMap_getElem t)

theorem map_pickIdx_valid (eps : List Ep) : ∀ (l : List Nat), (∀ i ∈ l, i < eps.length) →
    (l.filterMap (eps[·]?)).map Res.selected = l.map (pickIdx eps)
  | [], _ => rfl
  | i :: l, h => by
    have hi := h i (by simp)
    have ih := map_pickIdx_valid eps l (fun j hj => h j (by simp [hj]))
    simp [pickIdx_valid hi, List.getElem?_eq_getElem hi, ih]

theorem count_filterMap_getElem (eps : List Ep) (hnd : eps.Nodup) (i : Nat) (hi : i < eps.length) :
    ∀ (l : List Nat), (∀ j ∈ l, j < eps.length) → (l.filterMap (eps[·]?)).count eps[i] = l.count i
  | [], _ => rfl
  | j :: l, h => by
    have hj := h j (by simp)
    have ih := count_filterMap_getElem eps hnd i hi l (fun k hk => h k (by simp [hk]))
    simp only [List.filterMap_cons, List.getElem?_eq_getElem hj, List.count_cons, ih]
    congr 1
    have : (eps[j] == eps[i]) = (j == i) := by
      rw [Bool.eq_iff_iff]
      simp only [beq_iff_eq]
      exact hnd.getElem_inj_iff
    rw [this]

/-! ### consecutive selections of the round robin -/

theorem run_select_roundRobin {v : Variant} : ∀ (args : List Nat) (s : State), s.kind = .roundRobin →
    s.endpoints ≠ [] → rrPos s + args.length < uint64Mod →
    (run v s (args.map Op.select)).2 = (List.range args.length).map (fun j => pickPos s (rrPos s + 1 + j))
  | [], _, _, _, _ => by simp [run]
  | a :: args, s, hk, hne, hlt => by
    rw [List.length_cons] at hlt
    obtain ⟨hstep, e4⟩ := step_select_roundRobin (v := v) hk hne (by omega) a
    have ih := run_select_roundRobin (v := v) args (afterSelect s) hk hne (by omega)
    have hp : pickPos (afterSelect s) = pickPos s := rfl
    simp only [List.map_cons, run, hstep, ih, hp, e4, List.length_cons, List.range_succ_eq_map, List.map_map]
    refine congrArg₂ _ rfl (List.map_congr_left fun j _ => ?_)
    simp only [Function.comp, Nat.succ_eq_add_one]
    congr 1
    omega

theorem run_select_direct {v : Variant} {eps : List Ep} {s : State} (args : List Nat)
    (h : Holds v .roundRobin false eps s) (hne : s.endpoints ≠ [])
    (hlt : s.lastPosition + args.length < uint64Mod) :
    (run v s (args.map Op.select)).2
      = (List.range args.length).map (fun j => pickDirect s.endpoints (s.lastPosition + 1 + j)) := by
  have hc : s.cache = [] := h.hcache.trans (cacheOf_false _ _)
  have := run_select_roundRobin (v := v) args s h.hkind hne (by simpa [rrPos, hc] using hlt)
  simpa [rrPos, pickPos, hc] using this

theorem run_select_cached {v : Variant} {ew : Bool} {eps : List Ep} {s : State} (args : List Nat)
    (h : Holds v .roundRobin ew eps s) (hc : s.cache ≠ [])
    (hlt : s.lastStaticWeightPosition + args.length < uint64Mod) :
    (run v s (args.map Op.select)).2
      = (List.range args.length).map
          (fun j => pickCached s.endpoints s.cache (s.lastStaticWeightPosition + 1 + j)) := by
  have hc0 : s.cache.length ≠ 0 := fun e => hc (List.eq_nil_of_length_eq_zero e)
  -- the weight list indexes the set, which is therefore not empty
  have hne : s.endpoints ≠ [] := fun e => by
    have := h.cacheValid _ (List.getElem_mem (Nat.pos_of_ne_zero hc0))
    rw [e] at this; exact Nat.not_lt_zero _ this
  have := run_select_roundRobin (v := v) args s h.hkind hne (by simpa [rrPos, hc0] using hlt)
  simpa [rrPos, pickPos, hc0] using this

/-! ### a window of a cycle is a rotation of it -/

theorem window_eq_rotate {α β : Type} (l : List α) (h : 0 < l.length) (g : α → β) (a : Nat) :
    (l.rotate a).map g
      = (List.range l.length).map (fun j => g (l[(a + j) % l.length]'(Nat.mod_lt _ h))) := by
  apply List.ext_getElem
  · simp
  · intro j h1 h2
    simp only [List.getElem_map, List.getElem_range, List.getElem_rotate]
    congr 2
    rw [Nat.add_comm]

theorem window_pickAt (σ : List Nat) (a : Nat) :
    (List.range σ.length).map (fun j => pickAt σ (a + j)) = σ.rotate a := by
  cases σ with
  | nil => rfl
  | cons x σ' =>
    have hN : 0 < (x :: σ').length := Nat.succ_pos _
    rw [← List.map_id ((x :: σ').rotate a), window_eq_rotate _ hN id a]
    exact List.map_congr_left fun j _ => by
      rw [pickAt, List.getElem?_eq_getElem (Nat.mod_lt _ hN)]; rfl

/-! ### equal static weights: a window of `N` selections is a rotation of the set -/

theorem pickAt_mod (σ : List Nat) (p m : Nat) : pickAt σ (p % (m * σ.length)) = pickAt σ p := by
  unfold pickAt
  rw [Nat.mod_mod_of_dvd p (Dvd.intro_left m rfl)]

theorem equal_window {eps : List Ep} {σ : List Nat} (hσ : σ.Perm (List.range eps.length)) (hne : eps ≠ [])
    {m : Nat} (hm : 0 < m) (a : Nat) :
    ∃ picked : List Ep,
      (List.range eps.length).map
          (fun j => pickCached eps ((List.range (m * eps.length)).map (pickAt σ)) (a + j))
        = picked.map Res.selected ∧ picked.Perm eps := by
  have hlen : σ.length = eps.length := by simpa using hσ.length_eq
  have hN : 0 < eps.length := List.length_pos_iff.2 hne
  have hL : 0 < ((List.range (m * eps.length)).map (pickAt σ)).length := by
    rw [List.length_map, List.length_range]; exact Nat.mul_pos hm hN
  have hvalid : ∀ i ∈ σ.rotate a, i < eps.length := by
    intro i hi
    have := hσ.mem_iff.1 (List.mem_rotate.1 hi)
    simpa using this
  refine ⟨(σ.rotate a).filterMap (eps[·]?), ?_, ?_⟩
  · rw [map_pickIdx_valid eps _ hvalid, ← window_pickAt σ a, hlen, List.map_map]
    apply List.map_congr_left
    intro j _
    rw [pickCached_eq hL]
    simp only [List.getElem_map, List.getElem_range, List.length_map, List.length_range, Function.comp]
    rw [← hlen, pickAt_mod σ (a + j) m]
  · have h1 := ((List.rotate_perm σ a).trans hσ).filterMap (eps[·]?)
    rw [range_filterMap_getElem] at h1
    exact h1

/-! ### windows of consecutive selections, from any state the invariant describes -/

section
variable {v : Variant} {ew : Bool} {eps : List Ep} {s : State}

theorem Holds.rotation (h : Holds v .roundRobin false eps s) (args : List Nat) (hN : args.length = eps.length)
    (hpos : 0 < args.length) (hwrap : s.lastPosition + args.length < uint64Mod) :
    (run v s (args.map Op.select)).2 = (eps.rotate (s.lastPosition + 1)).map Res.selected := by
  obtain rfl := h.heps
  have hlen : 0 < s.endpoints.length := hN ▸ hpos
  rw [run_select_direct args h (List.length_pos_iff.1 hlen) hwrap, hN,
    window_eq_rotate s.endpoints hlen Res.selected (s.lastPosition + 1)]
  exact List.map_congr_left fun j _ => pickDirect_eq hlen _

theorem Holds.cycle_rotation (h : Holds v .roundRobin ew eps s) (args : List Nat) (hcyc : s.cache ≠ [])
    (hN : args.length = s.cache.length) (hwrap : s.lastStaticWeightPosition + args.length < uint64Mod) :
    ∃ picked : List Ep, (run v s (args.map Op.select)).2 = picked.map Res.selected ∧
      picked.Perm (s.cache.filterMap (eps[·]?)) ∧ picked.length = s.cache.length := by
  obtain rfl := h.heps
  have hclen : 0 < s.cache.length := List.length_pos_iff.2 hcyc
  have hrun := run_select_cached args h hcyc hwrap
  have hvalid : ∀ i ∈ s.cache.rotate (s.lastStaticWeightPosition + 1), i < s.endpoints.length :=
    fun i hi => h.cacheValid i (List.mem_rotate.1 hi)
  have heq : (run v s (args.map Op.select)).2
      = ((s.cache.rotate (s.lastStaticWeightPosition + 1)).filterMap (s.endpoints[·]?)).map Res.selected := by
    rw [hrun, hN, map_pickIdx_valid _ _ hvalid,
      window_eq_rotate s.cache hclen (pickIdx s.endpoints) (s.lastStaticWeightPosition + 1)]
    exact List.map_congr_left fun j _ => pickCached_eq hclen _
  -- as many endpoints as results, and there is one result for each selection
  exact ⟨_, heq, (List.rotate_perm _ _).filterMap _, by
    simpa [hrun, hN] using (congrArg List.length heq).symm⟩

theorem Holds.select_modHash (hs : Holds v .modHash ew eps s) (h : Nat) (hh : h < uint32Mod) :
    (∀ (hn : 0 < eps.length), cacheOf v ew eps = [] →
        step v s (.select h) = (s, .selected (eps[h % eps.length]'(Nat.mod_lt _ hn)))) ∧
    (∀ (hc : 0 < (cacheOf v ew eps).length),
        ∃ hi : (cacheOf v ew eps)[h % (cacheOf v ew eps).length]'(Nat.mod_lt _ hc) < eps.length,
        step v s (.select h)
          = (s, .selected eps[(cacheOf v ew eps)[h % (cacheOf v ew eps).length]'(Nat.mod_lt _ hc)])) := by
  obtain rfl := hs.heps
  have hvalid := hs.cacheValid
  obtain hcache := hs.hcache
  generalize cacheOf v ew s.endpoints = c at *
  subst hcache
  have hstep := step_select_modHash (v := v) hs.hkind h
  rw [Nat.mod_eq_of_lt hh] at hstep
  refine ⟨fun hn hc => ?_, fun hc => ?_⟩
  · rw [hstep, if_neg (by omega), hc, if_neg (by simp), pickDirect_eq hn]
  · have hi := hvalid _ (List.getElem_mem (Nat.mod_lt h hc))
    have h0 : ¬ s.endpoints.length = 0 := by omega
    exact ⟨hi, by rw [hstep, if_neg h0, if_pos (by omega), pickCached_eq hc, pickIdx_valid hi]⟩

/-- `hb` and `hσ` are what `build_equal` concludes -/
theorem Holds.equal_weights_window (h : Holds v .roundRobin true eps s) {cap : Int} {σ : List Nat}
    (hb : buildStaticWeightList v eps = .ok cap ((List.range (10 * eps.length)).map (pickAt σ)))
    (hσ : σ.Perm (List.range eps.length)) (hne : eps ≠ []) (args : List Nat) (hN : args.length = eps.length)
    (hwrap : s.lastStaticWeightPosition + args.length < uint64Mod) :
    ∃ picked : List Ep, (run v s (args.map Op.select)).2 = picked.map Res.selected ∧ picked.Perm eps := by
  have hcache : s.cache = (List.range (10 * eps.length)).map (pickAt σ) := by
    rw [h.hcache]; simp [cacheOf, hb]
  have hlen : 0 < eps.length := List.length_pos_iff.2 hne
  have hcl : s.cache.length = 10 * eps.length := by rw [hcache]; simp
  have hcne : s.cache ≠ [] := List.length_pos_iff.1 (by rw [hcl]; omega)
  obtain ⟨picked, h1, h2⟩ := equal_window hσ hne (m := 10) (by decide) (s.lastStaticWeightPosition + 1)
  refine ⟨picked, ?_, h2⟩
  rw [run_select_cached args h hcne hwrap, hN, h.heps, hcache]
  exact h1

end

end Tars.Sel
