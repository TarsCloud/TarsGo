import TarsModel.Proofs.SchemaRTStmt

/-!
# The round trip of the four loops, one unit of fuel at a time

Every recursive call of the generated decoder goes down one unit of fuel, and `needVar` counts those
calls; so the round trip is shown by one induction on the fuel (`rtAt_all` in `SchemaRTKinds.lean`).
`ElemsAt F`, … say what a loop does at fuel `F`; each step lemma reads one equation of the
definition: the loop at `F+1` is a member read at `F` followed by the loop at `F`.
-/
namespace Tars
open Consts

def VarAt (env : Env) (rk : String → Nat) (F : Nat) : Prop := ∀ v, RTHeldAt env rk F v

def ElemsAt (env : Env) (rk : String → Nat) (F : Nat) : Prop :=
  ∀ (vs : List Val) (e : Ty) (acc : List Val) (r : Reader) (t : Bytes), needElems vs ≤ F →
    TyOK env rk (env.length + 1) e → WTs env e vs → r.rest = encElems env e vs ++ t →
    decElems env F e vs.length acc r
      = (.ok (.list (acc.reverse ++ normElems env e vs)), r.adv (encElems env e vs).length)

/-- `pre`: the elements already read, `olds`: what the array still holds behind them -/
def ArrAt (env : Env) (rk : String → Nat) (F : Nat) : Prop :=
  ∀ (vs : List Val) (e : Ty) (n : Nat) (pre olds : List Val) (r : Reader) (t : Bytes),
    needElems vs ≤ F → TyOK env rk (env.length + 1) e → WTs env e vs →
    n = pre.length + vs.length → olds.length = vs.length → (∀ o ∈ olds, Held env true e none o) →
    r.rest = encElems env e vs ++ t →
    decArr env F e n pre.length (n : Int) (pre ++ olds) r
      = (.ok (.list (pre ++ normElems env e vs)), r.adv (encElems env e vs).length)

/-- `acc`: the entries already read; their keys differ from the keys to come -/
def PairsAt (env : Env) (rk : String → Nat) (F : Nat) : Prop :=
  ∀ (kvs : List (Val × Val)) (k v : Ty) (acc : List (Val × Val)) (r : Reader) (t : Bytes),
    needPairs kvs ≤ F → TyOK env rk (env.length + 1) k → TyOK env rk (env.length + 1) v →
    WTp env k v kvs → KeysDistinct kvs → (∀ p ∈ acc, ∀ q ∈ kvs, keyEq p.1 q.1 = false) →
    r.rest = encPairs env k v kvs ++ t →
    decPairs env F k v (kvs.length : Int) acc r
      = (.ok (.map (acc ++ normPairs env k v kvs)), r.adv (encPairs env k v kvs).length)

def MembersAt (env : Env) (rk : String → Nat) (F : Nat) : Prop :=
  ∀ (vs : List Val) (fs : List Field) (olds : List Val) (r : Reader) (t : Bytes),
    needElems vs ≤ F → (∀ f ∈ fs, MemberOK env rk f) → TagsAsc fs →
    WTm env fs vs → OldOKs env fs olds → Terminated t → r.rest = encMembers env fs vs ++ t →
    decMembers env F fs olds r
      = (.ok (normMembers env fs vs), r.adv (encMembers env fs vs).length)

structure RTAt (env : Env) (rk : String → Nat) (F : Nat) : Prop where
  var : VarAt env rk F
  elems : ElemsAt env rk F
  arr : ArrAt env rk F
  pairs : PairsAt env rk F
  members : MembersAt env rk F

variable {env : Env} {rk : String → Nat} {F : Nat}

/-! ## element loops -/

theorem elems_step (hE : EnvWF env rk) (hv : VarAt env rk F) (ih : ElemsAt env rk F) :
    ElemsAt env rk (F+1) := by
  intro vs e acc r t hf he hwt h
  cases vs with
  | nil => simp [decElems_zero, normElems, encElems]
  | cons v vs =>
    simp only [needElems] at hf
    simp only [WTs] at hwt
    simp only [encElems, List.append_assoc] at h
    rw [List.length_cons, decElems_succ, (hv v).elem (by decide) he hwt.1
      (.inl (zeroOf_ready hE e he)) (by omega) h]
    simp only
    rw [ih vs e _ _ t (by omega) he hwt.2 (r.rest_adv h)]
    simp [normElems, encElems, Reader.adv_adv]

theorem listSet_mid (pre : List Val) (o v : Val) (os : List Val) :
    listSet (pre ++ o :: os) pre.length v = pre ++ [v] ++ os := by
  simp [listSet]

theorem arr_step (hv : VarAt env rk F) (ih : ArrAt env rk F) : ArrAt env rk (F+1) := by
  intro vs e n pre olds r t hf he hwt hn hol hro h
  rw [decArr_succ]
  cases vs with
  | nil =>
    cases List.length_eq_zero_iff.mp hol
    simp [hn, normElems, encElems]
  | cons v vs =>
    obtain ⟨o, os, rfl⟩ := List.exists_cons_of_length_eq_add_one hol
    simp only [needElems] at hf
    simp only [WTs] at hwt
    simp only [List.length_cons] at hn hol
    simp only [encElems, List.append_assoc] at h
    rw [if_neg (by omega), if_neg (by omega),
      show (pre ++ o :: os).getD pre.length (zeroOf env e) = o by simp [List.getD],
      (hv v).elem (by decide) he hwt.1 (hro o (by simp)) (by omega) h]
    simp only
    rw [listSet_mid]
    have := ih vs e n (pre ++ [normVar env true e none v]) os _ t (by omega) he hwt.2
      (by simp; omega) (by omega) (fun o' ho' => hro o' (by simp [ho'])) (r.rest_adv h)
    simp only [List.length_append, List.length_singleton] at this
    rw [this]
    simp [normElems, encElems, Reader.adv_adv]

/-! ## map entries -/

theorem mapInsert_fresh (b : Val) : ∀ (acc : List (Val × Val)) (a : Val),
    (∀ p ∈ acc, keyEq p.1 a = false) → mapInsert acc a b keyEq = acc ++ [(a, b)]
  | [], a, _ => rfl
  | (x, y) :: acc, a, h => by
    have hx : keyEq x a = false := h (x, y) (by simp)
    simp only [mapInsert, hx, List.cons_append]
    rw [mapInsert_fresh b acc a (fun p hp => h p (by simp [hp]))]
    simp

theorem pairs_step (hE : EnvWF env rk) (hv : VarAt env rk F) (ih : PairsAt env rk F) :
    PairsAt env rk (F+1) := by
  intro kvs k v acc r t hf hk hv' hwt hdist hacc h
  rw [decPairs_succ]
  cases kvs with
  | nil => simp [normPairs, encPairs]
  | cons p kvs =>
    obtain ⟨a, b⟩ := p
    simp only [needPairs] at hf
    simp only [WTp] at hwt
    simp only [encPairs, List.append_assoc] at h
    have hr1 := r.rest_adv h
    have hd := List.pairwise_cons.mp hdist
    obtain ⟨hfresh, hacc'⟩ := keys_fresh_snoc env k (b' := normVar env true v none b) hacc hd.1
    rw [if_neg (by simp),
      (hv a).elem (by decide) hk hwt.1 (.inl (zeroOf_ready hE k hk)) (by omega) h]
    simp only
    rw [(hv b).elem (by decide) hv' hwt.2.1 (.inl (zeroOf_ready hE v hv')) (by omega) hr1]
    simp only
    rw [mapInsert_fresh _ acc _ hfresh,
      show ((((a, b) :: kvs).length : Nat) : Int) - 1 = (kvs.length : Int) by simp,
      ih kvs k v _ _ t (by omega) hk hv' hwt.2.2 hd.2 hacc' (Reader.rest_adv _ hr1)]
    simp [normPairs, encPairs, Reader.adv_adv, Nat.add_assoc]

/-! ## the member loop of `ReadFrom` -/

theorem members_step (hv : VarAt env rk F) (ih : MembersAt env rk F) : MembersAt env rk (F+1) := by
  intro vs fs olds r t hf hfs hasc hwt hold ht h
  cases vs with
  | nil =>
    cases fs with
    | nil => simp [decMembers_nil, normMembers, encMembers]
    | cons g gs => simp [WTm] at hwt
  | cons v vs =>
    cases fs with
    | nil => simp [WTm] at hwt
    | cons g gs =>
      cases olds with
      | nil => simp [OldOKs] at hold
      | cons o os =>
        simp only [needElems] at hf
        simp only [WTm] at hwt
        simp only [OldOKs] at hold
        simp only [encMembers, List.append_assoc] at h
        have hg := hfs g (by simp)
        have hasc' := List.pairwise_cons.mp hasc
        have hnt : NextTagGt g.tag (encMembers env gs vs ++ t) :=
          encMembers_nextTagGt env g.tag t ht gs vs
            (fun f' hf' => ⟨hasc'.1 f' hf', (hfs f' (by simp [hf'])).1⟩)
        rw [decMembers_cons, hv v g.tag g.req g.ty g.dflt o r _ hg.1 hg.2.1 hg.2.2 hwt.1
          (.inl hold.1) (fun _ => hnt) (by omega) h]
        simp only
        rw [ih vs gs os _ t (by omega) (fun f' hf' => hfs f' (by simp [hf'])) hasc'.2 hwt.2
          hold.2 ht (r.rest_adv h)]
        simp [normMembers, encMembers, Reader.adv_adv]

end Tars
