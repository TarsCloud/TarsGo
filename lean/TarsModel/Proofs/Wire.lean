import TarsModel.Model.Wire
import TarsModel.Proofs.Bytes

/-! The primitives of the reader in terms of the unread input `Reader.rest` and the position
    `Reader.adv`: one closed form per primitive on arbitrary input, then what the head, skip and
    length primitives return when the unread input begins with what a writer wrote (`Reads`), or
    has ended. -/
namespace Tars
open Consts

def Reader.adv (r : Reader) (n : Nat) : Reader := { r with pos := r.pos + n }

@[simp] theorem Reader.adv_data (r : Reader) (n : Nat) : (r.adv n).data = r.data := rfl
@[simp] theorem Reader.adv_pos (r : Reader) (n : Nat) : (r.adv n).pos = r.pos + n := rfl
@[simp] theorem Reader.adv_zero (r : Reader) : r.adv 0 = r := rfl
@[simp] theorem Reader.adv_adv (r : Reader) (a b : Nat) : (r.adv a).adv b = r.adv (a + b) := by
  simp [Reader.adv, Nat.add_assoc]

theorem Reader.rest_adv_drop (r : Reader) (n : Nat) : (r.adv n).rest = r.rest.drop n := by
  simp [Reader.rest, List.drop_drop]

theorem Reader.rest_adv (r : Reader) {bs t : Bytes} (h : r.rest = bs ++ t) :
    (r.adv bs.length).rest = t := by
  rw [r.rest_adv_drop, h, List.drop_left]

theorem Reader.rest_length (r : Reader) : r.rest.length = r.data.size - r.pos := by
  simp [Reader.rest]

theorem Reader.remaining_eq_rest (r : Reader) : r.remaining = r.rest.length := r.rest_length.symm

theorem Reader.remaining_of_rest {r : Reader} {q : Bytes} (h : r.rest = q) : r.remaining = q.length :=
  h ▸ r.remaining_eq_rest

theorem Reader.rest_length_le (r : Reader) : r.rest.length ≤ r.data.size := by
  simp [Reader.rest]

theorem Reader.remaining_le_size (r : Reader) : r.remaining ≤ r.data.size :=
  r.remaining_eq_rest ▸ r.rest_length_le

theorem Reader.length_le_size_of_rest (r : Reader) {bs t : Bytes} (h : r.rest = bs ++ t) :
    bs.length ≤ r.data.size := by
  have := r.rest_length_le
  rw [h, List.length_append] at this
  exact Nat.le_of_add_right_le this

theorem Reader.rest_eq_nil_iff (r : Reader) : r.rest = [] ↔ r.data.size ≤ r.pos := by
  rw [← List.length_eq_zero_iff, r.rest_length]
  omega

theorem takeFrom_eq (a : Array Byte) (i n : Nat) : takeFrom a i n = (a.toList.drop i).take n := by
  induction n generalizing i with
  | zero => simp [takeFrom]
  | succ n ih =>
    unfold takeFrom
    by_cases hi : i < a.size
    · have h1 : a[i]? = some a[i] := Array.getElem?_eq_getElem hi
      rw [h1]
      simp only
      rw [ih (i+1)]
      have hl : i < a.toList.length := by simpa using hi
      rw [List.drop_eq_getElem_cons hl]
      simp
    · have h1 : a[i]? = none := Array.getElem?_eq_none (by omega)
      rw [h1]
      have : a.toList.drop i = [] := List.drop_eq_nil_of_le (by simp; omega)
      simp [this]

theorem takeFrom_length (a : Array Byte) (i n : Nat) :
    (takeFrom a i n).length = min n (a.size - i) := by
  rw [takeFrom_eq]; simp

theorem takeFrom_infix (a : Array Byte) (i n : Nat) : takeFrom a i n <:+: a.toList := by
  rw [takeFrom_eq]
  exact (List.take_prefix _ _).isInfix.trans (List.drop_suffix _ _).isInfix

theorem Reader.takeFrom_pos (r : Reader) (n : Nat) : takeFrom r.data r.pos n = r.rest.take n :=
  takeFrom_eq _ _ _

/-! ### `mapRes` -/

theorem mapRes_ok {α β : Type} {f : α → β} {x : Res α} {b : β} {r' : Reader}
    (h : mapRes f x = (.ok b, r')) : ∃ a, x = (.ok a, r') ∧ b = f a := by
  obtain ⟨res, r1⟩ := x
  cases res with
  | error e => simp [mapRes] at h
  | ok a =>
    simp only [mapRes, Prod.mk.injEq, Except.ok.injEq] at h
    exact ⟨a, by rw [h.2], h.1.symm⟩

theorem mapRes_err {α β : Type} {f : α → β} {x : Res α} {e : Err} {r' : Reader}
    (h : mapRes f x = (.error e, r')) : x = (.error e, r') := by
  obtain ⟨res, r1⟩ := x
  cases res with
  | error e1 =>
    simp only [mapRes, Prod.mk.injEq, Except.error.injEq] at h
    rw [h.1, h.2]
  | ok a => simp [mapRes] at h

@[simp] theorem mapRes_snd {α β : Type} (f : α → β) (x : Res α) : (mapRes f x).2 = x.2 := by
  obtain ⟨res, r1⟩ := x
  cases res <;> rfl

theorem mapRes_mapRes {α β γ : Type} (f : β → γ) (g : α → β) (x : Res α) :
    mapRes f (mapRes g x) = mapRes (fun a => f (g a)) x := by
  rcases x with ⟨_ | _, _⟩ <;> rfl

theorem mapRes_id {β : Type} (x : Res β) : mapRes (fun v => v) x = x := by
  rcases x with ⟨_ | _, _⟩ <;> rfl

/-! ### each primitive as a function of the unread input -/

theorem readByte_eq (r : Reader) :
    readByte r = match r.rest with
      | [] => (.error .eof, r)
      | b :: _ => (.ok b, r.adv 1) := by
  have : r.data[r.pos]? = r.rest.head? := by simp [Reader.rest]
  unfold readByte; rw [this]; cases r.rest <;> rfl

theorem readFull_eq (n : Nat) (r : Reader) :
    readFull n r =
      if n = 0 then (.ok [], r)
      else if r.rest.length < n then (.error .eof, r.adv r.rest.length)
      else (.ok (r.rest.take n), r.adv n) := by
  have hl := r.rest_length
  unfold readFull
  split
  · rfl
  · simp only [r.takeFrom_pos, List.length_take]
    by_cases hp : r.pos ≥ r.data.size
    · rw [if_pos hp, if_pos (by omega), show r.rest.length = 0 by omega]; rfl
    · rw [if_neg hp]
      by_cases hs : r.rest.length < n
      · rw [if_pos hs, if_pos (by omega), Nat.min_eq_right (by omega)]; rfl
      · rw [if_neg hs, if_neg (by omega), Nat.min_eq_left (by omega)]; rfl

theorem readHead_eq (r : Reader) :
    readHead r = match r.rest with
      | [] => (.error .eof, r)
      | d :: t =>
        if d.val / 16 = extTagRead then
          match t with
          | [] => (.error .eof, r.adv 1)
          | d2 :: _ => (.ok (d.val % 16, d2.val), r.adv 2)
        else (.ok (d.val % 16, d.val / 16), r.adv 1) := by
  unfold readHead
  rw [readByte_eq r]
  cases h : r.rest with
  | nil => rfl
  | cons d t =>
    have ht : (r.adv 1).rest = t := r.rest_adv (bs := [d]) h
    simp only
    split
    · rw [readByte_eq, ht]; cases t <;> rfl
    · rfl

theorem skip_eq (n : Int) (r : Reader) : skip n r = (.ok (), r.adv n.toNat) := by
  unfold skip seekCur
  split
  · rw [show n.toNat = 0 by omega]; rfl
  · rfl

theorem skip_fst (n : Int) (r : Reader) : (skip n r).1 = .ok () := by rw [skip_eq]

/-- `Next` never fails: it returns what is there, and seeks past the end if asked to -/
theorem next_eq (n : Int) (r : Reader) : next n r = (.ok (r.rest.take n.toNat), r.adv n.toNat) := by
  unfold next
  split
  · rw [show n.toNat = 0 by omega]; rfl
  · have hl := r.remaining_eq_rest
    simp only [Reader.remaining] at hl ⊢
    rw [takeFrom_eq]
    congr 2
    by_cases hp : r.pos ≤ r.data.size
    · rw [Nat.sub_sub_self hp, ← Reader.rest]
      by_cases hn : r.pos + n.toNat ≤ r.data.size
      · rw [Nat.sub_sub_self hn, Nat.add_sub_cancel_left]
      · rw [Nat.sub_eq_zero_of_le (Nat.le_of_lt (Nat.lt_of_not_le hn)), Nat.sub_zero, hl,
          List.take_of_length_le (Nat.le_refl _), List.take_of_length_le (by omega)]
    · rw [show r.rest = [] from List.eq_nil_of_length_eq_zero (by omega),
        List.drop_eq_nil_of_le (by rw [Array.length_toList]; omega), List.take_nil, List.take_nil]

theorem nextExact_eq (l : Nat) (r : Reader) :
    nextExact l r =
      if r.rest.length < l then (.error .eof, r.adv l) else (.ok (r.rest.take l), r.adv l) := by
  unfold nextExact
  rw [next_eq]
  simp only [Int.toNat_natCast, List.length_take, ne_eq]
  by_cases h : r.rest.length < l
  · rw [if_pos (by omega), if_pos h]
  · rw [if_neg (by omega), if_neg h]

theorem bReadU_eq (n : Nat) (r : Reader) : bReadU n r = mapRes beVal (readFull n r) := by
  unfold bReadU mapRes; rcases readFull n r with ⟨_ | _, _⟩ <;> rfl

theorem bReadU8_eq (r : Reader) : bReadU8 r = mapRes (fun b : Byte => b.val) (readByte r) := by
  unfold bReadU8 mapRes; rcases readByte r with ⟨_ | _, _⟩ <;> rfl

theorem bReadU8_eq_bReadU (r : Reader) : bReadU8 r = bReadU 1 r := by
  unfold bReadU8 bReadU
  rw [readByte_eq, readFull_eq]
  rcases r.rest with _ | ⟨b, t⟩ <;> simp [beVal]

theorem checkLength_of_le {len : Int} {r : Reader} (h0 : 0 ≤ len) (h : len.toNat ≤ r.remaining) :
    checkLength len r = (.ok (), r) := by
  unfold checkLength; rw [if_neg (by omega)]

theorem checkLength_of_gt {len : Int} {r : Reader} (h : len < 0 ∨ (r.remaining : Int) < len) :
    checkLength len r = (.error .eof, r) := by
  unfold checkLength; rw [if_pos (by omega)]

theorem readFull_of_le {n : Nat} {r : Reader} (h : n ≤ r.remaining) :
    readFull n r = (.ok (takeFrom r.data r.pos n), r.adv n) := by
  rw [readFull_eq, r.takeFrom_pos]
  split
  · subst n; rfl
  · rw [if_neg (Nat.not_lt.mpr (r.remaining_eq_rest ▸ h))]

/-- `ReadBytes` in closed form: once `CheckLength` has passed, `io.ReadFull` cannot fail -/
theorem readBytes_eq (len : Int) (r : Reader) :
    readBytes len r = if len < 0 ∨ (r.remaining : Int) < len then (.error .eof, r)
      else (.ok (takeFrom r.data r.pos len.toNat), r.adv len.toNat) := by
  unfold readBytes
  by_cases h : len < 0 ∨ (r.remaining : Int) < len
  · rw [if_pos h, checkLength_of_gt h]
  · have hn : len.toNat ≤ r.remaining := by omega
    rw [if_neg h, checkLength_of_le (by omega) hn]
    exact readFull_of_le hn

/-- `ReadBytes` behind its `CheckLength`: a length that fails the check is an error before anything
    is read or allocated; one that passes is the number of bytes then consumed, all inside the input -/
theorem readBytes_cases (len : Int) (r : Reader) :
    (checkLength len r = (.error .eof, r) ∧ readBytes len r = (.error .eof, r)) ∨
    (checkLength len r = (.ok (), r) ∧ len.toNat ≤ r.remaining ∧
      readBytes len r = (.ok (takeFrom r.data r.pos len.toNat), r.adv len.toNat)) := by
  rw [readBytes_eq]
  by_cases h : len < 0 ∨ (r.remaining : Int) < len
  · exact .inl ⟨checkLength_of_gt h, if_pos h⟩
  · have hn : len.toNat ≤ r.remaining := by omega
    exact .inr ⟨checkLength_of_le (by omega) hn, hn, if_neg h⟩

theorem checkLength_eq (r : Reader) (n : Nat) :
    checkLength (n : Int) r = if n ≤ r.rest.length then (.ok (), r) else (.error .eof, r) := by
  rw [← r.remaining_eq_rest]
  split
  · exact checkLength_of_le (by omega) (by simpa)
  · exact checkLength_of_gt (by omega)

theorem checkLength_ok_inv {len : Int} {r r' : Reader} {u : Unit} (h : checkLength len r = (.ok u, r')) :
    r' = r ∧ 0 ≤ len := by
  unfold checkLength at h
  split at h
  · simp at h
  · rename_i hc
    simp only [Prod.mk.injEq] at h
    exact ⟨h.2.symm, by omega⟩

theorem checkLength_err {len : Int} {r r' : Reader} {e : Err} (h : checkLength len r = (.error e, r')) :
    r' = r ∧ e = .eof ∧ (len < 0 ∨ (r.remaining : Int) < len) := by
  unfold checkLength at h
  split at h
  · rename_i hc
    simp only [Prod.mk.injEq, Except.error.injEq] at h
    exact ⟨h.2.symm, h.1.symm, by omega⟩
  · simp at h

/-- `skipToNoCheckF` and `skipField` recurse on the fuel: this form lets their `fuel+1` equations fire -/
theorem Reader.fuel_succ (r : Reader) : r.fuel = (2 * r.data.size + 7) + 1 := rfl

theorem readLen_eq (old : Int) (r : Reader) : readLen r = readInt32 old 0 true r := by
  unfold readLen readInt32 skipToNoCheck
  rw [Reader.fuel_succ]
  unfold skipToNoCheckF
  rcases hh : readHead r with ⟨_ | ⟨ty, tg⟩, r1⟩
  · simp
  · simp only
    by_cases hc : ty = tyStructEnd ∨ tg > 0
    · simp [hc]
    · have : tg = 0 := by omega
      subst this
      simp only [hc, if_false, if_true]
      simp only [mapRes]
      rcases bReadU8 r1 with ⟨_ | _, _⟩ <;> rcases bReadU 2 r1 with ⟨_ | _, _⟩ <;>
        rcases bReadU 4 r1 with ⟨_ | _, _⟩ <;> try rfl

/-! ### on canonical input -/

/-- `m`, run where the unread input begins with `E`, returns `a` and stops right behind `E` -/
def Reads {α : Type} (m : RM α) (E : Bytes) (a : α) : Prop :=
  ∀ (r : Reader) (t : Bytes), r.rest = E ++ t → m r = (.ok a, r.adv E.length)

theorem readByte_cons (r : Reader) (b : Byte) (t : Bytes) (h : r.rest = b :: t) :
    readByte r = (.ok b, r.adv 1) := by rw [readByte_eq, h]

theorem readByte_nil (r : Reader) (h : r.rest = []) : readByte r = (.error .eof, r) := by
  rw [readByte_eq, h]

theorem bReadU8_cons (r : Reader) (b : Byte) (t : Bytes) (h : r.rest = b :: t) :
    bReadU8 r = (.ok b.val, r.adv 1) := by
  simp [bReadU8, readByte_cons r b t h]

theorem readFull_full (bs : Bytes) : Reads (readFull bs.length) bs bs := fun r t h => by
  rw [readFull_eq, h]
  cases bs with
  | nil => rfl
  | cons b bs => rw [if_neg (by simp), if_neg (by simp), List.take_left]

theorem bReadU_reads (n x : Nat) (hx : x < 256 ^ n) : Reads (bReadU n) (be n x) x := fun r t h => by
  have := readFull_full (be n x) r t h
  rw [be_length] at this
  simp [bReadU, this, beVal_be, Nat.mod_eq_of_lt hx]

theorem nextExact_full (s : Bytes) : Reads (nextExact s.length) s s := fun r t h => by
  rw [nextExact_eq, h, if_neg (by simp), List.take_left]

theorem checkLength_within (r : Reader) {n : Nat} {bs t : Bytes} (hn : n ≤ bs.length)
    (h : r.rest = bs ++ t) : checkLength (n : Int) r = (.ok (), r) := by
  rw [checkLength_eq, if_pos (by rw [h, List.length_append]; omega)]

/-- `ReadSliceInt8/Uint8` on the bytes the length announces (`n` is their number however it is written) -/
theorem readSlice8_full (old bs : Bytes) {n : Nat} (hn : bs.length = n) :
    Reads (readSlice8 old (n : Int)) bs bs := fun r t h => by
  subst hn
  unfold readSlice8
  by_cases hne : bs = []
  · subst hne; rfl
  have hpos : 0 < bs.length := List.length_pos_iff.mpr hne
  have : ¬ ((bs.length : Int) ≤ 0) := by omega
  simp only [this, if_false, Int.toNat_natCast]
  rw [checkLength_within r (Nat.le_refl _) h]
  exact readFull_full bs r t h

theorem nibbles (hi lo : Nat) (hhi : hi < 16) (hlo : lo < 16) :
    (hi * 16 + lo) % 256 % 16 = lo ∧ (hi * 16 + lo) % 256 / 16 = hi := by
  have h : (hi * 16 + lo) % 256 = hi * 16 + lo := Nat.mod_eq_of_lt (by omega)
  rw [h, Nat.mul_add_mod_self_right, Nat.mod_eq_of_lt hlo, Nat.mul_comm,
    Nat.mul_add_div (by decide), Nat.div_eq_of_lt hlo]
  exact ⟨rfl, rfl⟩

theorem writeHead_length (ty tag : Nat) :
    (writeHead ty tag).length = if tag < 15 then 1 else 2 := by
  unfold writeHead
  simp only [extTagThreshold]
  split <;> simp

theorem writeHead_length_pos (ty tag : Nat) : 0 < (writeHead ty tag).length := by
  rw [writeHead_length]; split <;> decide

theorem writeHead_append_inj {a b tag : Nat} {x y : Bytes} (ha : a < 16) (hb : b < 16)
    (h : writeHead a tag ++ x = writeHead b tag ++ y) : a = b ∧ x = y := by
  unfold writeHead at h
  by_cases ht : tag < extTagThreshold
  · have ht' : tag < 15 := ht
    simp only [ht, if_true, List.cons_append, List.nil_append, List.cons.injEq] at h
    have := congrArg Fin.val h.1
    simp only [byte_val] at this
    exact ⟨by omega, h.2⟩
  · simp only [ht, if_false, List.cons_append, List.nil_append, List.cons.injEq] at h
    have := congrArg Fin.val h.1
    simp only [byte_val, extTagMarker] at this
    exact ⟨by omega, h.2.2⟩

theorem readHead_writeHead (ty tag : Nat) (hty : ty < 16) (htag : tag < 256) :
    Reads readHead (writeHead ty tag) (ty, tag) := fun r t h => by
  unfold writeHead at *
  rw [readHead_eq]
  by_cases hlt : tag < extTagThreshold
  · rw [if_pos hlt] at h ⊢
    have hlt' : tag < 15 := hlt
    have hne : tag ≠ extTagRead := by simp only [extTagRead]; omega
    rw [h]
    simp only [List.cons_append, List.nil_append, byte_val, nibbles tag ty (by omega) hty, hne, if_false]
    rfl
  · rw [if_neg hlt] at h ⊢
    rw [h]
    simp only [List.cons_append, List.nil_append, byte_val, nibbles extTagMarker ty (by decide) hty,
      if_true, Nat.mod_eq_of_lt htag]
    rfl

theorem readHead_nil (r : Reader) (h : r.rest = []) : readHead r = (.error .eof, r) := by
  rw [readHead_eq, h]

theorem unreadHead_adv (r : Reader) (ty tg : Nat) :
    unreadHead tg (r.adv (writeHead ty tg).length) = (.ok (), r) := by
  rw [writeHead_length]
  unfold unreadHead unreadByte
  by_cases h : tg < 15
  · have h2 : ¬ (tg ≥ extTagUnread) := by simp only [extTagUnread]; omega
    simp [h, h2, Reader.adv]
  · have h2 : tg ≥ extTagUnread := by simp only [extTagUnread]; omega
    simp [h, h2, Reader.adv]

/-! ### `SkipToNoCheck` and `SkipTo`: a hit; `SkipToStructEnd` at its StructEnd and at the end of the input -/

theorem skipToNoCheck_hit (ty tag : Nat) (req : Bool)
    (hty : ty < 16) (hne : ty ≠ tyStructEnd) (htag : tag < 256) :
    Reads (skipToNoCheck tag req) (writeHead ty tag) (true, ty) := fun r t h => by
  unfold skipToNoCheck
  rw [Reader.fuel_succ]
  unfold skipToNoCheckF
  simp only [readHead_writeHead ty tag hty htag r t h]
  simp [hne]

theorem skipTo_hit (ty tag : Nat) (req : Bool)
    (hty : ty < 16) (hne : ty ≠ tyStructEnd) (htag : tag < 256) :
    Reads (skipTo ty tag req) (writeHead ty tag) true := fun r t h => by
  simp [skipTo, skipToNoCheck_hit ty tag req hty hne htag r t h]

theorem skipTo_found_mismatch {ty tyCur tag : Nat} {req : Bool} {r r1 : Reader}
    (hs : skipToNoCheck tag req r = (.ok (true, tyCur), r1)) (hne : ty ≠ tyCur) :
    skipTo ty tag req r = (.error .mismatch, r1) := by
  unfold skipTo; rw [hs]; simp [hne]

theorem skipTo_found_ok {ty tag : Nat} {req : Bool} {r r1 : Reader}
    (hs : skipToNoCheck tag req r = (.ok (true, ty), r1)) :
    skipTo ty tag req r = (.ok true, r1) := by
  unfold skipTo; rw [hs]; simp

theorem skipToStructEnd_end (r : Reader) (t : Bytes) (h : r.rest = writeHead tyStructEnd 0 ++ t) :
    skipToStructEnd r.fuel r = (.ok (), r.adv (writeHead tyStructEnd 0).length) := by
  rw [Reader.fuel_succ]
  unfold skipToStructEnd
  rw [readHead_writeHead tyStructEnd 0 (by decide) (by decide) r t h]
  have : 2 * r.data.size + 7 = (2 * r.data.size + 6) + 1 := rfl
  rw [this]
  unfold skipField
  simp +decide

theorem skipToStructEnd_eof (r : Reader) (h : r.rest = []) :
    skipToStructEnd r.fuel r = (.error .eof, r) := by
  rw [Reader.fuel_succ]
  unfold skipToStructEnd
  rw [readHead_nil r h]

/-! ### `SkipToNoCheck` where the search ends without a hit -/

theorem skipToNoCheck_nil (r : Reader) (tag : Nat) (req : Bool) (h : r.rest = []) :
    skipToNoCheck tag req r = if req then (.error .require, r) else (.ok (false, 0), r) := by
  unfold skipToNoCheck
  rw [Reader.fuel_succ]
  unfold skipToNoCheckF
  simp [readHead_nil r h]

/-- at a StructEnd head or a head with a larger tag: the head is put back unless the member was
    required -/
theorem skipToNoCheck_past (r : Reader) (tag ty tg : Nat) (req : Bool) (rest : Bytes) (hty : ty < 16)
    (htg : tg < 256) (hc : ty = tyStructEnd ∨ tag < tg) (h : r.rest = writeHead ty tg ++ rest) :
    skipToNoCheck tag req r =
      if req then (.error .require, r.adv (writeHead ty tg).length) else (.ok (false, ty), r) := by
  unfold skipToNoCheck
  rw [Reader.fuel_succ]
  unfold skipToNoCheckF
  simp only [readHead_writeHead ty tg hty htg r rest h]
  have hc' : ty = tyStructEnd ∨ tg > tag := hc
  simp [hc', unreadHead_adv]

/-- the next head, if any, does not belong to member `tag` -/
def NextTagGt (tag : Nat) (bs : Bytes) : Prop :=
  bs = [] ∨ ∃ ty tg rest, ty < 16 ∧ tg < 256 ∧ (ty = tyStructEnd ∨ tag < tg) ∧
    bs = writeHead ty tg ++ rest

theorem skipToNoCheck_miss (r : Reader) (tag : Nat) (h : NextTagGt tag r.rest) :
    ∃ ty, skipToNoCheck tag false r = (.ok (false, ty), r) := by
  rcases h with h | ⟨ty, tg, rest, hty, htg, hc, h⟩
  · exact ⟨0, by simp [skipToNoCheck_nil r tag false h]⟩
  · exact ⟨ty, by simp [skipToNoCheck_past r tag ty tg false rest hty htg hc h]⟩

theorem skipToNoCheck_missing (r : Reader) (tag : Nat) (h : NextTagGt tag r.rest) :
    ∃ r', skipToNoCheck tag true r = (.error .require, r') := by
  rcases h with h | ⟨ty, tg, rest, hty, htg, hc, h⟩
  · exact ⟨r, by simp [skipToNoCheck_nil r tag true h]⟩
  · exact ⟨r.adv (writeHead ty tg).length,
      by simp [skipToNoCheck_past r tag ty tg true rest hty htg hc h]⟩

theorem skipTo_miss (r : Reader) (ty tag : Nat) (h : NextTagGt tag r.rest) :
    skipTo ty tag false r = (.ok false, r) := by
  obtain ⟨ty', h'⟩ := skipToNoCheck_miss r tag h
  simp [skipTo, h']

def HeadAt (tag : Nat) (bs : Bytes) : Prop :=
  ∃ hty rest, hty < 16 ∧ bs = writeHead hty tag ++ rest

theorem HeadAt.nextTagGt {tag tg : Nat} {bs : Bytes} (h : HeadAt tg bs) (hlt : tag < tg)
    (htg : tg < 256) (t : Bytes) : NextTagGt tag (bs ++ t) := by
  obtain ⟨hty, rest, h1, rfl⟩ := h
  exact Or.inr ⟨hty, tg, rest ++ t, h1, htg, Or.inr hlt, by simp⟩

theorem HeadAt.of_append {tag hty : Nat} {rest : Bytes} (h1 : hty < 16) :
    HeadAt tag (writeHead hty tag ++ rest) := ⟨hty, rest, h1, rfl⟩

theorem HeadAt.length_pos {tag : Nat} {bs : Bytes} (h : HeadAt tag bs) : 0 < bs.length := by
  obtain ⟨hty, rest, _, rfl⟩ := h
  exact List.length_append ▸ Nat.add_pos_left (writeHead_length_pos hty tag) _

theorem Reader.rest_mk0 (bs : Bytes) : (Reader.mk0 bs).rest = bs := by
  simp [Reader.rest, Reader.mk0]

/-- the same with `t = []` spelled out, as the round-trip statements take it -/
theorem Reader.rest_mk0_append_nil (bs : Bytes) : (Reader.mk0 bs).rest = bs ++ [] := by
  rw [Reader.rest_mk0, List.append_nil]

end Tars
