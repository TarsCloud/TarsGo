import TarsModel.Proofs.TotalDec

/-!
  The witnesses of C05.  D11: the generated decoders validate element counts and lengths before
  allocating (`decVar_vec_checkfail`, `decVar_arr_toolong`), so `ReadFrom` fails with the first
  member (`decStruct_first_err`); single steps of the array loop, for the as-found
  `AsFound.arrLoop` (`Model/Cost.lean`); the concrete schemas and inputs.  D12: the input on which
  the call depth of the skip family (`Model/CostSkip.lean`) reaches the bound of `skipD_run`
  (`Proofs/WireSkip.lean`).
-/
namespace Tars
open Consts

theorem decStruct_first_err {env : Env} {name : String} {fld : Field} {fs : List Field}
    {o : Val} {os : List Val} {r r' : Reader} {e : Err}
    (hfind : env.find name = some (fld :: fs))
    (h : ∀ f o', decVar env (f+1) fld.tag fld.req fld.ty o' r = (.error e, r')) :
    decStruct env name (.struct (o :: os)) r = (.error e, r') := by
  rw [decStruct_struct hfind]
  obtain ⟨f, hf⟩ : ∃ f, decFuel env r = f + 1 + 1 := ⟨decFuel env r - 2, by
    have := decFuel_ge_members env r hfind; omega⟩
  rw [hf, Evolve.resetDefault_cons, decMembers_cons, h f]

theorem decVar_vec_checkfail {env : Env} {f tag : Nat} {req : Bool} {e : Ty} {old : Val}
    {r r1 r2 : Reader} {len : Int}
    (hs : skipToNoCheck tag req r = (.ok (true, tyLIST), r1))
    (hl : readLen r1 = (.ok len, r2)) (hbad : len < 0 ∨ (r2.remaining : Int) < len) :
    decVar env (f+1) tag req (.vec e) old r = (.error .eof, r2) := by
  rw [decVar_vec_eq, readWith_found hs, vecBody, if_pos rfl, hl]
  simp only [checkLength_of_gt hbad]

theorem decVar_arr_toolong {env : Env} {f tag : Nat} {req : Bool} {n : Nat} {e : Ty} {old : Val}
    {r r1 r2 : Reader} {len : Int}
    (hs : skipToNoCheck tag req r = (.ok (true, tyLIST), r1))
    (hl : readLen r1 = (.ok len, r2)) (hbad : len > (n : Int)) :
    decVar env (f+1) tag req (.arr n e) old r = (.error .mismatch, r2) := by
  rw [decVar_arr_eq, readWith_found hs, arrBody, if_pos rfl, hl]
  simp only [if_pos hbad]

/-- Go's "index out of range"; only reachable when the loop is entered with `len > n`, as in
    `AsFound.arrLoop` -/
theorem decArr_overflow (env : Env) (f : Nat) (e : Ty) (n i : Nat) (len : Int) (cur : List Val)
    (r : Reader) (hi : (i : Int) < len) (hn : n ≤ i) (hat : Total.isAtom e = true) :
    decArr env (f+1) e n i len cur r = (.error (.panic "index"), r) := by
  rw [Tars.decArr_succ, if_neg (by omega), if_pos hn]
  unfold arrOverflow
  cases e <;> first | rfl | simp [Total.isAtom] at hat

theorem decArr_step (env : Env) (f : Nat) (e : Ty) (n i : Nat) (len : Int) (cur : List Val)
    {r r1 : Reader} {v : Val} (hi : (i : Int) < len) (hn : i < n)
    (h : decVar env f 0 true e (cur.getD i (zeroOf env e)) r = (.ok v, r1)) :
    decArr env (f+1) e n i len cur r = decArr env f e n (i+1) len (listSet cur i v) r1 := by
  rw [Tars.decArr_succ, if_neg (by omega), if_neg (by omega)]
  simp only [h]

def C05.bs (l : List Nat) : Bytes := l.map byte

/-- `struct V { 0 require vector<int> v; };` -/
def C05.envV : Env := [("V", [⟨0, true, .vec .i32, none⟩])]
/-- `struct A { 0 require int a[3]; };` -/
def C05.envA : Env := [("A", [⟨0, true, .arr 3 .i32, none⟩])]

/-- LIST under tag 0 with length −1 -/
def C05.negLenInput : Bytes := C05.bs [0x09, 0x00, 0xFF]
/-- LIST under tag 0 announcing 4 elements (1, 2, 3, 4) for `int a[3]` -/
def C05.overlongInput : Bytes := C05.bs [0x09, 0x00, 4, 0x00, 1, 0x00, 2, 0x00, 3, 0x00, 4]
/-- LIST under tag 0 announcing 2^31 − 1 elements, then nothing: 6 bytes -/
def C05.hugeLenInput : Bytes := C05.bs [0x09, 0x02, 0x7F, 0xFF, 0xFF, 0xFF]
/-- a valid `vector<int>` of two elements (1, 2) under tag 0 -/
def C05.twoInts : Bytes := C05.bs [0x09, 0x00, 2, 0x00, 1, 0x00, 2]

theorem C05.freshV : freshStruct C05.envV "V" = .struct [.list []] := by
  simp [freshStruct, zeroOf, zeroVal, C05.envV, Env.find]

theorem C05.freshA : freshStruct C05.envA "A" = .struct [.list [.int 0, .int 0, .int 0]] := by
  simp [freshStruct, zeroOf, zeroVal, C05.envA, Env.find, scalarZero, List.replicate]

theorem C05.findV : C05.envV.find "V" = some [⟨0, true, .vec .i32, none⟩] := by
  simp [C05.envV, Env.find]
theorem C05.findA : C05.envA.find "A" = some [⟨0, true, .arr 3 .i32, none⟩] := by
  simp [C05.envA, Env.find]

theorem C05.hugeLen_head : skipToNoCheck 0 true (Reader.mk0 C05.hugeLenInput)
    = (.ok (true, tyLIST), ⟨C05.hugeLenInput.toArray, 1⟩) := by rfl

theorem C05.hugeLen_readLen :
    readLen ⟨C05.hugeLenInput.toArray, 1⟩ = (.ok 2147483647, ⟨C05.hugeLenInput.toArray, 6⟩) := by
  simp [readLen, readHead, readByte, C05.hugeLenInput, C05.bs, bReadU, readFull, takeFrom, beVal, toS,
    extTagRead, tyStructEnd, tyZeroTag, tyBYTE, tySHORT, tyINT]

theorem C05.envV_wf : EnvClosed C05.envV :=
  envClosed_single (fun f hf => by cases List.mem_singleton.mp hf; trivial)
    (fun f hf => by cases List.mem_singleton.mp hf; rfl)

theorem C05.envA_wf : EnvClosed C05.envA :=
  envClosed_single (fun f hf => by cases List.mem_singleton.mp hf; trivial)
    (fun f hf => by cases List.mem_singleton.mp hf; rfl)

open C05 in
theorem C05.twoInts_cost :
    decStructA envV "V" (freshStruct envV "V") (Reader.mk0 twoInts)
      = ((.ok (.struct [.list [.int 1, .int 2]]), ⟨twoInts.toArray, 7⟩), ⟨2, 1⟩) := by
  rw [freshV]
  unfold decStructA
  simp only [findV]
  -- 37 = (1 + 3) · (7 + 2) + 1, as a sum so that the six `fuel + 1` patterns on the way match
  have hF : decFuel envV (Reader.mk0 twoInts) = 31 + 1 + 1 + 1 + 1 + 1 + 1 := by rfl
  rw [hF]
  have hr : resetDefault envV (31 + 1 + 1 + 1 + 1 + 1 + 1) [⟨0, true, .vec .i32, none⟩] [.list []] = [.list []] := by
    simp [resetDefault, zeroOf, zeroVal]
  rw [hr]
  have hs : skipToNoCheck 0 true (Reader.mk0 twoInts) = (.ok (true, tyLIST), ⟨twoInts.toArray, 1⟩) := by rfl
  have hl : readLen ⟨twoInts.toArray, 1⟩ = (.ok 2, ⟨twoInts.toArray, 3⟩) := by rfl
  have hc : checkLength 2 ⟨twoInts.toArray, 3⟩ = (.ok (), ⟨twoInts.toArray, 3⟩) := by rfl
  have hz : zeroOf envV .i32 = .int 0 := by simp [zeroOf, zeroVal, scalarZero]
  have e0 : readScalar .i32 (.int 0) 0 true ⟨twoInts.toArray, 3⟩ = (.ok (.int 1), ⟨twoInts.toArray, 5⟩) := by rfl
  have e1 : readScalar .i32 (.int 0) 0 true ⟨twoInts.toArray, 5⟩ = (.ok (.int 2), ⟨twoInts.toArray, 7⟩) := by rfl
  have a0 : strAlloc 0 true ⟨twoInts.toArray, 3⟩ (.ok (.int 1), ⟨twoInts.toArray, 5⟩) = 0 := by rfl
  have a1 : strAlloc 0 true ⟨twoInts.toArray, 5⟩ (.ok (.int 2), ⟨twoInts.toArray, 7⟩) = 0 := by rfl
  unfold decMembersA
  simp only
  unfold decVarA
  simp only [hs, hl, hc, Bool.not_true, Bool.and_false, Bool.false_eq_true, if_false]
  unfold decElemsA decMembersA
  unfold decVarA decElemsA
  simp only [hz, e0, a0]
  unfold decVarA decElemsA
  simp only [hz, e1, a1]
  rfl

/-- `n` nested StructBegin heads under tag 0 -/
def nestBytes (n : Nat) : Bytes := List.replicate n (byte 0x0A)

theorem readHead_nest (n p : Nat) (h : p < n) :
    readHead ⟨(nestBytes n).toArray, p⟩ = (.ok (tyStructBegin, 0), ⟨(nestBytes n).toArray, p + 1⟩) := by
  have hb : (nestBytes n).toArray[p]? = some (byte 0x0A) := by
    simp [nestBytes, h]
  simp [readHead, readByte, hb, extTagRead, tyStructBegin]

theorem readHead_nest_end (n : Nat) :
    readHead ⟨(nestBytes n).toArray, n⟩ = (.error .eof, ⟨(nestBytes n).toArray, n⟩) := by
  have hb : (nestBytes n).toArray[n]? = none := by simp [nestBytes]
  simp [readHead, readByte, hb]

/-- `2 * k + 1`: one nesting level costs two units of fuel
    (`skipToStructEndD` → `skipFieldD` → `skipToStructEndD`) -/
theorem structEndD_nest (n : Nat) : ∀ (k fuel p : Nat), p + k = n → 2 * k + 1 ≤ fuel →
    skipToStructEndD fuel ⟨(nestBytes n).toArray, p⟩ =
      ((.error .eof, ⟨(nestBytes n).toArray, n⟩), k) := by
  intro k
  induction k with
  | zero =>
    intro fuel p hp hf
    obtain ⟨f', rfl⟩ : ∃ f', fuel = f' + 1 := ⟨fuel - 1, by omega⟩
    have : p = n := by omega
    subst this
    simp only [skipToStructEndD, readHead_nest_end]
  | succ k ih =>
    intro fuel p hp hf
    obtain ⟨f', rfl⟩ : ∃ f', fuel = f' + 2 := ⟨fuel - 2, by omega⟩
    have hlt : p < n := by omega
    have := ih f' (p + 1) (by omega) (by omega)
    simp only [skipToStructEndD, readHead_nest n p hlt, skipFieldD, this]
    simp [tyStructBegin, tyMAP, tyLIST]

/-- **Linear witness (D12)**: on `n` bytes `0x0A` the recursion below `SkipToStructEnd` is `n`
    `skipField` frames deep -/
theorem structEndDepth_nest (n : Nat) : structEndDepth (Reader.mk0 (nestBytes n)) = n := by
  unfold structEndDepth Reader.mk0
  rw [structEndD_nest n n _ 0 (by omega) (by simp [Reader.fuel, nestBytes])]

theorem skipDepth_nest (n : Nat) : skipDepth tyStructBegin (Reader.mk0 (nestBytes n)) = n + 1 := by
  unfold skipDepth Reader.mk0
  rw [Reader.fuel_succ]
  simp only [skipFieldD]
  rw [structEndD_nest n n _ 0 (by omega) (by simp [nestBytes])]
  simp [tyStructBegin, tyMAP, tyLIST]

end Tars
