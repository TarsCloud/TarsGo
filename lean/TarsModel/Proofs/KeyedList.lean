/-
  Lists whose elements are identified by a key: the endpoint lists of the selectors (key = `HashKey()`,
  the host).  Every selector keeps such a list in insertion order: `addLocked` refuses a key that is
  present, `Refresh` folds `addLocked` over its argument, `Remove` deletes the first element with the
  key — the only one, keys being distinct.  Core Lean only.
-/
import TarsModel.Proofs.ListAux

namespace Tars.Keyed

section
variable {α κ : Type} {key : α → κ} {s l : List α} {a : α} {k : κ}

theorem nodup_append_one (hnd : (s.map key).Nodup) (h : key a ∉ s.map key) : ((s ++ [a]).map key).Nodup := by
  rw [List.map_append]; exact nodup_concat hnd h

theorem nodup_filter {p : α → Bool} (hnd : (l.map key).Nodup) : ((l.filter p).map key).Nodup :=
  hnd.sublist (List.filter_sublist.map _)

theorem eq_of_key_eq (hnd : (s.map key).Nodup) {a b : α} (ha : a ∈ s) (hb : b ∈ s) (h : key a = key b) : a = b := by
  rw [List.Nodup, List.pairwise_map] at hnd
  exact List.Pairwise.forall_of_forall_of_flip (R := fun a b => key a = key b → a = b) (fun _ _ _ => rfl)
    (hnd.imp fun hne e => absurd e hne) (hnd.imp fun hne e => absurd e.symm hne) ha hb h

variable [BEq κ] [LawfulBEq κ]

theorem eq_eraseP [DecidableEq κ] {f : List α → List α} (hnil : f [] = [])
    (hcons : ∀ a l, f (a :: l) = if key a = k then l else a :: f l) (l : List α) :
    f l = l.eraseP (fun a => key a == k) := by
  induction l with
  | nil => exact hnil
  | cons a l ih => simp only [hcons, ih, List.eraseP_cons, cond_eq_ite, beq_iff_eq]

theorem eraseP_eq_filter (hnd : (l.map key).Nodup) :
    l.eraseP (fun a => key a == k) = l.filter (fun a => key a != k) := by
  induction l with
  | nil => rfl
  | cons a l ih =>
    rw [List.map_cons, List.nodup_cons] at hnd
    by_cases h : key a = k
    · rw [List.eraseP_cons_of_pos (p := (key · == k)) (beq_iff_eq.2 h), List.filter_cons_of_neg (by simp [h])]
      exact (List.filter_eq_self.2 fun b hb => bne_iff_ne.2 fun e =>
        hnd.1 (h.trans e.symm ▸ List.mem_map_of_mem hb)).symm
    · rw [List.eraseP_cons_of_neg (p := (key · == k)) (by simpa using h), List.filter_cons_of_pos (by simpa using h),
        ih hnd.2]

theorem mem_keys_filter_ne {k' : κ} :
    k' ∈ (l.filter fun a => key a != k).map key ↔ k' ∈ l.map key ∧ k' ≠ k := by
  simp only [List.mem_map, List.mem_filter, bne_iff_ne]
  exact ⟨fun ⟨a, ⟨ha, hne⟩, e⟩ => ⟨⟨a, ha, e⟩, e ▸ hne⟩, fun ⟨⟨a, ha, e⟩, hne⟩ => ⟨a, ⟨ha, e ▸ hne⟩, e⟩⟩

end

variable {α κ : Type} [DecidableEq κ] (key : α → κ)

/-- `addLocked` with its error ignored -/
def install (s : List α) (a : α) : List α := if key a ∈ s.map key then s else s ++ [a]

variable {key} {s l : List α} {a x : α} {k : κ}

theorem mem_install : x ∈ install key s a ↔ x ∈ s ∨ (x = a ∧ key a ∉ s.map key) := by
  rw [install]; split
  · next h => exact ⟨Or.inl, fun h' => h'.elim id fun h' => absurd h h'.2⟩
  · next h => rw [List.mem_append, List.mem_singleton]; exact or_congr_right ⟨fun e => ⟨e, h⟩, And.left⟩

theorem mem_keys_install : k ∈ (install key s a).map key ↔ k ∈ s.map key ∨ k = key a := by
  rw [install]; split
  · next h => exact ⟨Or.inl, fun h' => h'.elim id (· ▸ h)⟩
  · rw [List.map_append, List.mem_append, List.map_singleton, List.mem_singleton]

theorem mem_keys_foldl_install : k ∈ (l.foldl (install key) s).map key ↔ k ∈ s.map key ∨ k ∈ l.map key := by
  induction l generalizing s with
  | nil => simp
  | cons a l ih => rw [List.foldl_cons, ih, mem_keys_install, List.map_cons, List.mem_cons, or_assoc]

theorem nodup_install (hnd : (s.map key).Nodup) : ((install key s a).map key).Nodup := by
  rw [install]; split
  · exact hnd
  · next h => exact nodup_append_one hnd h

theorem nodup_foldl_install (hnd : (s.map key).Nodup) : ((l.foldl (install key) s).map key).Nodup :=
  List.foldlRecOn (motive := fun s : List α => (s.map key).Nodup) l _ hnd fun _ h _ _ => nodup_install h

theorem foldl_install_of_nodup (hnd : ((s ++ l).map key).Nodup) : l.foldl (install key) s = s ++ l := by
  induction l generalizing s with
  | nil => simp
  | cons a l ih =>
    have hnot : key a ∉ s.map key := fun hin =>
      (List.nodup_append.1 (List.map_append ▸ hnd)).2.2 _ hin _ (by simp) rfl
    rw [List.foldl_cons, install, if_neg hnot, ih (by simpa using hnd), List.append_assoc, List.singleton_append]

end Tars.Keyed
