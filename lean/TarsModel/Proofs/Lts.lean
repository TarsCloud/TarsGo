import TarsModel.Proofs.ListAux

/-! Labelled transition systems given by a partial step function. Runs: the `run` functions of the models
(`ServerConn.runFrom`, `Pool.run`, `Call.trun`, …) satisfy the two equations of `IsRun`. Searches: the
`admits` functions of the models decide by a subset construction over the internal steps whether an
observed history is the visible history of a run; `IsSearch` holds their defining equations and
`IsSearch.sound` says that what they accept is one. -/
namespace Tars

/-- A concrete run `o` is evaluated once (`h` by `rfl`); what is claimed of its end may use the equation,
e.g. to know that the end is reachable. -/
theorem exists_of_eq_some {α} {o : Option α} {a : α} {P : α → Prop} (h : o = some a) (hP : o = some a → P a) :
    ∃ a, o = some a ∧ P a := ⟨a, h, hP h⟩

namespace Lts

variable {σ α : Type}

structure IsRun (step : σ → α → Option σ) (run : σ → List α → Option σ) : Prop where
  nil : ∀ s, run s [] = some s
  cons : ∀ s a as, run s (a :: as) = (step s a).bind fun s' => run s' as

namespace IsRun

variable {step : σ → α → Option σ} {run : σ → List α → Option σ} (R : IsRun step run)
include R

theorem cons_eq_some {s s' : σ} {a : α} {as : List α} :
    run s (a :: as) = some s' ↔ ∃ s1, step s a = some s1 ∧ run s1 as = some s' := by
  rw [R.cons, Option.bind_eq_some_iff]

/-- Induction along a run; the motive sees the rest of the schedule, so that side conditions on
the schedule (`ClientConn.TimelyFrom`) travel with the invariant. -/
theorem induct {P : σ → List α → Prop}
    (hstep : ∀ {s a as s'}, P s (a :: as) → step s a = some s' → P s' as) :
    ∀ (as : List α) {s s' : σ}, P s as → run s as = some s' → P s' []
  | [], s, s', hp, h => by cases (R.nil s).symm.trans h; exact hp
  | a :: as, s, s', hp, h => by
    obtain ⟨s1, hs, h⟩ := R.cons_eq_some.1 h
    exact induct hstep as (hstep hp hs) h

theorem inv {P : σ → Prop} (hstep : ∀ {s a s'}, P s → step s a = some s' → P s')
    {as : List α} {s s' : σ} (hp : P s) (h : run s as = some s') : P s' :=
  R.induct (P := fun s _ => P s) (fun hp hs => hstep hp hs) as hp h

theorem append_eq_some {as bs : List α} {s s' : σ} :
    run s (as ++ bs) = some s' ↔ ∃ m, run s as = some m ∧ run m bs = some s' := by
  induction as generalizing s with
  | nil => simp [R.nil]
  | cons a as ih =>
    simp only [List.cons_append, R.cons_eq_some, ih]
    exact ⟨fun ⟨s1, hs, m, h1, h2⟩ => ⟨m, ⟨s1, hs, h1⟩, h2⟩, fun ⟨m, ⟨s1, hs, h1⟩, h2⟩ => ⟨s1, hs, m, h1, h2⟩⟩

end IsRun

section Search
variable {σ ε : Type} {succ : σ → List σ} {fire : σ → ε → List σ} {ins : List σ → σ → List σ}
  {keep : List σ → σ → Bool} {fuelOf : List σ → Nat} {limit : Nat}
  {closure : Nat → List σ → List σ → List σ}
  {admitsFrom : List σ → List ε → Nat → Nat → Except (Nat × Nat) (List σ × Nat)}

/-- `closure fuel frontier seen` adds to `seen`, breadth first and for at most `fuel` rounds, the
internal successors `succ` of the frontier that `keep seen` lets through; `admitsFrom ss h i mx` closes
the state set `ss`, gives up when the closure exceeds `limit`, moves every state of it by the next event
of `h` (`fire`), fails when no state can, and goes on with the rest of `h`. -/
structure IsSearch (succ : σ → List σ) (fire : σ → ε → List σ) (ins : List σ → σ → List σ)
    (keep : List σ → σ → Bool) (fuelOf : List σ → Nat) (limit : Nat)
    (closure : Nat → List σ → List σ → List σ)
    (admitsFrom : List σ → List ε → Nat → Nat → Except (Nat × Nat) (List σ × Nat)) : Prop where
  mem_ins : ∀ {acc a x}, x ∈ ins acc a → x ∈ acc ∨ x = a
  zero : ∀ frontier seen, closure 0 frontier seen = seen
  nil : ∀ fuel seen, closure (fuel + 1) [] seen = seen
  cons : ∀ fuel f fs seen, closure (fuel + 1) (f :: fs) seen =
    let fresh := ((f :: fs).foldl (fun acc s => (succ s).foldl ins acc) []).filter (keep seen)
    closure fuel fresh (fresh ++ seen)
  done : ∀ ss i mx, admitsFrom ss [] i mx = .ok (ss, mx)
  event : ∀ ss ev rest i mx, admitsFrom ss (ev :: rest) i mx =
    let cl := closure (fuelOf ss) ss ss
    if cl.length > limit then .error (i, cl.length)
    else
      let nxt := cl.foldl (fun acc s => (fire s ev).foldl ins acc) []
      if nxt.isEmpty then .error (i, 0) else admitsFrom nxt rest (i + 1) (max mx cl.length)

namespace IsSearch
variable (S : IsSearch succ fire ins keep fuelOf limit closure admitsFrom)
include S

theorem mem_round {f : σ → List σ} {l : List σ} {x : σ}
    (h : x ∈ l.foldl (fun acc s => (f s).foldl ins acc) []) : ∃ s ∈ l, x ∈ f s :=
  (mem_foldl (P := fun s x => x ∈ f s) (mem_foldl_insert S.mem_ins) h).resolve_left List.not_mem_nil

theorem closure_inv {P : σ → Prop} (hP : ∀ {s x}, P s → x ∈ succ s → P x) :
    ∀ (fuel : Nat) (frontier seen : List σ), (∀ x ∈ frontier, P x) → (∀ x ∈ seen, P x) →
      ∀ x ∈ closure fuel frontier seen, P x
  | 0, frontier, seen, _, hs, x, hx => hs x (S.zero frontier seen ▸ hx)
  | fuel + 1, [], seen, _, hs, x, hx => hs x (S.nil fuel seen ▸ hx)
  | fuel + 1, f :: fs, seen, hf, hs, x, hx => by
    rw [S.cons] at hx
    have hfresh : ∀ y ∈ ((f :: fs).foldl (fun acc s => (succ s).foldl ins acc) []).filter (keep seen), P y :=
      fun y hy => let ⟨s, hsf, hys⟩ := S.mem_round (List.mem_filter.mp hy).1; hP (hf s hsf) hys
    exact closure_inv hP fuel _ _ hfresh (fun y hy => (List.mem_append.mp hy).elim (hfresh y) (hs y)) x hx

/-- Soundness of the search. `Q s h` stands for "from `s` the system has a run with visible history
`h`"; it is asked to hold of the empty history, to go back along an internal step and along a visible
one. The closure is followed backwards: `Q · h` of a state of the closure gives `Q · h` of some state
it was closed from, by `closure_inv` for the predicate that says just this. -/
theorem sound {Q : σ → List ε → Prop} (nil : ∀ s, Q s [])
    (tau : ∀ {s x h}, x ∈ succ s → Q x h → Q s h)
    (vis : ∀ {s x ev h}, x ∈ fire s ev → Q x h → Q s (ev :: h)) :
    ∀ (h : List ε) (ss : List σ) {r : List σ × Nat} {i mx : Nat}, ss ≠ [] →
      admitsFrom ss h i mx = .ok r → ∃ x ∈ ss, Q x h
  | [], ss, _, _, _, hne, _ => let ⟨x, hx⟩ := List.exists_mem_of_ne_nil ss hne; ⟨x, hx, nil x⟩
  | ev :: rest, ss, r, i, mx, _, hok => by
    rw [S.event] at hok
    dsimp only at hok
    split at hok
    · contradiction
    · split at hok
      · contradiction
      · next hne =>
        obtain ⟨y, hy, hq⟩ := sound nil tau vis rest _ (by simpa using hne) hok
        obtain ⟨c, hc, hf⟩ := S.mem_round hy
        exact S.closure_inv (P := fun c => ∀ h, Q c h → ∃ x ∈ ss, Q x h) (fun hp hx h hq => hp h (tau hx hq))
          _ ss ss (fun x hx h hq => ⟨x, hx, hq⟩) (fun x hx h hq => ⟨x, hx, hq⟩) c hc _ (vis hf hq)

end IsSearch
end Search

end Lts
end Tars
