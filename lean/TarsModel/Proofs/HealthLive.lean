/-
  What one run of `checkStatus` achieves: a failing endpoint is taken out of the rotation, and a
  blocked, connectable endpoint that is not waiting in the probe queue is queued once `tryTimeInterval`
  seconds have passed since its `lastBlockTime`.
-/
import TarsModel.Proofs.HealthTime

namespace Tars.Health
open Tars

theorem checkOne_blocks (conn : List Nat) {s : Mgr} {x : Nat} (hh : s.has x = true) (hc : (s.recs x).closed = false)
    (hs : (s.recs x).status = true) (ht : (Consts.healthFailInterval : Int) ≤ s.now - (s.recs x).lastSuccessTime)
    (hf : (Consts.healthFainN : Int) ≤ (s.recs x).lastFailCount) :
    checkOne conn s x = takeOut (setRec s x { s.recs x with status := false, lastBlockTime := s.now }) x := by
  unfold checkOne
  rw [if_pos hh, checkActive_live _ _ _ hc hs ht hf]
  rfl

theorem checkStatus_blocks (conn : List Nat) {s : Mgr} (h : InvA s) (ep : Nat)
    (ht : (Consts.healthFailInterval : Int) ≤ s.now - (s.recs ep).lastSuccessTime)
    (hf : (Consts.healthFainN : Int) ≤ (s.recs ep).lastFailCount) :
    ep ∉ (checkStatus conn s).sel ∧ ((checkStatus conn s).recs ep).status = false := by
  have hh : s.has ep = true := h.has_of_ne_fresh fun e => by
    rw [e] at hf
    simp only [Rec.fresh] at hf
    have := fainN_ge_two
    omega
  have hst : ((checkStatus conn s).recs ep).status = false := by
    refine checkStatus_visit (Q := fun m => (m.recs ep).status = false) conn (h.hasReg ep hh) (fun m ehas enow erec _ => ?_)
      (checkOne_status_false conn ep)
    cases hst : (m.recs ep).status
    · exact checkOne_status_false conn ep m ep hst
    · rw [checkOne_blocks conn (ehas ▸ hh) (erec ▸ h.closed ep) hst (enow ▸ erec ▸ ht) (erec ▸ hf)]
      exact congrArg Rec.status (upd_same ..)
  exact ⟨(invA_step h (.checkStatus conn)).blockedOut ep hst, hst⟩

theorem checkOne_queue_mono (conn : List Nat) (ep : Nat) (s : Mgr) (x : Nat) (h : ep ∈ s.queue) :
    ep ∈ (checkOne conn s x).queue := by
  obtain ⟨_, _, _, _, e | e⟩ := checkOne_frame conn s x <;> rw [e]
  · exact h
  · exact List.mem_append.mpr (Or.inl h)

theorem checkOne_queues (conn : List Nat) (s : Mgr) (ep : Nat) (hh : s.has ep = true)
    (hc : (s.recs ep).closed = false) (hs : (s.recs ep).status = false) (hconn : conn.contains ep = true)
    (ht : (Consts.healthTryTimeInterval : Int) ≤ s.now - (s.recs ep).lastBlockTime) (hp : ep ∉ s.pend) :
    ep ∈ (checkOne conn s ep).queue := by
  unfold checkOne
  rw [if_pos hh, hconn, checkActive_due _ _ hc hs ht]
  show ep ∈ (if (true && !s.pend.contains ep) = true then enqueue _ ep else _).queue
  rw [if_pos (by simp [hp])]
  exact List.mem_append.mpr (.inr (List.mem_singleton.mpr rfl))

theorem checkStatus_queues (conn : List Nat) {s : Mgr} (hA : InvA s) (hT : InvT s) (ep : Nat)
    (hs : (s.recs ep).status = false) (hconn : conn.contains ep = true)
    (ht : (Consts.healthTryTimeInterval : Int) ≤ s.now - (s.recs ep).lastBlockTime) :
    ep ∈ (checkStatus conn s).queue := by
  have hh : s.has ep = true := hA.has_of_ne_fresh fun e => by rw [e] at hs; cases hs
  by_cases hq : ep ∈ s.queue
  · exact checkStatus_induct (P := fun m => ep ∈ m.queue) conn (checkOne_queue_mono conn ep) hq
  · exact checkStatus_visit (Q := fun m => ep ∈ m.queue) conn (hA.hasReg ep hh)
      (fun m ehas enow erec hpend => checkOne_queues conn m ep (ehas ▸ hh) (erec ▸ hA.closed ep) (erec ▸ hs) hconn
        (enow ▸ erec ▸ ht) (hpend fun hp => hq (hT.pq.mem_iff.mp hp)))
      (checkOne_queue_mono conn ep)

end Tars.Health
