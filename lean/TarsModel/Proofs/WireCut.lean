import TarsModel.Proofs.Skip

/-!
  Wire level: a reader program on an input that ends inside the bytes it was written for.
  `Reads m E a` (`Proofs/Wire.lean`) says what `m` does on the complete bytes `E` (whatever follows),
  `Fails m E` that it reports an error on every proper prefix of `E` with nothing behind it.
  `Cut.append` decides in which part of `A ++ B` the input ends; `cut_seq` reads it for a program
  that handles `A`, and a field is a chain of such steps.  A head can be cut in the middle only when its tag is extended:
  `HalfHead`, on which `SkipToNoCheck` behaves as at the end of the input.  The integer switches
  are treated once, on the narrowest integer field `intField`.
-/
namespace Tars
open Consts WFField Skip

/-! ### where a prefix of `a ++ b` ends -/

theorem split_prefix {α : Type} {q s a b : List α} (h : q ++ s = a ++ b) :
    (∃ a', a' ≠ [] ∧ a = q ++ a') ∨ (∃ q', q = a ++ q' ∧ q' ++ s = b) := by
  rcases List.append_eq_append_iff.mp h with ⟨a', h1, h2⟩ | ⟨c', h1, h2⟩
  · by_cases ha : a' = []
    · subst ha; exact .inr ⟨[], by simpa using h1.symm, by simpa using h2⟩
    · exact .inl ⟨a', ha, h1⟩
  · exact .inr ⟨c', h1, h2.symm⟩

def Cut (q E : Bytes) : Prop := q <+: E ∧ q.length < E.length

theorem prefix_append_cases (p a b : Bytes) (h : p <+: a ++ b) :
    (∃ p', p = a ++ p' ∧ p' <+: b) ∨ Cut p a := by
  obtain ⟨t, ht⟩ := h
  rcases split_prefix ht with ⟨a', ha, rfl⟩ | ⟨p', rfl, h2⟩
  · exact .inr ⟨List.prefix_append p a', by have := List.length_pos_iff.mpr ha; simp; omega⟩
  · exact .inl ⟨p', rfl, ⟨t, h2⟩⟩

/-- a one-byte head (tag below 15) is not cut: a non-empty prefix contains it -/
theorem split_head {q s b : Bytes} {ty tag : Nat} (htag : tag < 15)
    (h : q ++ s = writeHead ty tag ++ b) (hq : q ≠ []) : ∃ q', q = writeHead ty tag ++ q' ∧ q' ++ s = b := by
  rcases split_prefix h with ⟨a, ha, h1⟩ | h'
  · have := congrArg List.length h1
    have := List.length_pos_iff.mpr ha
    have := List.length_pos_iff.mpr hq
    simp only [writeHead, if_pos htag, List.length_append, List.length_singleton] at *
    omega
  · exact h'

/-! ### heads at the end of the input -/

/-- `q` is the first byte of a head with an extended tag (tag ≥ 15), and nothing else -/
def HalfHead (q : Bytes) : Prop := ∃ b : Byte, q = [b] ∧ b.val / 16 = 15

theorem readHead_half {r : Reader} {b : Byte} (h : r.rest = [b]) (hb : b.val / 16 = 15) :
    readHead r = (.error .eof, r.adv 1) := by
  rw [readHead_eq, h]
  exact if_pos hb

/-- no complete head is left — nothing, or the first byte of a two-byte head, on which `readHead`
    fails as it does at the end: `SkipToNoCheck` reports "not there", and the input is used up -/
theorem skipToNoCheck_no_head {r : Reader} {q : Bytes} (tag : Nat) (req : Bool) (h : r.rest = q)
    (hq : q = [] ∨ HalfHead q) :
    ∃ r', r'.rest = [] ∧
      skipToNoCheck tag req r = if req then (.error .require, r') else (.ok (false, 0), r') := by
  rcases hq with rfl | ⟨b, rfl, hb⟩
  · exact ⟨r, h, skipToNoCheck_nil r tag req h⟩
  · refine ⟨r.adv 1, by simpa using r.rest_adv (bs := [b]) (t := []) (by simpa using h), ?_⟩
    unfold skipToNoCheck
    rw [Reader.fuel_succ]
    cases req <;> simp [skipToNoCheckF, readHead_half h hb]

theorem halfHead_of_cut {ty tag : Nat} {p : Bytes} (h16 : ty < 16) (h : Cut p (writeHead ty tag)) :
    p = [] ∨ HalfHead p := by
  obtain ⟨hpre, hlt⟩ := h
  unfold writeHead at hlt hpre
  by_cases ht : tag < extTagThreshold
  · rw [if_pos ht] at hlt
    cases p with
    | nil => exact .inl rfl
    | cons x xs => simp at hlt
  · rw [if_neg ht] at hlt hpre
    obtain ⟨t, ht2⟩ := hpre
    cases p with
    | nil => exact .inl rfl
    | cons x xs =>
      cases xs with
      | cons y ys => simp at hlt; omega
      | nil =>
        simp only [List.cons_append, List.nil_append, List.cons.injEq] at ht2
        refine .inr ⟨x, rfl, ?_⟩
        rw [ht2.1]; simp only [byte_val, extTagMarker]; omega

theorem head_not_half {ty tag : Nat} {rest : Bytes} {b : Byte} (h16 : ty < 16)
    (h : [b] = writeHead ty tag ++ rest) : b.val / 16 ≠ 15 := by
  unfold writeHead at h
  split at h
  · rename_i ht
    simp only [List.cons_append, List.nil_append, List.cons.injEq] at h
    rw [h.1, byte_val]; simp only [extTagThreshold] at ht; omega
  · simp at h

/-! ### a program on an input that ends too early -/

theorem Cut.append {q A B : Bytes} (h : Cut q (A ++ B)) : Cut q A ∨ ∃ q', q = A ++ q' ∧ Cut q' B := by
  rcases prefix_append_cases q A B h.1 with ⟨q', rfl, hp⟩ | hc
  · exact .inr ⟨q', rfl, hp, by have := h.2; simp only [List.length_append] at this; omega⟩
  · exact .inl hc

theorem Cut.not_nil {q : Bytes} : ¬ Cut q [] := fun h => Nat.not_lt_zero _ h.2

theorem Cut.of_append {q a E : Bytes} (h : E = q ++ a) (ha : a ≠ []) : Cut q E :=
  ⟨⟨a, h.symm⟩, by rw [h]; have := List.length_pos_iff.mpr ha; simp only [List.length_append]; omega⟩

theorem Cut.nil_of_one {q E : Bytes} (h : Cut q E) (h1 : E.length = 1) : q = [] :=
  List.length_eq_zero_iff.mp (by have := h.2; omega)

/-- an optional value that may be left out is written as nothing or as its field: a proper prefix
    is one of the field -/
theorem Cut.of_ite {c : Prop} [Decidable c] {q E : Bytes} (h : Cut q (if c then [] else E)) : Cut q E := by
  split at h
  · exact absurd h Cut.not_nil
  · exact h

def Fails {α : Type} (m : RM α) (E : Bytes) : Prop :=
  ∀ (r : Reader) (q : Bytes), r.rest = q → Cut q E → ∃ e r', m r = (.error e, r')

theorem cut_seq {α : Type} {m : RM α} {A B q : Bytes} {a : α} {r : Reader} (hR : Reads m A a)
    (hF : Fails m A) (hr : r.rest = q) (hq : Cut q (A ++ B)) :
    (∃ e r', m r = (.error e, r')) ∨
    ∃ q', q = A ++ q' ∧ m r = (.ok a, r.adv A.length) ∧ (r.adv A.length).rest = q' ∧ Cut q' B := by
  rcases hq.append with h | ⟨q', rfl, h⟩
  · exact .inl (hF r q hr h)
  · exact .inr ⟨q', rfl, hR r q' hr, r.rest_adv hr, h⟩

theorem Fails.map {α β : Type} {m : RM α} {E : Bytes} (h : Fails m E) (f : α → β) :
    Fails (fun r => mapRes f (m r)) E := fun r q hr hq => by
  obtain ⟨e, r', he⟩ := h r q hr hq
  exact ⟨e, r', by simp only [he, mapRes]⟩

/-! ### the primitives -/

theorem bReadU_fails (n x : Nat) : Fails (bReadU n) (be n x) := fun r q hr hq => by
  have hl : r.rest.length < n := by rw [hr]; simpa using hq.2
  exact ⟨.eof, _, by rw [bReadU_eq, readFull_eq, if_neg (by omega), if_pos hl]; rfl⟩

theorem nextExact_fails (s : Bytes) : Fails (nextExact s.length) s := fun r q hr hq =>
  ⟨.eof, _, by rw [nextExact_eq, if_pos (by rw [hr]; exact hq.2)]⟩

theorem skipTo_head_fails (ty : Nat) : Fails (skipTo ty 0 true) (writeHead ty 0) := fun r q hr hq => by
  cases hq.nil_of_one rfl
  exact ⟨.require, r, by simp [skipTo, skipToNoCheck_nil r 0 true hr]⟩

theorem readSlice8_fails (old bs : Bytes) : Fails (readSlice8 old bs.length) bs := fun r q hr hq => by
  have hl := hq.2
  unfold readSlice8
  rw [if_neg (by omega), checkLength_eq, hr, if_neg (by omega)]
  exact ⟨_, _, rfl⟩

/-! ### the switches of the scalar readers behind the head -/

/-- a proper prefix of a payload: the payload is not empty, so the switch is a `bReadU` -/
theorem fixedBody_fails {α : Type} {width : Nat → Option Nat} {zero : α} {conv : Nat → Nat → α}
    {ty w : Nat} (hw : width ty = some w) (x : Nat) : Fails (fixedBody width zero conv ty) (be w x) :=
  fun r q hr hq => by
    have hl : q.length < w := by simpa using hq.2
    rw [fixedBody_of_width hw, if_neg (by omega)]
    exact (bReadU_fails w x).map (conv w) r q hr hq

theorem strBody_fails {ty w : Nat} (hw : strLenWidth ty = some w) (s : Bytes) (hs : s.length < 256 ^ w) :
    Fails (strBody ty) (be w s.length ++ s) := fun r q hr hq => by
  simp only [strBody_eq, hw]
  rcases cut_seq (bReadU_reads w s.length hs) (bReadU_fails w s.length) hr hq
    with ⟨e, r', h⟩ | ⟨q', _, h, hr', hq'⟩
  · exact ⟨e, r', by simp only [h]⟩
  · simp only [h]
    exact nextExact_fails s _ q' hr' hq'

theorem intBody_fails {maxw : Nat} (tag : Nat) (i : Int) (hw : minWidth i ≤ maxw) :
    Fails (intBody maxw (intField tag i).ty) (intField tag i).body := by
  rw [(intField_ty_body tag i).1, (intField_ty_body tag i).2, intBody_eq]
  exact fixedBody_fails (intWidth_minWidth i hw) _

/-! ### a field behind its head, a length prefix -/

/-- a field read through `readWith` (one-byte head): without the head a required field is missing,
    behind the head the switch is on its own -/
theorem readWith_cut {α : Type} {old : α} {tag ty : Nat} {req : Bool} {body : Nat → RM α} {B q : Bytes}
    {r : Reader} (h16 : ty < 16) (hne : ty ≠ tyStructEnd) (htag : tag < 15) (hB : Fails (body ty) B)
    (hr : r.rest = q) (hq : Cut q (writeHead ty tag ++ B)) (h0 : q = [] → req = true) :
    ∃ e r', readWith old tag req body r = (.error e, r') := by
  rcases hq.append with h | ⟨q', rfl, h⟩
  · cases h.nil_of_one (by simp [writeHead, extTagThreshold, htag])
    cases h0 rfl
    exact ⟨.require, r, by unfold readWith; rw [skipToNoCheck_nil r tag true hr]; rfl⟩
  · rw [readWith_hit old body r ty tag req q' h16 hne (by omega) hr]
    exact hB _ q' (r.rest_adv hr) h

theorem readInt32_len_fails {n : Nat} (hn : n < 2 ^ 31) (old : Int) :
    Fails (readInt32 old 0 true) (lenField n) := fun r q hr hq => by
  rw [lenField_eq_render n hn, render, intField_tag] at hq
  rw [readInt32_body]
  exact readWith_cut (ty_lt _) (ty_ne_structEnd _) (by decide)
    (intBody_fails 0 n (minWidth_le_four (by omega))) hr hq fun _ => rfl

theorem readLen_fails {n : Nat} (hn : n < 2 ^ 31) : Fails readLen (writeInt32 (wrapS 32 n) 0) :=
  fun r q hr hq => by
    rw [readLen_eq 0 r]; exact readInt32_len_fails hn 0 r q hr (lenField_eq n hn ▸ hq)

end Tars
