/-
  The pieces the config-parser model (C17) is made of: `strings.Trim`, the split at the first
  separator, the association-list map, induction over documents.
-/
import TarsModel.Model.Conf

namespace Tars.Conf
open Tars

/-! ## trim -/

theorem dropWhile_append_stop {α : Type} (p : α → Bool) (x : List α) (c : α) (y : List α) (hc : p c = false) :
    (x ++ c :: y).dropWhile p = x.dropWhile p ++ c :: y := by
  induction x with
  | nil => exact List.dropWhile_cons_of_neg (by simp [hc])
  | cons a x ih =>
    rw [List.cons_append, List.dropWhile_cons, List.dropWhile_cons, ih]
    split <;> rfl

def allIn (cut : Txt) (w : Txt) : Prop := ∀ b ∈ w, inSet cut b = true

theorem allIn_append {cut a b : Txt} (ha : allIn cut a) (hb : allIn cut b) : allIn cut (a ++ b) :=
  fun x hx => (List.mem_append.mp hx).elim (ha x) (hb x)

theorem allIn_nil (cut : Txt) : allIn cut [] := nofun

theorem trimRight_stop {cut : Txt} {c : Byte} (a t : Txt) (hc : inSet cut c = false) :
    trimRight cut (a ++ c :: t) = a ++ c :: trimRight cut t := by
  simp only [trimRight, List.reverse_append, List.reverse_cons, List.append_assoc, List.singleton_append,
    dropWhile_append_stop _ _ _ _ hc, List.reverse_reverse]

theorem trimRight_allIn {cut w : Txt} (h : allIn cut w) : trimRight cut w = [] := by
  have := List.dropWhile_append_of_pos (l₂ := []) fun b hb => h b (List.mem_reverse.mp hb)
  rw [List.append_nil] at this
  rw [trimRight, this]; rfl

theorem trim_allIn {cut w : Txt} (h : allIn cut w) : trim cut w = [] := by
  rw [trim, trimRight_allIn h]; rfl

theorem trimLeft_stop {cut w s : Txt} (hw : allIn cut w) (hs : ∀ c, s.head? = some c → inSet cut c = false) :
    trimLeft cut (w ++ s) = s := by
  rw [trimLeft, List.dropWhile_append_of_pos hw]
  cases s with
  | nil => rfl
  | cons c t => exact List.dropWhile_cons_of_neg (by simp [hs c rfl])

theorem noEdge_iff (cut t : Txt) :
    noEdge cut t = true ↔
      (∀ c, t.head? = some c → inSet cut c = false) ∧ (∀ z, t.getLast? = some z → inSet cut z = false) := by
  unfold noEdge
  rw [List.getLast?_eq_head?_reverse]
  cases t with
  | nil => simp
  | cons c t =>
    cases hr : (c :: t).reverse with
    | nil => simp at hr
    | cons z r => simp

theorem trim_core' (cut w1 core w2 : Txt) (h1 : allIn cut w1) (h2 : allIn cut w2)
    (he : noEdge cut core = true) : trim cut (w1 ++ core ++ w2) = core := by
  obtain ⟨hh, hl⟩ := (noEdge_iff cut core).mp he
  rcases List.eq_nil_or_concat core with rfl | ⟨t, z, rfl⟩
  · rw [List.append_nil]; exact trim_allIn (allIn_append h1 h2)
  · rw [List.concat_eq_append] at hh hl ⊢
    have e : w1 ++ (t ++ [z]) ++ w2 = (w1 ++ t) ++ z :: w2 := by simp
    rw [trim, e, trimRight_stop _ _ (hl z List.getLast?_concat), trimRight_allIn h2, List.append_assoc]
    exact trimLeft_stop h1 hh

theorem noEdge_append {cut a b : Txt} (m : Txt) (ha : a ≠ []) (hb : b ≠ []) (hae : noEdge cut a = true)
    (hbe : noEdge cut b = true) : noEdge cut (a ++ m ++ b) = true := by
  rw [noEdge_iff] at hae hbe ⊢
  refine ⟨fun c hc => hae.1 c ?_, fun z hz => hbe.2 z ?_⟩
  · cases a with
    | nil => exact absurd rfl ha
    | cons x a => exact hc
  · rcases List.eq_nil_or_concat b with rfl | ⟨t, y, rfl⟩
    · exact absurd rfl hb
    · rw [List.concat_eq_append, ← List.append_assoc, List.getLast?_concat] at hz
      rw [List.concat_eq_append, List.getLast?_concat]; exact hz

/-! ## character facts (depend on the regenerated constants) -/

theorem isWs_allIn {w : Txt} (h : isWs w = true) : allIn trimSet w := by
  intro b hb
  have := List.all_eq_true.mp h b hb
  have hb2 : b = byte 32 ∨ b = byte 9 := by simpa [inSet, blankSet] using this
  rcases hb2 with h | h <;> subst h <;> decide

theorem isWs_no {w : Txt} (h : isWs w = true) {c : Byte} (hc : inSet blankSet c = false) : c ∉ w :=
  fun hm => Bool.false_ne_true (hc ▸ List.all_eq_true.mp h c hm)

theorem not_contains {t : Txt} {c : Byte} (h : (!t.contains c) = true) : c ∉ t := by
  simpa using h

theorem hash_notin_trim : inSet trimSet hashCh = false := by decide
theorem nl_in_trim : inSet trimSet nlCh = true := by decide

theorem inSet_false_iff (t : Txt) (c : Byte) : inSet t c = false ↔ c ∉ t := by
  simp [inSet]

/-! ## split at the first separator -/

theorem span_first (a rest : Txt) (c : Byte) (h : c ∉ a) (hr : rest = [] ∨ rest.head? = some c) :
    ((a ++ rest).takeWhile (fun b => b != c), (a ++ rest).dropWhile (fun b => b != c)) = (a, rest) := by
  have hp : ∀ b ∈ a, (b != c) = true := fun b hb => bne_iff_ne.mpr fun e => h (e ▸ hb)
  rw [List.takeWhile_append_of_pos hp, List.dropWhile_append_of_pos hp]
  cases rest with
  | nil => simp
  | cons x r => cases hr.resolve_left (List.cons_ne_nil x r); simp

/-! ## association lists -/

theorem assocFind_set_same {α : Type} (m : List (Txt × α)) (n : Txt) (e : α) :
    assocFind (assocSet m n e) n = some e := by
  induction m with
  | nil => simp [assocSet, assocFind]
  | cons x m ih =>
    obtain ⟨k, y⟩ := x
    by_cases h : k = n
    · simp [assocSet, assocFind, h]
    · simp [assocSet, assocFind, h, ih]

theorem assocFind_set_other {α : Type} (m : List (Txt × α)) (n n' : Txt) (e : α) (h : n ≠ n') :
    assocFind (assocSet m n e) n' = assocFind m n' := by
  induction m with
  | nil => simp [assocSet, assocFind, h]
  | cons x m ih =>
    obtain ⟨k, y⟩ := x
    by_cases hk : k = n
    · subst hk; simp [assocSet, assocFind, h]
    · by_cases hk' : k = n'
      · subst hk'; simp [assocSet, assocFind, hk]
      · simp [assocSet, assocFind, hk, hk', ih]

theorem assocSet_set {α : Type} (m : List (Txt × α)) (n : Txt) (e e' : α) :
    assocSet (assocSet m n e) n e' = assocSet m n e' := by
  induction m with
  | nil => simp [assocSet]
  | cons x m ih =>
    obtain ⟨k, y⟩ := x
    by_cases h : k = n
    · simp [assocSet, h]
    · simp [assocSet, h, ih]

theorem mem_keys_assocSet {α : Type} {m : List (Txt × α)} {n k : Txt} {e : α}
    (h : k ∈ (assocSet m n e).map Prod.fst) : k = n ∨ k ∈ m.map Prod.fst := by
  induction m with
  | nil => exact .inl (List.mem_singleton.mp h)
  | cons x m ih =>
    obtain ⟨k', y⟩ := x
    rw [assocSet] at h
    split at h
    · rename_i hk; exact (List.mem_cons.mp h).imp id fun h => List.mem_cons_of_mem _ h
    · exact (List.mem_cons.mp h).elim (fun h => .inr (h ▸ List.mem_cons_self)) fun h =>
        (ih h).imp id fun h => List.mem_cons_of_mem _ h

theorem assocSet_nodup {α : Type} (m : List (Txt × α)) (n : Txt) (e : α) (h : (m.map Prod.fst).Nodup) :
    ((assocSet m n e).map Prod.fst).Nodup := by
  induction m with
  | nil => exact List.nodup_cons.mpr ⟨List.not_mem_nil, List.nodup_nil⟩
  | cons x m ih =>
    obtain ⟨k, y⟩ := x
    rw [List.map_cons, List.nodup_cons] at h
    rw [assocSet]
    split
    · rename_i hk; exact List.nodup_cons.mpr ⟨hk ▸ h.1, h.2⟩
    · rename_i hk
      exact List.nodup_cons.mpr ⟨fun hm => (mem_keys_assocSet hm).elim hk h.1, ih h.2⟩

theorem assocFind_some_mem {α : Type} (m : List (Txt × α)) (n : Txt) (e : α) (h : assocFind m n = some e) :
    (n, e) ∈ m := by
  induction m with
  | nil => cases h
  | cons x m ih =>
    obtain ⟨k, y⟩ := x
    rw [assocFind] at h
    split at h
    · rename_i hk; cases h; cases hk; exact List.mem_cons_self
    · exact List.mem_cons_of_mem _ (ih h)

theorem assocFind_of_mem {α : Type} (m : List (Txt × α)) (n : Txt) (e : α) (hnd : (m.map Prod.fst).Nodup)
    (h : (n, e) ∈ m) : assocFind m n = some e := by
  induction m with
  | nil => cases h
  | cons x m ih =>
    obtain ⟨k, y⟩ := x
    rw [List.map_cons, List.nodup_cons] at hnd
    rw [assocFind]
    rcases List.mem_cons.mp h with h | h
    · cases h; rw [if_pos rfl]
    · rw [if_neg fun hkn => hnd.1 (List.mem_map.mpr ⟨(n, e), h, hkn.symm⟩), ih hnd.2 h]

theorem assocFind_none_iff {α : Type} (m : List (Txt × α)) (n : Txt) :
    assocFind m n = none ↔ n ∉ m.map Prod.fst := by
  induction m with
  | nil => exact ⟨fun _ => List.not_mem_nil, fun _ => rfl⟩
  | cons x m ih =>
    obtain ⟨k, y⟩ := x
    rw [assocFind, List.map_cons, List.mem_cons, not_or, ← ih]
    split
    · rename_i h; exact ⟨nofun, fun hh => absurd h.symm hh.1⟩
    · rename_i h; exact ⟨fun hh => ⟨fun e => h e.symm, hh⟩, fun hh => hh.2⟩

/-! ## induction over documents -/

theorem Item.induct {P : Item → Prop} {Q : List Item → Prop} (text : ∀ t, P (.text t))
    (dom : ∀ n body, Q body → P (.dom n body)) (nil : Q []) (cons : ∀ i is, P i → Q is → Q (i :: is)) :
    (∀ i, P i) ∧ ∀ is, Q is :=
  ⟨fun i => Item.rec (motive_1 := P) (motive_2 := Q) text dom nil cons i,
   fun is => Item.rec_1 (motive_1 := P) (motive_2 := Q) text dom nil cons is⟩

end Tars.Conf
