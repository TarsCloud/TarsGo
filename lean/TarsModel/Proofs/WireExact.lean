import TarsModel.Proofs.WireSkip
import TarsModel.Proofs.WireRead

/-!
  What a successful primitive read consumed and returned (the
  readers never extend past the end and return the value of exactly one complete field), and, per
  reader, that a found head whose wire type its width table does not admit is a `.mismatch`.
-/

namespace Tars
open Consts

/-! ### `readWith`, byte slices, the table-driven switch -/

theorem readWith_ok {α : Type} {old : α} {tag : Nat} {req : Bool} {body : Nat → RM α} {r r' : Reader}
    {v : α} (h : readWith old tag req body r = (.ok v, r')) :
    (∃ ty, skipToNoCheck tag req r = (.ok (false, ty), r') ∧ v = old ∧ req = false) ∨
    (∃ ty r1, skipToNoCheck tag req r = (.ok (true, ty), r1) ∧ r.Lt r1 ∧ body ty r1 = (.ok v, r')) := by
  unfold readWith at h
  rcases hb : skipToNoCheck tag req r with ⟨e | ⟨_ | _, ty⟩, r1⟩ <;> rw [hb] at h
  · cases h
  · simp only [Prod.mk.injEq, Except.ok.injEq] at h
    obtain ⟨rfl, rfl⟩ := h
    exact .inl ⟨ty, rfl, rfl, (skipToNoCheck_found hb).miss⟩
  · exact .inr ⟨ty, r1, rfl, (skipToNoCheck_found hb).hit, h⟩

theorem readBytes_exact {len : Int} {r r' : Reader} {bs : Bytes}
    (h : readBytes len r = (.ok bs, r')) :
    0 ≤ len ∧ bs.length = len.toNat ∧ r'.data = r.data ∧ r'.pos = r.pos + len.toNat ∧
    (0 < len → r'.pos ≤ r.data.size ∧ bs = takeFrom r.data r.pos len.toNat) := by
  rw [readBytes_eq] at h
  split at h
  · cases h
  · rename_i hc
    cases h
    unfold Reader.remaining at hc
    exact ⟨by omega, by rw [takeFrom_length]; omega, rfl, rfl, fun _ => ⟨by simp only [Reader.adv_pos]; omega, rfl⟩⟩

theorem readSlice8_exact {old : Bytes} {len : Int} {r r' : Reader} {bs : Bytes}
    (h : readSlice8 old len r = (.ok bs, r')) :
    (len ≤ 0 ∧ bs = [] ∧ r' = r) ∨
    (0 < len ∧ r.pos + len.toNat ≤ r.data.size ∧ r' = ⟨r.data, r.pos + len.toNat⟩ ∧
      bs = takeFrom r.data r.pos len.toNat ∧ bs.length = len.toNat) := by
  unfold readSlice8 at h
  split at h
  · rename_i h0
    simp only [Prod.mk.injEq, Except.ok.injEq] at h
    exact .inl ⟨h0, h.1.symm, h.2.symm⟩
  · obtain ⟨_, hl, hd, hp, hx⟩ := readBytes_exact h
    obtain ⟨hs, hb⟩ := hx (by omega)
    obtain ⟨d, p⟩ := r'
    cases hd; cases hp
    exact .inr ⟨by omega, hs, rfl, hb, hl⟩

section
variable {α : Type} {width : Nat → Option Nat} {zero : α} {conv : Nat → Nat → α} {ty : Nat}

theorem fixedBody_ok {r1 r' : Reader} {v : α} (hpos : r1.pos ≤ r1.data.size)
    (h : fixedBody width zero conv ty r1 = (.ok v, r')) :
    ∃ w, width ty = some w ∧ r1.pos + w ≤ r1.data.size ∧ r' = ⟨r1.data, r1.pos + w⟩ ∧
      v = if w = 0 then zero else conv w (beVal (takeFrom r1.data r1.pos w)) := by
  cases hw : width ty with
  | none => rw [fixedBody_mismatch hw] at h; cases h
  | some w =>
    rw [fixedBody_of_width hw] at h
    refine ⟨w, rfl, ?_⟩
    by_cases h0 : w = 0
    · rw [if_pos h0] at h; cases h; subst h0; exact ⟨hpos, rfl, rfl⟩
    · rw [if_neg h0] at h
      obtain ⟨a, ha, hv⟩ := mapRes_ok h
      obtain ⟨e1, e2, e3, _⟩ := bReadU_ok (Nat.pos_of_ne_zero h0) ha
      exact ⟨e1, e2, by rw [if_neg h0, hv, e3]⟩

end

/-! ### integers -/

/-- the integer determined by a complete payload of `w` bytes at `pos` -/
def fieldInt (data : Array Byte) (pos w : Nat) : Int :=
  if w = 0 then 0 else toS (8 * w) (beVal (takeFrom data pos w))

theorem intBody_ok {maxw ty : Nat} {r1 r' : Reader} {v : Int} (hpos : r1.pos ≤ r1.data.size)
    (h : intBody maxw ty r1 = (.ok v, r')) :
    ∃ w, intWidth maxw ty = some w ∧ r1.pos + w ≤ r1.data.size ∧ r' = ⟨r1.data, r1.pos + w⟩ ∧
      v = fieldInt r1.data r1.pos w := by
  rw [intBody_eq] at h; exact fixedBody_ok hpos h

theorem intBody_mismatch {maxw ty : Nat} (h : intWidth maxw ty = none) (r1 : Reader) :
    intBody maxw ty r1 = (.error .mismatch, r1) := by
  rw [intBody_eq]; exact fixedBody_mismatch h r1

theorem readWith_exact {α : Type} {width : Nat → Option Nat} {body : Nat → RM α}
    {field : Array Byte → Nat → Nat → α}
    (hbody : ∀ {ty : Nat} {r1 r' : Reader} {v : α}, r1.pos ≤ r1.data.size → body ty r1 = (.ok v, r') →
      ∃ w, width ty = some w ∧ r1.pos + w ≤ r1.data.size ∧ r' = ⟨r1.data, r1.pos + w⟩ ∧
        v = field r1.data r1.pos w)
    {old : α} {tag : Nat} {req : Bool} {r r' : Reader} {v : α}
    (h : readWith old tag req body r = (.ok v, r')) :
    (∃ ty, skipToNoCheck tag req r = (.ok (false, ty), r') ∧ v = old ∧ req = false) ∨
    (∃ ty r1 w, skipToNoCheck tag req r = (.ok (true, ty), r1) ∧ width ty = some w ∧
      r1.pos + w ≤ r.data.size ∧ r' = ⟨r.data, r1.pos + w⟩ ∧ v = field r.data r1.pos w) := by
  rcases readWith_ok h with h1 | ⟨ty, r1, hs, hlt, hb⟩
  · exact .inl h1
  · obtain ⟨w, hw, e1, e2, e3⟩ := hbody hlt.2.2 hb
    rw [hlt.1] at e1 e2 e3
    exact .inr ⟨ty, r1, w, hs, hw, e1, e2, e3⟩

/-- **Integers: no over-read, exact value.**  A successful `ReadIntN` either did not find the
    (optional) field and kept `old`, or found a head of an admissible wire type followed by its
    complete payload inside the input, consumed exactly that and returned its value. -/
theorem readWith_int_exact {maxw : Nat} {old : Int} {tag : Nat} {req : Bool} {r r' : Reader} {v : Int}
    (h : readWith old tag req (intBody maxw) r = (.ok v, r')) :
    (∃ ty, skipToNoCheck tag req r = (.ok (false, ty), r') ∧ v = old ∧ req = false) ∨
    (∃ ty r1 w, skipToNoCheck tag req r = (.ok (true, ty), r1) ∧ intWidth maxw ty = some w ∧
      r1.pos + w ≤ r.data.size ∧ r' = ⟨r.data, r1.pos + w⟩ ∧ v = fieldInt r.data r1.pos w) :=
  readWith_exact (width := intWidth maxw) (field := fieldInt) intBody_ok h

theorem readWith_int_mismatch {maxw : Nat} {old : Int} {tag : Nat} {req : Bool} {r r1 : Reader} {ty : Nat}
    (hs : skipToNoCheck tag req r = (.ok (true, ty), r1)) (hw : intWidth maxw ty = none) :
    readWith old tag req (intBody maxw) r = (.error .mismatch, r1) := by
  rw [readWith_found hs, intBody_mismatch hw]

/-! ### floats -/

/-- bit pattern determined by a complete float payload read as float32 -/
def fieldF32 (data : Array Byte) (pos w : Nat) : Nat :=
  if w = 0 then 0 else beVal (takeFrom data pos w)

/-- bit pattern determined by a complete float payload read as float64 -/
def fieldF64 (data : Array Byte) (pos w : Nat) : Nat :=
  if w = 0 then 0 else if w = 4 then widenF32 (beVal (takeFrom data pos 4)) else beVal (takeFrom data pos w)

theorem f32Body_ok {ty : Nat} {r1 r' : Reader} {v : Nat} (hpos : r1.pos ≤ r1.data.size)
    (h : f32Body ty r1 = (.ok v, r')) :
    ∃ w, f32Width ty = some w ∧ r1.pos + w ≤ r1.data.size ∧ r' = ⟨r1.data, r1.pos + w⟩ ∧
      v = fieldF32 r1.data r1.pos w := by
  rw [f32Body_eq] at h; exact fixedBody_ok hpos h

theorem f64Body_ok {ty : Nat} {r1 r' : Reader} {v : Nat} (hpos : r1.pos ≤ r1.data.size)
    (h : f64Body ty r1 = (.ok v, r')) :
    ∃ w, f64Width ty = some w ∧ r1.pos + w ≤ r1.data.size ∧ r' = ⟨r1.data, r1.pos + w⟩ ∧
      v = fieldF64 r1.data r1.pos w := by
  rw [f64Body_eq] at h
  obtain ⟨w, h1, h2, h3, h4⟩ := fixedBody_ok hpos h
  refine ⟨w, h1, h2, h3, h4.trans ?_⟩
  unfold fieldF64
  by_cases h4 : w = 4
  · subst h4; rfl
  · simp only [h4, if_false]

theorem readFloat32_exact {old : Nat} {tag : Nat} {req : Bool} {r r' : Reader} {v : Nat}
    (h : readFloat32 old tag req r = (.ok v, r')) :
    (∃ ty, skipToNoCheck tag req r = (.ok (false, ty), r') ∧ v = old ∧ req = false) ∨
    (∃ ty r1 w, skipToNoCheck tag req r = (.ok (true, ty), r1) ∧ f32Width ty = some w ∧
      r1.pos + w ≤ r.data.size ∧ r' = ⟨r.data, r1.pos + w⟩ ∧ v = fieldF32 r.data r1.pos w) := by
  rw [readFloat32_body] at h
  exact readWith_exact (width := f32Width) (field := fieldF32) f32Body_ok h

theorem readFloat32_mismatch {old : Nat} {tag : Nat} {req : Bool} {r r1 : Reader} {ty : Nat}
    (hs : skipToNoCheck tag req r = (.ok (true, ty), r1)) (hw : f32Width ty = none) :
    readFloat32 old tag req r = (.error .mismatch, r1) := by
  rw [readFloat32_body, readWith_found hs, f32Body_eq]; exact fixedBody_mismatch hw r1

theorem readFloat64_exact {old : Nat} {tag : Nat} {req : Bool} {r r' : Reader} {v : Nat}
    (h : readFloat64 old tag req r = (.ok v, r')) :
    (∃ ty, skipToNoCheck tag req r = (.ok (false, ty), r') ∧ v = old ∧ req = false) ∨
    (∃ ty r1 w, skipToNoCheck tag req r = (.ok (true, ty), r1) ∧ f64Width ty = some w ∧
      r1.pos + w ≤ r.data.size ∧ r' = ⟨r.data, r1.pos + w⟩ ∧ v = fieldF64 r.data r1.pos w) := by
  rw [readFloat64_body] at h
  exact readWith_exact (width := f64Width) (field := fieldF64) f64Body_ok h

theorem readFloat64_mismatch {old : Nat} {tag : Nat} {req : Bool} {r r1 : Reader} {ty : Nat}
    (hs : skipToNoCheck tag req r = (.ok (true, ty), r1)) (hw : f64Width ty = none) :
    readFloat64 old tag req r = (.error .mismatch, r1) := by
  rw [readFloat64_body, readWith_found hs, f64Body_eq]; exact fixedBody_mismatch hw r1

/-! ### strings -/

theorem nextExact_ok {l : Nat} {r r' : Reader} {s : Bytes} (hpos : r.pos ≤ r.data.size)
    (h : nextExact l r = (.ok s, r')) :
    r.pos + l ≤ r.data.size ∧ r' = ⟨r.data, r.pos + l⟩ ∧ s = takeFrom r.data r.pos l ∧ s.length = l := by
  rw [nextExact_eq] at h
  split at h
  · cases h
  · cases h
    have hl := r.rest_length
    exact ⟨by omega, rfl, (r.takeFrom_pos l).symm, by rw [List.length_take]; omega⟩

/-- **Strings: no over-read, exact value.**  A successful `ReadString` that found the field read
    a complete length prefix and exactly that many bytes, all inside the input. -/
theorem readString_exact {old : Bytes} {tag : Nat} {req : Bool} {r r' : Reader} {s : Bytes}
    (h : readString old tag req r = (.ok s, r')) :
    (∃ ty, skipToNoCheck tag req r = (.ok (false, ty), r') ∧ s = old ∧ req = false) ∨
    (∃ ty r1 w l, skipToNoCheck tag req r = (.ok (true, ty), r1) ∧ strLenWidth ty = some w ∧
      l = beVal (takeFrom r.data r1.pos w) ∧ r1.pos + w + l ≤ r.data.size ∧
      r' = ⟨r.data, r1.pos + w + l⟩ ∧ s = takeFrom r.data (r1.pos + w) l ∧ s.length = l) := by
  rw [readString_body] at h
  rcases readWith_ok h with h1 | ⟨ty, r1, hs, hlt, hb⟩
  · exact .inl h1
  · right
    rw [strBody_eq] at hb
    cases hw : strLenWidth ty with
    | none => rw [hw] at hb; cases hb
    | some w =>
      rw [hw] at hb
      dsimp only at hb
      rcases hc : bReadU w r1 with ⟨e | l, r2⟩
      · rw [hc] at hb; cases hb
      · rw [hc] at hb
        obtain ⟨e1, e2, e3, _⟩ := bReadU_ok (strLenWidth_pos hw) hc
        subst e2
        obtain ⟨n1, n2, n3, n4⟩ := nextExact_ok (by simpa using e1) hb
        simp only at n1 n2 n3
        rw [hlt.1] at e3 n1 n2 n3
        exact ⟨ty, r1, w, l, hs, hw, e3, n1, n2, n3, n4⟩

theorem readString_mismatch {old : Bytes} {tag : Nat} {req : Bool} {r r1 : Reader} {ty : Nat}
    (hs : skipToNoCheck tag req r = (.ok (true, ty), r1)) (hw : strLenWidth ty = none) :
    readString old tag req r = (.error .mismatch, r1) := by
  rw [readString_body, readWith_found hs, strBody_eq, hw]

/-- a string that was found is paid for by the input the read consumed: its bytes, its length
    prefix and at least one byte of head lie between the two positions -/
theorem readString_found {old : Bytes} {tag ty : Nat} {req : Bool} {r r1 r' : Reader} {s : Bytes}
    (h : readString old tag req r = (.ok s, r'))
    (hs : skipToNoCheck tag req r = (.ok (true, ty), r1)) :
    (∃ p, s = takeFrom r.data p s.length) ∧ s.length + 1 + r'.remaining ≤ r.remaining := by
  rcases readString_exact h with ⟨_, h1, _⟩ | ⟨_, _, w, l, h1, _, _, hb, rfl, hv, hl⟩
  · rw [hs] at h1; cases h1
  · rw [hs] at h1; cases h1
    have hp := (skipToNoCheck_found hs).hit.2.1
    refine ⟨⟨_, by rw [hl]; exact hv⟩, ?_⟩
    unfold Reader.remaining
    simp only
    omega

end Tars
