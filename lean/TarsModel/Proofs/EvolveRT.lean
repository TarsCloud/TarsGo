import TarsModel.Proofs.EvolveReset
import TarsModel.Proofs.SchemaRTKinds

/-! Bridge from C03 to the assumptions of the C04 slot theorems: by the member round trip (`rt_all`,
    Proofs/SchemaRTKinds.lean) the `encVar` of a well-typed value is `HeadOk` and `SelfDelimiting`,
    and a well-formed schema (`EnvWF`) is acyclic (`EnvAcyclic`).  Kept in its own file so that C04
    does not depend on the C03 development. -/
namespace Tars
namespace Evolve
open Consts WFField

theorem selfDelimiting_encVar (env : Env) (rk : String → Nat) (hE : EnvWF env rk) (f : Field) (o v : Val)
    (N : Nat) (htag : f.tag < 256) (hty : TyOK env rk (env.length + 1) f.ty)
    (hd : DfltOK f.ty f.dflt) (hwt : WT env f.ty v) (hold : OldOK env f.ty f.dflt o)
    (hN : needVar v ≤ N) :
    Slot.SelfDelimiting env N ⟨f, o, encVar env f.tag f.req f.ty f.dflt v⟩ :=
  .of_run (.ok (normVar env f.req f.ty f.dflt v)) fun fuel hf r t h haft =>
    ⟨_, rt_all env rk hE v fuel f.tag f.req f.ty f.dflt o r t htag hty hd hwt hold
      (fun _ => haft.nextTagGt) (by omega) h, fun _ _ => r.rest_adv h⟩

/-- member-wise typing of schema, value and target, without a fuel bound (the per-member hypotheses
    of `RT`) -/
def MembersTyped (env : Env) (rk : String → Nat) : List Field → List Val → List Val → Prop
  | f :: fs, o :: os, v :: vs =>
    (f.tag < 256 ∧ TyOK env rk (env.length + 1) f.ty ∧ DfltOK f.ty f.dflt ∧ WT env f.ty v ∧
      OldOK env f.ty f.dflt o) ∧ MembersTyped env rk fs os vs
  | [], [], [] => True
  | _, _, _ => False

theorem MembersTyped.slots (env : Env) (rk : String → Nat) (hE : EnvWF env rk) (N : Nat) :
    ∀ (fs : List Field) (os vs : List Val), MembersTyped env rk fs os vs →
    WTm env fs vs ∧ (needElems vs ≤ N →
      ∀ s ∈ encSlots env fs os vs, s.HeadOk ∧ s.SelfDelimiting env N)
  | [], [], [], _ => ⟨by simp [WTm], fun _ s hs => by simp [encSlots] at hs⟩
  | f :: fs, o :: os, v :: vs, h => by
    obtain ⟨⟨h1, h2, h3, h4, h5⟩, hrest⟩ := h
    obtain ⟨ih1, ih2⟩ := MembersTyped.slots env rk hE N fs os vs hrest
    refine ⟨by simp only [WTm]; exact ⟨h4, ih1⟩, fun hN s hs => ?_⟩
    simp only [needElems] at hN
    simp only [encSlots, List.mem_cons] at hs
    rcases hs with rfl | hs
    · -- `HeadOk` of this slot unfolds to `encVar … = [] ∨ HeadAt f.tag (encVar …)`
      exact ⟨encVar_headAt env f.tag f.req f.ty f.dflt v,
        selfDelimiting_encVar env rk hE f o v N h1 h2 h3 h4 h5 (by omega)⟩
    · exact ih2 (by omega) s hs
  | [], _ :: _, _, h => by simp [MembersTyped] at h
  | [], [], _ :: _, h => by simp [MembersTyped] at h
  | _ :: _, [], _, h => by simp [MembersTyped] at h
  | _ :: _, _ :: _, [], h => by simp [MembersTyped] at h

theorem envAcyclic_of_envWF {env : Env} {rk : String → Nat} (hE : EnvWF env rk) :
    EnvAcyclic env rk := by
  intro s ifs hfind
  obtain ⟨hle, _, hf⟩ := hE s ifs hfind
  refine ⟨hle, fun g hg s' ifs' href _ => ?_⟩
  have hty : TyOK env rk (rk s) g.ty := (hf g hg).2.1
  rcases href with h | ⟨n, h⟩
  · rw [h] at hty; simp only [TyOK] at hty; exact hty.2
  · rw [h] at hty; simp only [TyOK] at hty; exact hty.2.2.2

end Evolve
end Tars
