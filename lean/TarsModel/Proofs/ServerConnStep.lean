import TarsModel.Proofs.ServerConnBasic
import TarsModel.Proofs.Lts

/-!
The shutdown LTS (C12) as a relation: `GStep cfg s a s'` lists the shapes a step can have — a move of
one connection record (`CStep`), a control step of the shutdown caller, the accept loop or the pool,
`sendCloseMsg` over the table, the parts of a `CloseIdles` call. It over-approximates `step`: of the
guards of `step` it keeps those that some invariant uses (so `acceptExit` omits `isClosed`,
`pTake` and `pStop` the empty hand, `relRet` the idle workers, `ciBusy` what `CloseIdles` saw of the
connection, `conn` says nothing of the job queue); a
proof that needs another guard adds it as a premise of the constructor and to `GStep.of_step`, the only
place under `Proofs/` where `step` is unfolded. Invariants are proved by cases on `GStep`.
-/
namespace Tars.ServerConn

/-- a `CloseIdles` call takes its snapshot of the connection table -/
def beginPass (s : State) (fpNotified : Bool) : State :=
  { s with pass := some { todo := registeredIds s, all := true, holding := none },
           lastPass := registeredIds s, firstPoll := true, fpNotified }

/-- the two actions that run `sendCloseMsg` over the table -/
def Action.notifies : Action → Bool
  | .closeMsg | .ciBegin => true
  | _ => false

inductive GStep (cfg : Cfg) (s : State) : Action → State → Prop
  | connect : GStep cfg s .connect { s with conns := s.conns ++ [Conn.new] }
  /-- a move of connection `c`; `enqueue` also writes the job queue or, with an unbuffered queue, the
  hand of a dispatcher that still selects; `pGive` empties that hand -/
  | conn (a : Action) (c : Cid) (k k' : Conn) (jobQ : List (Cid × Nat)) (held : Option (Cid × Nat)) :
      a.notifies = false → s.conns[c]? = some k → CStep cfg s k k' →
      (held = s.held ∨ held = none ∨ s.pst = .live ∨ s.pst = .stopReq) →
      GStep cfg s a { s with conns := s.conns.set c k', jobQ, held }
  | pTake (j : Cid × Nat) (rest : List (Cid × Nat)) : (s.pst = .live ∨ s.pst = .stopReq) →
      GStep cfg s .pTake { s with held := some j, jobQ := rest }
  | shutdownCall : s.spc = .idle → GStep cfg s .shutdownCall { s with spc := .called }
  | setClosed : s.spc = .called → GStep cfg s .setClosed { s with spc := .onShutdown, isClosed := true }
  | onShutdownRet : s.spc = .onShutdown → GStep cfg s .onShutdownRet { s with spc := .polling }
  | ctxExpire : s.spc = .polling → s.pass = none → GStep cfg s .ctxExpire { s with spc := .returned false }
  | acceptExit : s.apc = .accepting →
      GStep cfg s .acceptExit { s with listenClosed := 1, apc := if poolOn cfg then .afterLoop else .returned }
  | relCall : s.apc = .afterLoop → (cfg.releaseAfterDrain = true → allConnGoroutinesDone s = true) →
      GStep cfg s .relCall { s with apc := .inRelease, pst := .stopReq }
  | pStop : s.pst = .stopReq → GStep cfg s .pStop { s with pst := .stopping }
  | relRet : s.pst = .stopping → GStep cfg s .relRet { s with pst := .stopped, apc := .returned }
  | closeMsg : s.listenClosed = 1 → GStep cfg s .closeMsg (notifyAll s)
  /-- a `CloseIdles` call begins, after `sendCloseMsg` if the accept loop has left (`notifyAll` sets
  `listenClosed` to 2, so a first call records `fpNotified = true`) -/
  | ciNotify : s.spc = .polling → s.listenClosed = 1 →
      GStep cfg s .ciBegin (beginPass (notifyAll s) (if s.firstPoll then s.fpNotified else true))
  | ciBegin : s.spc = .polling → s.listenClosed ≠ 1 →
      GStep cfg s .ciBegin (beginPass s (if s.firstPoll then s.fpNotified else s.listenClosed == 2))
  /-- `CloseIdles` finds the entry deleted meanwhile -/
  | ciGone (c : Cid) (p : Pass) (k : Conn) : s.pass = some p → p.holding = none → s.conns[c]? = some k →
      k.registered = false → GStep cfg s (.ciVisit c) { s with pass := some { p with todo := p.todo.erase c } }
  /-- busy, fresh, or only woken: `allClosed = false` -/
  | ciBusy (c : Cid) (p : Pass) : s.pass = some p → p.holding = none →
      GStep cfg s (.ciVisit c) { s with pass := some { p with todo := p.todo.erase c, all := false } }
  | ciHold (c : Cid) (p : Pass) (k : Conn) : s.pass = some p → p.holding = none → s.conns[c]? = some k →
      k.numInvoke = 0 → cfg.ci = .asFound →
      GStep cfg s (.ciVisit c) { s with pass := some { p with todo := p.todo.erase c, holding := some c } }
  | ciCloseNow (c : Cid) (p : Pass) (k : Conn) : s.pass = some p → p.holding = none → s.conns[c]? = some k →
      k.numInvoke = 0 → cfg.ci = .atomic →
      GStep cfg s (.ciVisit c) { s with pass := some { p with todo := p.todo.erase c },
                                        conns := s.conns.set c (cCloseByIdles k) }
  | ciClose (c : Cid) (p : Pass) (k : Conn) : s.pass = some p → p.holding = some c → s.conns[c]? = some k →
      GStep cfg s .ciClose { s with pass := some { p with holding := none },
                                    conns := s.conns.set c (cCloseByIdles k) }
  | ciEnd (p : Pass) : s.spc = .polling → s.pass = some p → p.todo = [] → p.holding = none →
      GStep cfg s .ciEnd { s with pass := none, spc := if p.all then .returned true else .polling }

theorem updConn_some {s s' : State} {c : Cid} {f : Conn → Option Conn} (h : updConn s c f = some s') :
    ∃ k k', s.conns[c]? = some k ∧ f k = some k' ∧ s' = { s with conns := s.conns.set c k' } := by
  unfold updConn at h
  split at h <;> try cases h
  split at h <;> cases h
  exact ⟨_, _, ‹_›, ‹_›, rfl⟩

theorem gstep_updConn {cfg : Cfg} {s s' : State} {a : Action} {c : Cid} {f : Conn → Option Conn}
    (hf : ∀ {k k'}, f k = some k' → CStep cfg s k k') (h : updConn s c f = some s')
    (ha : a.notifies = false) : GStep cfg s a s' := by
  obtain ⟨k, k', hk, hfk, rfl⟩ := updConn_some h
  exact .conn a c k k' s.jobQ s.held ha hk (hf hfk) (.inl rfl)

theorem GStep.of_step {cfg : Cfg} {s s' : State} {a : Action} (h : step cfg s a = some s') :
    GStep cfg s a s' := by
  cases a with
  | connect => cases h; exact .connect
  | send c r | sendNR c r => exact gstep_updConn cSend_cstep h rfl
  | accept c =>
    dsimp only [step] at h; split at h <;> try cases h
    exact gstep_updConn (cAccept_cstep ‹_›) h rfl
  | register c => exact gstep_updConn cRegister_cstep h rfl
  | stamp c => exact gstep_updConn cStamp_cstep h rfl
  | read c n => exact gstep_updConn cRead_cstep h rfl
  | readErr c f => exact gstep_updConn cReadErr_cstep h rfl
  | age c => exact gstep_updConn cAge_cstep h rfl
  | dispatch c => exact gstep_updConn cDispatch_cstep h rfl
  | enqueue c =>
    dsimp only [step] at h
    split at h <;> try cases h
    split at h <;> try cases h
    have hk := ‹s.conns[c]? = some _›
    have hce := ‹cEnqueued _ = some _›
    split at h
    · cases h; exact .conn _ c _ _ _ _ rfl hk (cEnqueued_cstep hce) (.inl rfl)
    · split at h <;> cases h
      exact .conn _ c _ _ _ _ rfl hk (cEnqueued_cstep hce) (.inr (.inr (‹_ ∧ _ ∧ _›).2.2))
  | pTake =>
    dsimp only [step] at h
    split at h <;> try cases h
    split at h <;> cases h
    exact .pTake _ _ ‹_›
  | pGive =>
    dsimp only [step] at h
    split at h <;> try cases h
    rename_i c i _ hh
    split at h <;> try cases h
    cases hu : updConn s c (cHand i) with
    | none => rw [hu] at h; cases h
    | some s1 =>
      rw [hu] at h; cases h
      obtain ⟨k, k', hk, hf, rfl⟩ := updConn_some hu
      have hp : poolOn cfg = true := by simp [poolOn, ‹cfg.pool = _›]
      exact .conn _ c k k' _ _ rfl hk (cHand_cstep hp (by rw [hh]; rfl) hf) (.inr (.inl rfl))
  | start c i =>
    dsimp only [step] at h
    split at h
    · exact gstep_updConn cStartP_cstep h rfl
    · exact gstep_updConn (cStart_cstep ((Bool.not_eq_true _).mp ‹_›)) h rfl
  | fin c i =>
    dsimp only [step] at h
    split at h <;> try cases h
    exact gstep_updConn (cFin_cstep ((Bool.not_eq_true _).mp ‹_›)) h rfl
  | finEarly c i =>
    dsimp only [step] at h
    split at h <;> try cases h
    exact gstep_updConn (cFinEarly_cstep ‹_›) h rfl
  | lateWrite c i => exact gstep_updConn cLateWrite_cstep h rfl
  | write c i => exact gstep_updConn cWrite_cstep h rfl
  | skip c i => exact gstep_updConn cSkip_cstep h rfl
  | dec c i => exact gstep_updConn cDec_cstep h rfl
  | drainTick c =>
    dsimp only [step] at h
    split at h <;> try cases h
    rename_i k hk
    split at h <;> try cases h
    rename_i hg
    obtain ⟨k0, k', hk0, hf, rfl⟩ := updConn_some h
    cases hk.symm.trans hk0
    exact .conn _ c k k' _ _ rfl hk (cDrainTick_cstep hg hf) (.inl rfl)
  | drainClose c => exact gstep_updConn cDrainClose_cstep h rfl
  | shutdownCall =>
    dsimp only [step] at h; split at h <;> cases h
    exact .shutdownCall ‹_›
  | setClosed =>
    dsimp only [step] at h; split at h <;> cases h
    exact .setClosed ‹_›
  | acceptExit =>
    dsimp only [step] at h; split at h <;> cases h
    exact .acceptExit (‹_ ∧ _›).1
  | relCall =>
    dsimp only [step] at h; split at h <;> cases h
    exact .relCall (‹_ ∧ _›).1 (‹_ ∧ _›).2
  | pStop =>
    dsimp only [step] at h; split at h <;> cases h
    exact .pStop (‹_ ∧ _›).1
  | relRet =>
    dsimp only [step] at h; split at h <;> cases h
    exact .relRet (‹_ ∧ _›).1
  | closeMsg =>
    dsimp only [step] at h
    split at h <;> try cases h
    split at h <;> cases h
    exact .closeMsg ‹_›
  | onShutdownRet =>
    dsimp only [step] at h; split at h <;> cases h
    exact .onShutdownRet ‹_›
  | ciBegin =>
    dsimp only [step] at h
    split at h <;> cases h
    rename_i hs _
    by_cases hl : s.listenClosed = 1
    · simp only [hl, if_true]; exact .ciNotify hs hl
    · simp only [hl, if_false]; exact .ciBegin hs hl
  | ciVisit c =>
    dsimp only [step] at h
    split at h <;> try cases h
    rename_i p hp
    split at h <;> try cases h
    rename_i hg
    split at h <;> try cases h
    rename_i k hk
    split at h
    · cases h; exact .ciGone c p k hp hg.2 hk ‹_›
    · split at h
      · cases h; exact .ciBusy c p hp hg.2
      · rename_i hidle
        have hz : k.numInvoke = 0 := Nat.eq_zero_of_not_pos fun hh => hidle (.inl hh)
        split at h <;> cases h
        · exact .ciHold c p k hp hg.2 hk hz ‹_›
        · exact .ciCloseNow c p k hp hg.2 hk hz ‹_›
        · exact .ciBusy c p hp hg.2
  | ciClose =>
    dsimp only [step] at h
    split at h <;> try cases h
    split at h <;> try cases h
    split at h <;> cases h
    exact .ciClose _ _ _ ‹_› ‹_› ‹_›
  | ciEnd =>
    dsimp only [step] at h
    split at h <;> try cases h
    split at h <;> cases h
    rename_i hg
    exact .ciEnd _ ‹_› ‹_› hg.1 hg.2
  | ctxExpire =>
    dsimp only [step] at h; split at h <;> cases h
    exact .ctxExpire ‹_› ‹_›
  | recvRsp c i => exact gstep_updConn cRecvRsp_cstep h rfl
  | recvMsg c => exact gstep_updConn cRecvMsg_cstep h rfl
  | recvEof c => exact gstep_updConn cRecvEof_cstep h rfl

/-! ### the connection table -/

/-- `CloseIdles` executes `conn.Close()` on connection `c`: in the step in which it saw
`numInvoke = 0`, or on the connection it has been holding since it looked -/
def IdlesClose (cfg : Cfg) (s : State) (c : Cid) (k : Conn) : Prop :=
  (cfg.ci = .atomic ∧ k.numInvoke = 0) ∨ ∃ p, s.pass = some p ∧ p.holding = some c

theorem GStep.conns_eq {cfg : Cfg} {s s' : State} {a : Action} (h : GStep cfg s a s') :
    s'.conns = s.conns ∨ s'.conns = s.conns ++ [Conn.new] ∨ s'.conns = s.conns.map cNotify ∨
    ∃ c k k', s.conns[c]? = some k ∧ s'.conns = s.conns.set c k' ∧
      (CStep cfg s k k' ∨
        (k' = cCloseByIdles k ∧ IdlesClose cfg s c k)) := by
  cases h with
  | connect => exact .inr (.inl rfl)
  | conn _ c k k' _ _ _ hk hs => exact .inr (.inr (.inr ⟨c, k, k', hk, rfl, .inl hs⟩))
  | closeMsg | ciNotify => exact .inr (.inr (.inl rfl))
  | ciCloseNow c p k _ _ hk hz hci => exact .inr (.inr (.inr ⟨c, k, _, hk, rfl, .inr ⟨rfl, .inl ⟨hci, hz⟩⟩⟩))
  | ciClose c p k hp hh hk => exact .inr (.inr (.inr ⟨c, k, _, hk, rfl, .inr ⟨rfl, .inr ⟨p, hp, hh⟩⟩⟩))
  | _ => exact .inl rfl

theorem registeredIds_notifyAll (s : State) : registeredIds (notifyAll s) = registeredIds s := by
  unfold registeredIds notifyAll
  simp only [List.length_map]
  apply List.filter_congr
  intro c _
  rw [List.getElem?_map]
  cases s.conns[c]? with
  | none => rfl
  | some k => simp [cNotify_registered]

theorem GStep.forall_conns {cfg : Cfg} {s s' : State} {a : Action} {P : Conn → Prop} (h : GStep cfg s a s')
    (hnew : P Conn.new) (hstep : ∀ {k k'}, CStep cfg s k k' → P k → P k') (hnotify : ∀ {k}, P k → P (cNotify k))
    (hclose : ∀ c k, IdlesClose cfg s c k → P k → P (cCloseByIdles k))
    (hP : ∀ (c : Nat) k, s.conns[c]? = some k → P k) : ∀ (c : Nat) k, s'.conns[c]? = some k → P k := by
  intro c' x hx
  rcases h.conns_eq with e | e | e | ⟨c, k, k', hk, e, hs⟩ <;> rw [e] at hx
  · exact hP c' x hx
  · exact forall_append hP hnew c' x hx
  · exact forall_map (fun c k hk => hnotify (hP c k hk)) c' x hx
  · refine forall_set hP ?_ c' x hx
    rcases hs with hs | ⟨rfl, hg⟩
    · exact hstep hs (hP c k hk)
    · exact hclose c k hg (hP c k hk)

theorem GStep.at_conn {cfg : Cfg} {s s' : State} {a : Action} {P : Conn → Prop} (h : GStep cfg s a s') {c : Nat}
    {k : Conn} (hk : s.conns[c]? = some k) (hP : P k) (hstep : ∀ {k'}, CStep cfg s k k' → P k') (hnotify : P (cNotify k))
    (hclose : IdlesClose cfg s c k → P (cCloseByIdles k)) : ∃ k', s'.conns[c]? = some k' ∧ P k' := by
  rcases h.conns_eq with e | e | e | ⟨c', k0, k', hk0, e, hs⟩ <;> rw [e]
  · exact ⟨k, hk, hP⟩
  · exact ⟨k, getElem?_append_of_some hk, hP⟩
  · exact ⟨cNotify k, by simp [List.getElem?_map, hk], hnotify⟩
  · by_cases hcc : c' = c
    · subst hcc
      cases hk.symm.trans hk0
      exact ⟨k', getElem?_set_of_some hk, hs.elim hstep fun ⟨e, hg⟩ => e ▸ hclose hg⟩
    · exact ⟨k, by rw [List.getElem?_set_ne hcc]; exact hk, hP⟩

def ConnsMono (l l' : List Conn) : Prop :=
  ∀ (c : Nat) (k : Conn), l[c]? = some k → ∃ k', l'[c]? = some k' ∧ ConnMono k k'

def ClosedAt (l : List Conn) (c : Cid) : Prop := ∃ k, l[c]? = some k ∧ k.srvClosed = true
def NotifiedAt (l : List Conn) (c : Cid) : Prop := ∃ k, l[c]? = some k ∧ k.notified = true
def StartedAt (l : List Conn) (c : Cid) : Prop := ∃ k, l[c]? = some k ∧ k.started

theorem ConnsMono.at {l l' : List Conn} (hm : ConnsMono l l') {P : Conn → Prop}
    (hP : ∀ {k k'}, ConnMono k k' → P k → P k') {c : Cid} (h : ∃ k, l[c]? = some k ∧ P k) :
    ∃ k', l'[c]? = some k' ∧ P k' :=
  let ⟨k, hk, hc⟩ := h
  let ⟨k', hk', m⟩ := hm c k hk
  ⟨k', hk', hP m hc⟩

theorem ClosedAt.mono {l l' : List Conn} (hm : ConnsMono l l') {c : Cid} (h : ClosedAt l c) : ClosedAt l' c :=
  hm.at (·.closedM) h

theorem NotifiedAt.mono {l l' : List Conn} (hm : ConnsMono l l') {c : Cid} (h : NotifiedAt l c) : NotifiedAt l' c :=
  hm.at (·.notifiedM) h

theorem StartedAt.mono {l l' : List Conn} (hm : ConnsMono l l') {c : Cid} (h : StartedAt l c) : StartedAt l' c :=
  hm.at (·.startedM) h

theorem GStep.mono {cfg : Cfg} {s s' : State} {a : Action} (h : GStep cfg s a s') :
    ConnsMono s.conns s'.conns := fun _ k hk =>
  h.at_conn hk ⟨id, id, id⟩ CStep.mono (connMono_cNotify k) fun _ => connMono_cCloseByIdles k

theorem notifyAll_notified {s : State} {c : Nat} {k : Conn} (hk : s.conns[c]? = some k)
    (hr : k.registered = true) (ho : k.srvClosed = false) : NotifiedAt (notifyAll s).conns c :=
  ⟨cNotify k, by simp [notifyAll, List.getElem?_map, hk], by rw [cNotify, if_pos ⟨hr, ho⟩]⟩

theorem GStep.idle {cfg : Cfg} {s s' : State} {a : Action} (h : GStep cfg s a s') (hi : s.spc = .idle)
    (ha : a ≠ .shutdownCall) : s'.spc = .idle := by
  cases h with
  | shutdownCall => exact absurd rfl ha
  | setClosed hs | onShutdownRet hs | ctxExpire hs | ciEnd _ hs => rw [hi] at hs; cases hs
  | _ => exact hi

/-! ### runs -/

theorem isRun (cfg : Cfg) : Lts.IsRun (step cfg) (runFrom cfg) :=
  ⟨fun _ => rfl, fun s a _ => by rw [runFrom]; cases step cfg s a <;> rfl⟩

theorem runFrom_reachable {cfg : Cfg} {acts : List Action} {s s' : State} (hr : Reachable cfg s)
    (h : runFrom cfg s acts = some s') : Reachable cfg s' :=
  (isRun cfg).inv (Reachable.step _) hr h

theorem run_reachable {cfg : Cfg} {acts : List Action} {s : State} (h : run cfg acts = some s) :
    Reachable cfg s := runFrom_reachable Reachable.init h

theorem runFrom_notified {cfg : Cfg} {acts : List Action} {s s' : State} {c : Nat} (h : runFrom cfg s acts = some s')
    (hn : NotifiedAt s.conns c) : NotifiedAt s'.conns c :=
  (isRun cfg).inv (P := fun t => NotifiedAt t.conns c) (fun hn hs => hn.mono (GStep.of_step hs).mono) hn h

theorem runFrom_append {cfg : Cfg} {a b : List Action} : ∀ {s s' : State},
    runFrom cfg s (a ++ b) = some s' → ∃ m, runFrom cfg s a = some m ∧ runFrom cfg m b = some s' :=
  (isRun cfg).append_eq_some.1

end Tars.ServerConn
