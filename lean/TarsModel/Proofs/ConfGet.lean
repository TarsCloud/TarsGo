/-
  What the tree of a grammar document contains.  `semItems d cur` is looked at name by name
  (`semItems_find`); the node built for a (merged) domain is described by what the getters can see of
  it (`NodeOf`); `tree_at` follows a list of names from the root, `parsed_at` states the same of the
  tree `InitFromBytes` returns.  Then the two documents in which a key and a sub-domain share a name
  (`clash_key_first`, `clash_dom_first`: what `slot` gives outside `NoClash`), and the getters through a
  path string as functions of the value at the path.
-/
import TarsModel.Proofs.ConfRun

namespace Tars.Conf
open Tars

/-! ## last value of a key in a list of entries -/

def lastVal (es : List (Txt × Txt)) (k : Txt) : Option Txt := (es.reverse.find? (·.1 = k)).map Prod.snd

theorem lastVal_append (a b : List (Txt × Txt)) (k : Txt) :
    lastVal (a ++ b) k = (lastVal b k).or (lastVal a k) := by
  rw [lastVal, List.reverse_append, List.find?_append, Option.map_or]; rfl

theorem lastVal_cons (k' v : Txt) (es : List (Txt × Txt)) (k : Txt) :
    lastVal ((k', v) :: es) k = (lastVal es k).or (if k' = k then some v else none) := by
  rw [← List.singleton_append, lastVal_append]
  by_cases h : k' = k <;> simp [lastVal, h]

theorem lastVal_none_iff (es : List (Txt × Txt)) (k : Txt) : lastVal es k = none ↔ k ∉ es.map Prod.fst := by
  rw [lastVal, Option.map_eq_none_iff, List.find?_eq_none]
  simp only [List.mem_reverse, decide_eq_true_eq, List.mem_map, not_exists, not_and]

theorem lastVal_iff_decomp (es : List (Txt × Txt)) (k v : Txt) :
    lastVal es k = some v ↔ ∃ es1 es2, es = es1 ++ (k, v) :: es2 ∧ k ∉ es2.map Prod.fst := by
  constructor
  · intro h
    obtain ⟨⟨k', v'⟩, hf, hv⟩ := Option.map_eq_some_iff.mp h
    obtain ⟨hk, as, bs, he, hn⟩ := List.find?_eq_some_iff_append.mp hf
    cases hv; cases of_decide_eq_true hk
    refine ⟨bs.reverse, as.reverse, ?_, fun hm => ?_⟩
    · rw [← List.reverse_reverse es, he]; simp
    · obtain ⟨x, hx, e⟩ := List.mem_map.mp hm
      have := hn x (List.mem_reverse.mp hx)
      simp [e] at this
  · rintro ⟨e1, e2, rfl, hn⟩
    rw [lastVal_append, lastVal_cons, (lastVal_none_iff e2 k).mpr hn, if_pos rfl]; rfl

theorem mem_keysOf_iff (b : List Item) (k : Txt) : k ∈ keysOf b ↔ ∃ v, lastVal (entriesOf b) k = some v := by
  have := lastVal_none_iff (entriesOf b) k
  rw [keysOf]
  cases h : lastVal (entriesOf b) k with
  | none => exact ⟨fun hm => absurd hm (this.mp h), nofun⟩
  | some v => exact ⟨fun _ => ⟨v, rfl⟩, fun _ => Classical.byContradiction fun hn => nomatch h.symm.trans (this.mpr hn)⟩

/-! ## text -/

theorem foldl_semLine_find (ls : List Line) (cur : Elem) (n : Txt) :
    (ls.foldl semLine cur).findChild n =
      ((lastVal (ls.filterMap Line.entry) n).map (newLeaf n)).or (cur.findChild n) := by
  induction ls generalizing cur with
  | nil => rfl
  | cons l ls ih =>
    rw [List.foldl_cons, ih]
    rcases semLine_cases cur l with ⟨_, he, hs⟩ | ⟨ln, k, v, _, he, hs⟩
    · rw [List.filterMap_cons, he, hs]
    · rw [List.filterMap_cons, he, lastVal_cons, hs, Option.map_or, Option.or_assoc]
      congr 1
      by_cases hk : k = n
      · subst hk; rw [if_pos rfl]; exact findChild_addChild_same _ _ _
      · rw [if_neg hk]; exact (findChild_addChild_other _ _ _ _ hk).trans (findChild_addLine _ _ _)

theorem foldl_semLine_line (ls : List Line) (cur : Elem) :
    (ls.foldl semLine cur).line = cur.line ++ ls.filterMap Line.listed := by
  induction ls generalizing cur with
  | nil => exact (List.append_nil _).symm
  | cons l ls ih =>
    rw [List.foldl_cons, ih]
    rcases semLine_cases cur l with ⟨hl, _, hs⟩ | ⟨ln, k, v, hl, _, hs⟩
    · rw [List.filterMap_cons, hl, hs]
    · rw [List.filterMap_cons, hl, hs, line_addChild, line_addLine, List.append_assoc]; rfl

/-! ## items -/

def Elem.nodupKeys (e : Elem) : Prop := (e.children.map Prod.fst).Nodup

theorem semItems_nodup (d : List Item) (cur : Elem) (h : cur.nodupKeys) : (semItems d cur).nodupKeys :=
  semItems_pres Elem.nodupKeys (fun e l h => by rwa [Elem.nodupKeys, children_addLine])
    (fun e n c h => by rw [Elem.nodupKeys, children_addChild]; exact assocSet_nodup _ _ _ h) d cur h

theorem semItems_line (d : List Item) (cur : Elem) : (semItems d cur).line = cur.line ++ linesOf d := by
  induction d generalizing cur with
  | nil => rw [semItems_nil, linesOf, List.append_nil]
  | cons i is ih =>
    rw [semItems_cons, ih]
    cases i with
    | text t => rw [semItem_text, foldl_semLine_line, linesOf, List.append_assoc]
    | dom n body => rw [semItem_dom, line_addChild, linesOf]

/-- what the items of one level do to the child stored under `n`, in document order: a text with an
    entry for `n` puts a leaf there; a sub-domain `n` continues whatever is there, leaf or node -/
def slot (n : Txt) : List Item → Option Elem → Option Elem
  | [], x => x
  | .text t :: is, x => slot n is (((lastVal (t.lines.filterMap Line.entry) n).map (newLeaf n)).or x)
  | .dom m body :: is, x => slot n is (if m = n then some (semItems body (x.getD (newElem .node n))) else x)

theorem semItems_find (d : List Item) (cur : Elem) (n : Txt) :
    (semItems d cur).findChild n = slot n d (cur.findChild n) := by
  induction d generalizing cur with
  | nil => rfl
  | cons i is ih =>
    rw [semItems_cons, ih]
    cases i with
    | text t => rw [semItem_text, foldl_semLine_find, slot]
    | dom m body =>
      rw [semItem_dom, slot]
      by_cases hm : m = n
      · subst hm; rw [findChild_addChild_same, if_pos rfl, baseOf]; cases cur.findChild m <;> rfl
      · rw [findChild_addChild_other _ _ _ _ hm, if_neg hm]

theorem slot_key (d : List Item) (x : Option Elem) (n : Txt) (hn : n ∉ domsOf d) :
    slot n d x = ((lastVal (entriesOf d) n).map (newLeaf n)).or x := by
  induction d generalizing x with
  | nil => rfl
  | cons i is ih =>
    cases i with
    | text t => rw [slot, ih _ hn, entriesOf, lastVal_append, Option.map_or, Option.or_assoc]
    | dom m body =>
      rw [domsOf, List.mem_cons, not_or] at hn
      rw [slot, if_neg (Ne.symm hn.1), ih _ hn.2, entriesOf]

theorem bodyOf_notin (n : Txt) (d : List Item) (h : n ∉ domsOf d) : bodyOf n d = [] := by
  induction d with
  | nil => rfl
  | cons i is ih =>
    cases i with
    | text t => exact ih h
    | dom m body =>
      rw [domsOf, List.mem_cons, not_or] at h
      rw [bodyOf, if_neg (Ne.symm h.1), ih h.2]

theorem slot_dom (d : List Item) (x : Option Elem) (n : Txt) (hn : n ∉ keysOf d) (hd : n ∈ domsOf d) :
    slot n d x = some (semItems (bodyOf n d) (x.getD (newElem .node n))) := by
  induction d generalizing x with
  | nil => cases hd
  | cons i is ih =>
    cases i with
    | text t =>
      rw [keysOf, entriesOf, List.map_append, List.mem_append, not_or] at hn
      rw [slot, (lastVal_none_iff _ _).mpr hn.1, ih _ hn.2 hd]; rfl
    | dom m body =>
      rw [slot, bodyOf]
      by_cases hm : m = n
      · subst hm
        rw [if_pos rfl, if_pos rfl, semItems_append]
        by_cases hd' : m ∈ domsOf is
        · rw [ih _ hn hd']; rfl
        · rw [slot_key is _ m hd', (lastVal_none_iff (entriesOf is) m).mpr hn, bodyOf_notin m is hd', semItems_nil]
          rfl
      · rw [if_neg hm, if_neg hm, ih _ hn ((List.mem_cons.mp hd).resolve_left (Ne.symm hm))]

/-! ## the node of a domain -/

/-- `N` is the node of a (merged) domain whose items are `b`: what the getters can see of it.
    Its lines in document order; its children as a lookup — a leaf per key with the last written
    value, the node of the merged bodies per sub-domain; `ok` and `nodup` make every listing of the
    children a function of that lookup (`listing_mem`). -/
structure NodeOf (b : List Item) (N : Elem) : Prop where
  ok : N.ok = true
  nodup : N.nodupKeys
  line : N.line = linesOf b
  clash : ∀ n, n ∈ keysOf b → n ∉ domsOf b
  child : ∀ k, N.findChild k =
    if k ∈ domsOf b then some (semItems (bodyOf k b) (newElem .node k)) else (lastVal (entriesOf b) k).map (newLeaf k)

theorem nodeOf_sem (b : List Item) (m : Txt) (hc : ∀ n, n ∈ keysOf b → n ∉ domsOf b) :
    NodeOf b (semItems b (newElem .node m)) := by
  refine ⟨semItems_ok b _ rfl, semItems_nodup b _ List.nodup_nil, by rw [semItems_line]; rfl, hc, fun k => ?_⟩
  rw [semItems_find, show (newElem .node m).findChild k = none from rfl]
  split
  · next hd => exact slot_dom b none k (fun hk => hc k hk hd) hd
  · next hd => rw [slot_key b none k hd, Option.or_none]

namespace NodeOf
variable {b : List Item} {N : Elem} (h : NodeOf b N)
include h

theorem listing_mem {α : Type} (f : Txt × Elem → Bool) (g : Elem → α) (y : α) :
    y ∈ (N.children.filter f).map (fun c => g c.2) ↔
      ∃ e, N.findChild e.name = some e ∧ f (e.name, e) = true ∧ g e = y := by
  rw [List.mem_map]
  constructor
  · rintro ⟨⟨k, e⟩, hm, rfl⟩
    rw [List.mem_filter] at hm
    have hk := (Elem.ok_mem h.ok hm.1).1
    subst hk
    exact ⟨e, assocFind_of_mem _ _ _ h.nodup hm.1, hm.2, rfl⟩
  · rintro ⟨e, hfind, hfe, rfl⟩
    exact ⟨(e.name, e), List.mem_filter.mpr ⟨assocFind_some_mem _ _ _ hfind, hfe⟩, rfl⟩

theorem key (k v : Txt) (hv : lastVal (entriesOf b) k = some v) : N.findChild k = some (newLeaf k v) := by
  rw [h.child, if_neg (h.clash k ((mem_keysOf_iff b k).mpr ⟨v, hv⟩)), hv]; rfl

theorem dom (k : Txt) (hd : k ∈ domsOf b) : N.findChild k = some (semItems (bodyOf k b) (newElem .node k)) := by
  rw [h.child, if_pos hd]

theorem absent (k : Txt) (hk : k ∉ keysOf b) (hd : k ∉ domsOf b) : N.findChild k = none := by
  rw [h.child, if_neg hd, (lastVal_none_iff _ _).mpr hk]; rfl

theorem listing_nodup (f : Txt × Elem → Bool) : ((N.children.filter f).map (fun c => c.2.name)).Nodup := by
  have e : (N.children.filter f).map (fun c => c.2.name) = (N.children.filter f).map Prod.fst :=
    List.map_congr_left fun c hc => (Elem.ok_mem h.ok (List.mem_filter.mp hc).1).1
  rw [e]
  exact List.Nodup.sublist (List.Sublist.map _ List.filter_sublist) h.nodup

/-- `getMap` of the node: exactly the keys written in the domain, each with its last value -/
theorem map (x v : Txt) :
    (x, v) ∈ (N.children.filter (fun c => c.2.isLeaf)).map (fun c => (c.2.name, c.2.value))
      ↔ lastVal (entriesOf b) x = some v := by
  rw [h.listing_mem (fun c => c.2.isLeaf) fun e => (e.name, e.value)]
  constructor
  · rintro ⟨e, hfind, hl, hxv⟩
    rw [h.child] at hfind
    split at hfind
    · rw [← Option.some.inj hfind, Elem.isLeaf, semItems_kind] at hl; cases hl
    · obtain ⟨v', hv, he⟩ := Option.map_eq_some_iff.mp hfind
      rw [← he] at hxv; cases hxv; exact hv
  · exact fun hv => ⟨newLeaf x v, h.key x v hv, rfl, rfl⟩

/-- `getDomainKey` of the node: exactly the keys written in the domain -/
theorem keys (x : Txt) :
    x ∈ (N.children.filter (fun c => c.2.isLeaf)).map (fun c => c.2.name) ↔ x ∈ keysOf b := by
  have : (fun c : Txt × Elem => c.2.name) = Prod.fst ∘ fun c => (c.2.name, c.2.value) := rfl
  rw [mem_keysOf_iff, this, ← List.map_map, List.mem_map]
  exact ⟨fun ⟨⟨_, v⟩, hm, rfl⟩ => ⟨v, (h.map _ v).mp hm⟩, fun ⟨v, hv⟩ => ⟨(x, v), (h.map x v).mpr hv, rfl⟩⟩

/-- `getDomain` of the node: exactly the sub-domains written in the domain -/
theorem doms (x : Txt) :
    x ∈ (N.children.filter (fun c => c.2.isNode)).map (fun c => c.2.name) ↔ x ∈ domsOf b := by
  rw [h.listing_mem (fun c => c.2.isNode) Elem.name]
  constructor
  · rintro ⟨e, hfind, hl, rfl⟩
    rw [h.child] at hfind
    split at hfind
    · assumption
    · obtain ⟨v, _, he⟩ := Option.map_eq_some_iff.mp hfind
      rw [← he] at hl; cases hl
  · intro hd
    have hn : (semItems (bodyOf x b) (newElem .node x)).name = x := semItems_name _ _
    refine ⟨_, ?_, ?_, hn⟩
    · rw [hn]; exact h.dom x hd
    · rw [Elem.isNode, semItems_kind]; rfl

end NodeOf

/-! ## following a list of names -/

theorem noClash_iff (d : List Item) :
    NoClash d ↔ (∀ n, n ∈ keysOf d → n ∉ domsOf d) ∧ ∀ n, n ∈ domsOf d → NoClash (bodyOf n d) := by
  constructor
  · refine fun h => ⟨h [] d rfl, fun n hn p b hd => h (n :: p) b ?_⟩
    rw [descend, if_pos hn, hd]
  · rintro ⟨h0, h1⟩ p b hd
    cases p with
    | nil => cases hd; exact h0
    | cons n p =>
      rw [descend] at hd
      split at hd
      · rename_i hn; exact h1 n hn p b hd
      · cases hd

theorem getElem_append (e : Elem) (p q : List Txt) :
    getElem e (p ++ q) = match getElem e p with | none => none | some t => getElem t q := by
  induction p generalizing e with
  | nil => rfl
  | cons n p ih =>
    rw [List.cons_append, getElem, getElem]
    cases e.findChild n with
    | none => rfl
    | some t => exact ih t

theorem getValueV_key {e : Elem} {p : List Txt} {k : Txt} {N : Elem} {o : Option Elem} (hg : getElem e p = some N)
    (hf : N.findChild k = o) : getValueV e (p ++ [k]) = o.map Elem.value := by
  subst hf
  rw [getValueV, getElem_append, hg]
  show (getElem N [k]).map _ = _
  rw [getElem]
  cases N.findChild k <;> rfl

/-- nothing below it and no lines: on `none` and on a leaf every listing comes out empty -/
def Bare (o : Option Elem) : Prop := ∀ e, o = some e → e.children = [] ∧ e.line = []

theorem tree_at (p : List Txt) : ∀ (d : List Item) (m : Txt), NoClash d →
    match descend d p with
    | some b => ∃ N, getElem (semItems d (newElem .node m)) p = some N ∧ NodeOf b N
    | none => Bare (getElem (semItems d (newElem .node m)) p) := by
  induction p with
  | nil => exact fun d m hc => ⟨_, rfl, nodeOf_sem d m ((noClash_iff d).mp hc).1⟩
  | cons n p ih =>
    intro d m hc
    obtain ⟨hc0, hc1⟩ := (noClash_iff d).mp hc
    by_cases hn : n ∈ domsOf d
    · rw [descend, if_pos hn, getElem, (nodeOf_sem d m hc0).dom n hn]
      exact ih _ n (hc1 n hn)
    · rw [descend, if_neg hn, getElem, semItems_find, slot_key d _ n hn]
      cases lastVal (entriesOf d) n with
      | none => exact nofun
      | some v =>
        cases p with
        | nil => rintro _ ⟨⟩; exact ⟨rfl, rfl⟩
        | cons m p => exact nofun

theorem parsed_at (d : Doc) (hwf : wfL d = true) (hc : NoClash d) (t : Elem)
    (ht : initFromTokens .repaired ⟨tokensL d, false⟩ = .ok t) (p : List Txt) :
    match descend d p with
    | some b => ∃ N, getElem t p = some N ∧ NodeOf b N
    | none => Bare (getElem t p) := by
  obtain rfl : semItems d newRoot = t := Outcome.ok.inj ((parsed_repaired d hwf).symm.trans ht)
  exact tree_at p d rootName hc

theorem parsed_node (d : Doc) (hwf : wfL d = true) (hc : NoClash d) (t : Elem)
    (ht : initFromTokens .repaired ⟨tokensL d, false⟩ = .ok t) (p : List Txt) (b : List Item)
    (hd : descend d p = some b) : ∃ N, getElem t p = some N ∧ NodeOf b N := by
  have h := parsed_at d hwf hc t ht p
  rwa [hd] at h

/-! ## the name-clash documents -/

theorem clash_key_first (n v : Txt) (body : List Item) :
    semItems [.text ⟨[.kv [] n [] (some ([], v)) []], []⟩, .dom n body] newRoot
      = (newRoot.addLine (n ++ eqCh :: (if v.isEmpty then [] else v))).addChild n (semItems body (newLeaf n v)) := by
  rw [semItems_cons, semItems_cons, semItems_nil, semItem_dom, semItem_text, baseOf]
  simp only [List.foldl_cons, List.foldl_nil, semLine, Line.listed, Line.entry, List.nil_append,
    findChild_addChild_same, addChild_addChild]

theorem clash_dom_first (n v : Txt) (body : List Item) :
    (semItems [.dom n body, .text ⟨[.kv [] n [] (some ([], v)) []], []⟩] newRoot).findChild n = some (newLeaf n v) := by
  rw [semItems_find, slot, slot, slot]
  simp [lastVal, Line.entry]

/-! ## getters through a path string -/

theorem getString_of_value (t : Elem) (path dflt : Txt) :
    GetStringWithDef t path dflt = (getValueV t (analysisPath path)).getD dflt := by
  rw [GetStringWithDef]; cases getValueV t (analysisPath path) <;> rfl

theorem getTyped_of_value {α : Type} (parse : Txt → Option α) (t : Elem) (path : Txt) (dflt : α) :
    getTypedWithDef parse t path dflt = ((getValueV t (analysisPath path)).bind parse).getD dflt := by
  rw [getTypedWithDef]
  cases getValueV t (analysisPath path) with
  | none => rfl
  | some v => show (match parse v with | none => dflt | some x => x) = (parse v).getD dflt; cases parse v <;> rfl

theorem getters_of_value (t : Elem) (path : Txt) (q : List Txt) (o : Option Txt) (hq : analysisPath path = q)
    (h : getValueV t q = o) :
    (∀ dflt, GetStringWithDef t path dflt = o.getD dflt) ∧ GetString t path = o.getD [] ∧
    (∀ dflt, GetIntWithDef t path dflt = (o.bind (parseIntBits 64)).getD dflt) ∧
    GetInt t path = (o.bind (parseIntBits 64)).getD 0 ∧
    (∀ dflt, GetInt32WithDef t path dflt = (o.bind (parseIntBits 32)).getD dflt) ∧
    (∀ dflt, GetBoolWithDef t path dflt = (o.bind parseBool).getD dflt) ∧
    (∀ (F : Type) (parseFloat : Txt → Option F) dflt,
      GetFloatWithDef parseFloat t path dflt = (o.bind parseFloat).getD dflt) := by
  subst hq h
  have typed : ∀ (α : Type) (f : Txt → Option α) (dflt : α), getTypedWithDef f t path dflt = _ :=
    fun α f dflt => getTyped_of_value f t path dflt
  exact ⟨getString_of_value t path, getString_of_value t path [], typed Int _, typed Int _ 0, typed Int _,
    typed Bool _, typed⟩

end Tars.Conf
