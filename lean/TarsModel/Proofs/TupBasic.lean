import TarsModel.Proofs.WireExact
import TarsModel.Proofs.WireFwd
import TarsModel.Model.Tup

/-!
  TUP attribute set (`Model/Tup.lean`): what one loop iteration of
  `UniAttribute.Decode` and the whole loop do on ANY input — the outcome is a value or a plain
  error, every byte allocated is paid for by a byte of input that is left behind, and every key /
  value stored is a contiguous piece of the input.
-/
namespace Tars.Tup
open Tars Consts

theorem bytesAlloc_eq (len : Int) (r : Reader) :
    bytesAlloc len r = if len < 0 ∨ (r.remaining : Int) < len then 0 else len.toNat := by
  unfold bytesAlloc
  by_cases h : len < 0 ∨ (r.remaining : Int) < len
  · rw [if_pos h, checkLength_of_gt h]
  · rw [if_neg h, checkLength_of_le (by omega) (by omega)]

theorem readBytes_sat (len : Int) (r : Reader) : Sat (readBytes len r)
    (fun v r' => r.Le r' ∧ bytesAlloc len r + r'.remaining ≤ r.remaining ∧ v <:+: r.data.toList ∧
      v.length = bytesAlloc len r)
    (fun e r' => PlainAt r e r' ∧ bytesAlloc len r + r'.remaining ≤ r.remaining) := by
  unfold bytesAlloc
  rcases readBytes_cases len r with ⟨hc, hr⟩ | ⟨hc, hn, hr⟩ <;> rw [hc, hr]
  · exact ⟨⟨.refl r, rfl⟩, Nat.le_of_eq (Nat.zero_add _)⟩
  · have hl : (takeFrom r.data r.pos len.toNat).length = len.toNat := by
      rw [takeFrom_length]; exact Nat.min_eq_left hn
    refine ⟨r.le_adv _, ?_, takeFrom_infix _ _ _, hl⟩
    simp only [Reader.remaining, Reader.adv_data, Reader.adv_pos] at hn ⊢; omega

theorem readString_key_sat (r : Reader) : Sat (readString [] 0 false r)
    (fun s r' => r.Le r' ∧ s <:+: r.data.toList ∧ s.length + r'.remaining ≤ r.remaining) (PlainAt r) := by
  have s1 := readString_fwd [] 0 false r
  cases h1 : readString [] 0 false r with
  | mk res r' =>
    rw [h1] at s1
    cases res with
    | error e => exact s1
    | ok s =>
      refine ⟨s1, ?_⟩
      rcases readString_exact h1 with ⟨ty, hs, rfl, _⟩ | ⟨ty, r1, _, _, hs, _⟩
      · exact ⟨List.nil_infix, by simpa using (skipToNoCheck_found hs).1.remaining⟩
      · obtain ⟨⟨p, hp⟩, hpaid⟩ := readString_found h1 hs
        exact ⟨hp ▸ takeFrom_infix _ _ _, by omega⟩

structure EntryOK (r : Reader) (o : EntryOut) : Prop where
  le : r.Le o.rd
  plain : PlainRes o.res
  paid : o.alloc + o.rd.remaining ≤ r.remaining
  stored : ∀ k v, o.res = .ok (some (k, v)) →
    k <:+: r.data.toList ∧ v <:+: r.data.toList ∧ k.length + v.length ≤ o.alloc

/-- the exits behind the key that store nothing: the key is paid for at `r1` already -/
theorem EntryOK.behind_key {r r1 r' : Reader} {k : Bytes} {res : Except Err (Option (Bytes × Bytes))}
    (le1 : r.Le r1) (kal : k.length + r1.remaining ≤ r.remaining) (le : r1.Le r') (hp : PlainRes res)
    (hn : ∀ p, res ≠ .ok (some p)) : EntryOK r ⟨res, k.length, r'⟩ :=
  ⟨le1.trans le, hp, Nat.le_trans (Nat.add_le_add_left le.remaining _) kal, fun _ _ h => absurd h (hn _)⟩

/-- one `Sat.elim` per call of `decodeEntry`; its error branch is the exit taken there -/
theorem decodeEntry_spec (r : Reader) : EntryOK r (decodeEntry r) := by
  have plain {α : Type} {e : Err} (h : e.isPlain = true) : PlainRes (.error e : Except Err α) :=
    (plainRes_error e).mpr h
  unfold decodeEntry
  refine (readString_key_sat r).elim
    (fun e r' h => ⟨h.1, plain h.2, by simpa using h.1.remaining, nofun⟩) (fun k r1 h1 => ?_)
  obtain ⟨le1, kin, kal⟩ := h1
  dsimp only
  refine (skipToNoCheck_sat 1 false r1).elim
    (fun e r' h => .behind_key le1 kal h.1 (plain h.2) nofun) (fun p r2 h2 => ?_)
  obtain ⟨hv, ty⟩ := p
  cases hv with
  | false => exact .behind_key le1 kal h2.1 (plainRes_ok _) nofun
  | true =>
  dsimp only
  split
  case isFalse => exact .behind_key le1 kal h2.1 (plain rfl) nofun
  refine (skipTo_sat tyBYTE 0 true r2).elim
    (fun e r' h => .behind_key le1 kal (h2.1.trans h.1) (plain h.2) nofun) (fun _ r3 h3 => ?_)
  have le3 : r1.Le r3 := h2.1.trans h3.1
  dsimp only
  refine Sat.elim (readInt32_fwd 0 0 true r3)
    (fun e r' h => .behind_key le1 kal (le3.trans h.1) (plain h.2) nofun)
    (fun byteLen r4 h4 => ?_)
  have le4 : r1.Le r4 := le3.trans h4
  have := le4.remaining
  dsimp only
  refine (readBytes_sat byteLen r4).elim
    (fun e r' h => ⟨le1.trans (le4.trans h.1.1), plain h.1.2, by simp only; omega, nofun⟩)
    (fun v r5 h5 => ⟨le1.trans (le4.trans h5.1), plainRes_ok _, by simp only; omega, ?_⟩)
  intro k' v' hkv
  cases hkv
  exact ⟨kin, (le1.trans le4).1 ▸ h5.2.2.1, by simp only; omega⟩

theorem mem_put {m : TupMap} {k v : Bytes} {p : Bytes × Bytes} (h : p ∈ put m k v) :
    p = (k, v) ∨ p ∈ m := by
  rcases List.mem_cons.mp h with h | h
  · exact .inl h
  · exact .inr (List.mem_filter.mp h).1

def dataBytes : TupMap → Nat
  | [] => 0
  | (k, v) :: rest => k.length + v.length + dataBytes rest

theorem dataBytes_eq (es : TupMap) : dataBytes es = (es.map fun p => p.1.length + p.2.length).sum := by
  induction es with
  | nil => rfl
  | cons p rest ih => simp [dataBytes, ih]

theorem dataBytes_filter (m : TupMap) (f : Bytes × Bytes → Bool) :
    dataBytes (m.filter f) ≤ dataBytes m := by
  induction m with
  | nil => exact Nat.le_refl _
  | cons p rest ih =>
    rw [List.filter_cons]
    split <;> simp only [dataBytes] <;> omega

theorem dataBytes_put (m : TupMap) (k v : Bytes) :
    dataBytes (put m k v) ≤ dataBytes m + k.length + v.length := by
  have := dataBytes_filter m (fun p => !(p.1 == k))
  simp only [put, dataBytes]
  omega

theorem decodeLoop_succ (n : Nat) (m : TupMap) (it al : Nat) (r : Reader) :
    decodeLoop (n + 1) m it al r =
      match (decodeEntry r).res with
      | .error e => ⟨some e, m, (decodeEntry r).rd, it + 1, al + (decodeEntry r).alloc⟩
      | .ok none => decodeLoop n m (it + 1) (al + (decodeEntry r).alloc) (decodeEntry r).rd
      | .ok (some (k, v)) =>
        decodeLoop n (put m k v) (it + 1) (al + (decodeEntry r).alloc) (decodeEntry r).rd := by
  rw [decodeLoop]
  rcases decodeEntry r with ⟨_ | _ | ⟨_, _⟩, _, _⟩ <;> rfl

/-- what `n` more iterations from `r` with the counters at `it`, `al` and the map `m` guarantee -/
structure LoopOK (m : TupMap) (r : Reader) (it al n : Nat) (o : Out) : Prop where
  plain : ∀ e, o.err = some e → e.isPlain = true
  inside : ∀ p ∈ o.data, p ∈ m ∨ (p.1 <:+: r.data.toList ∧ p.2 <:+: r.data.toList)
  iters : o.iters ≤ it + n
  paid : o.alloc + o.rd.remaining ≤ al + r.remaining
  grown : dataBytes o.data + al ≤ dataBytes m + o.alloc

theorem LoopOK.exit {m : TupMap} {r r' : Reader} {it al n : Nat} (e : Option Err) (le : r.Le r')
    (he : ∀ e', e = some e' → e'.isPlain = true) : LoopOK m r it al n ⟨e, m, r', it, al⟩ :=
  ⟨he, fun _ hp => .inl hp, Nat.le_add_right _ _, Nat.add_le_add_left le.remaining _, Nat.le_refl _⟩

theorem LoopOK.of_le {m : TupMap} {r r1 : Reader} {it al n : Nat} {o : Out} (le : r.Le r1)
    (h : LoopOK m r1 it al n o) : LoopOK m r it al n o :=
  ⟨h.plain, le.1 ▸ h.inside, h.iters,
    Nat.le_trans h.paid (Nat.add_le_add_left le.remaining _), h.grown⟩

theorem decodeLoop_spec : ∀ (n : Nat) (m : TupMap) (it al : Nat) (r : Reader),
    LoopOK m r it al n (decodeLoop n m it al r) := by
  intro n
  induction n with
  | zero => intro m it al r; exact .exit none (.refl _) nofun
  | succ n ih =>
    intro m it al r
    have e := decodeEntry_spec r
    have epaid := e.paid
    simp only [decodeLoop_succ]
    split
    next err he =>
      exact ⟨fun e' he' => e.plain e' (by cases he'; exact he), fun p hp => .inl hp, by simp only; omega,
        by simp only; omega, by simp only; omega⟩
    next he =>
      have i := ih m (it + 1) (al + (decodeEntry r).alloc) (decodeEntry r).rd
      have := i.iters; have := i.paid; have := i.grown
      exact ⟨i.plain, e.le.1 ▸ i.inside, by omega, by omega, by omega⟩
    next k v he =>
      have i := ih (put m k v) (it + 1) (al + (decodeEntry r).alloc) (decodeEntry r).rd
      have := i.iters; have := i.paid; have := i.grown
      obtain ⟨kin, vin, ea⟩ := e.stored k v he
      have hp := dataBytes_put m k v
      refine ⟨i.plain, fun p hp => ?_, by omega, by omega, by omega⟩
      -- an entry of the result was stored before, is the one stored here, or was stored later
      rcases (e.le.1 ▸ i.inside) p hp with h | h
      · rcases mem_put h with rfl | h
        · exact .inr ⟨kin, vin⟩
        · exact .inl h
      · exact .inr h

/-- `Decode` (both variants) is the loop behind a header that stores nothing; with the count
validated the loop is entered with a count that the input left covers -/
theorem decodeV_spec (chk : Bool) (m0 : TupMap) (r : Reader) :
    ∃ n, (chk = true → n ≤ r.remaining) ∧ LoopOK m0 r 0 0 n (decodeV chk m0 r) := by
  have out {e : Err} {r' : Reader} (le : r.Le r') (he : e.isPlain = true) :
      ∃ n, (chk = true → n ≤ r.remaining) ∧ LoopOK m0 r 0 0 n ⟨some e, m0, r', 0, 0⟩ :=
    ⟨0, fun _ => Nat.zero_le _, .exit _ le fun _ h => Option.some.inj h ▸ he⟩
  unfold decodeV
  refine (skipTo_sat tyMAP 0 false r).elim (fun _ _ h => out h.1 h.2) (fun _ r1 h1 => ?_)
  dsimp only
  refine Sat.elim (readInt32_fwd 0 0 true r1)
    (fun _ _ h => out (h1.1.trans h.1) h.2) (fun length r2 h2 => ?_)
  have le2 : r.Le r2 := h1.1.trans h2
  cases chk with
  | false => exact ⟨_, nofun, .of_le le2 (decodeLoop_spec _ m0 0 0 r2)⟩
  | true =>
    dsimp only [if_true]
    refine (checkLength_sat length r2).elim (fun _ _ h => out (le2.trans h.1) h.2) (fun _ r3 h3 => ?_)
    rw [h3.1]
    exact ⟨_, fun _ => Nat.le_trans h3.2 le2.remaining, .of_le le2 (decodeLoop_spec _ m0 0 0 r2)⟩

end Tars.Tup
