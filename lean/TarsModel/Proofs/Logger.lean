/-
  Invariants of the log-queue LTS (`Model/Logger.lean`) and their consequences.

  The inductive invariant is `logged = written ++ hand ++ queue` (conservation: every entry whose
  send completed is written, in the flusher's hand, or still queued — in that order), plus: the
  cut taken at the flush request is a prefix of `logged`, and — repaired variant only — the flusher
  reaches `asyncCancel()` only after it has observed an empty queue *after* the request, i.e. with
  the cut a prefix of `written`.
-/
import TarsModel.Model.Logger
import TarsModel.Proofs.Lts

namespace Tars.Logger

inductive Step (v : Variant) (cap : Nat) (s : State) : Action → State → Prop
  | logCall (e : Entry) : busy s e.g = false →
      Step v cap s (.logCall e) { s with inCall := s.inCall ++ [e], called := s.called ++ [e] }
  | enq (g : Nat) (e : Entry) : s.inCall.find? (fun e => e.g == g) = some e → s.queue.length < cap →
      Step v cap s (.enq g) { s with inCall := s.inCall.erase e, sent := s.sent ++ [e],
                                     queue := s.queue ++ [e], logged := s.logged ++ [e] }
  | logRet (g : Nat) (e : Entry) : s.sent.find? (fun e => e.g == g) = some e →
      Step v cap s (.logRet g) { s with sent := s.sent.erase e, returned := s.returned ++ [e] }
  | fOuterRecv (e : Entry) (q : List Entry) : s.fpc = .outer → s.queue = e :: q →
      Step v cap s .fOuterRecv { s with fpc := .writing e .loop, queue := q }
  | fOuterDefault : s.fpc = .outer → s.queue = [] → Step v cap s .fOuterDefault { s with fpc := .inner }
  | fInnerRecv (e : Entry) (q : List Entry) : s.fpc = .inner → s.queue = e :: q →
      Step v cap s .fInnerRecv { s with fpc := .writing e .loop, queue := q }
  | fInnerSync : s.fpc = .inner → s.syncReq = true →
      Step v cap s .fInnerSync { s with fpc := match v with | .asFound => .ack | .repaired => .drain }
  | fWrite (e : Entry) (r : Ret) : s.fpc = .writing e r →
      Step v cap s .fWrite { s with fpc := match r with | .loop => .outer | .drain => .drain,
                                    writes := s.writes ++ [e.call], written := s.written ++ [e] }
  | fDrainRecv (e : Entry) (q : List Entry) : s.fpc = .drain → s.queue = e :: q →
      Step v cap s .fDrainRecv { s with fpc := .writing e .drain, queue := q }
  | fDrainDefault : s.fpc = .drain → s.queue = [] → Step v cap s .fDrainDefault { s with fpc := .ack }
  | fAck : s.fpc = .ack → Step v cap s .fAck { s with fpc := .exited, asyncDone := true }
  | flushCall : s.flush = .idle → Step v cap s .flushCall { s with flush := .called }
  | flushSync : s.flush = .called →
      Step v cap s .flushSync { s with flush := .waiting, syncReq := true,
                                       cutLogged := some s.logged, cutReturned := s.returned }
  | flushDone : s.flush = .waiting → s.asyncDone = true →
      Step v cap s .flushDone { s with flush := .returned true }
  | flushTimeout : s.flush = .waiting → Step v cap s .flushTimeout { s with flush := .returned false }

theorem Step.of_step {v : Variant} {cap : Nat} {s s' : State} {a : Action}
    (hs : step v cap s a = some s') : Step v cap s a s' := by
  -- the first `split` is on the action, the second on its guard; the goals that remain come in the
  -- order of the constructors of `Action`, one per rule (splitting after `cases a` is slower to check)
  unfold step at hs
  split at hs <;> split at hs <;> try contradiction
  · next e hb => cases hs; exact .logCall e (Bool.eq_false_iff.mpr hb)
  · next g _ e hf => split at hs <;> cases hs; exact .enq g e hf ‹_›
  · next g _ e hf => cases hs; exact .logRet g e hf
  · next e q hp hq => cases hs; exact .fOuterRecv e q hp hq
  · next hp hq => cases hs; exact .fOuterDefault hp hq
  · next e q hp hq => cases hs; exact .fInnerRecv e q hp hq
  · next hp => split at hs <;> cases hs; exact .fInnerSync hp ‹_›
  · next e r hp => cases hs; exact .fWrite e r hp
  · next e q hp hq => cases hs; exact .fDrainRecv e q hp hq
  · next hp hq => cases hs; exact .fDrainDefault hp hq
  · next hp => cases hs; exact .fAck hp
  · next hp => cases hs; exact .flushCall hp
  · next hp => cases hs; exact .flushSync hp
  · next hp => split at hs <;> cases hs; exact .flushDone hp ‹_›
  · next hp => cases hs; exact .flushTimeout hp

theorem Step.to_step {v : Variant} {cap : Nat} {s s' : State} {a : Action} (h : Step v cap s a s') :
    step v cap s a = some s' := by
  -- the `match` on `v` and on `r` in the rules is not the one in `step` before it is decided
  cases h with
  | fInnerSync => cases v <;> simp_all [step]
  | fWrite _ r => cases r <;> simp_all [step]
  | _ => simp_all [step]

theorem Step.enabled {v : Variant} {cap : Nat} {s s' : State} {a : Action} (h : Step v cap s a s') :
    (step v cap s a).isSome = true := by
  rw [h.to_step]; rfl

/-- the flusher has taken the `<-syncDone.Done()` case -/
def FPc.afterSync : FPc → Bool
  | .writing _ .drain => true
  | .drain => true
  | .ack => true
  | .exited => true
  | _ => false

/-- the flusher has reached `asyncCancel()` -/
def FPc.acked : FPc → Bool
  | .ack => true
  | .exited => true
  | _ => false

theorem afterSync_of_acked {p : FPc} (h : p.acked = true) : p.afterSync = true := by
  cases p <;> first | rfl | exact nomatch h

theorem filter_erase_found {g0 : Nat} (g : Nat) {l : List Entry} {e : Entry}
    (hf : l.find? (fun x => x.g == g0) = some e) :
    [e].filter (fun x => x.g == g) ++ (l.erase e).filter (fun x => x.g == g)
      = l.filter (fun x => x.g == g) := by
  obtain ⟨hp, as, bs, rfl, has⟩ := List.find?_eq_some_iff_append.mp hf
  have hnot : e ∉ as := fun hm => by simpa [hp] using has e hm
  rw [List.erase_append_right _ hnot, List.erase_cons_head, List.filter_append, List.filter_append]
  by_cases he : (e.g == g) = true
  · -- `g = g0`, and `as` holds nothing of goroutine `g0`
    have : as.filter (fun x => x.g == g) = [] := List.filter_eq_nil_iff.mpr fun a ha => by
      simpa [← beq_iff_eq.mp he, beq_iff_eq.mp hp] using has a ha
    simp [this, he]
  · simp [he]

/-- The property is read off `conserve`, `writesEq`, `callOrder` (order, once, undivided: both
variants), `cutRet` + `ackCut` + `done` + `retDone` (completeness: repaired) and `waitSync` + `done`
(progress); the other fields only make these inductive. -/
structure Inv (v : Variant) (s : State) : Prop where
  callOrder : ∀ g, s.called.filter (fun x => x.g == g)
    = s.logged.filter (fun x => x.g == g) ++ s.inCall.filter (fun x => x.g == g)
  conserve : s.logged = s.written ++ (s.fpc.hand ++ s.queue)
  writesEq : s.writes = s.written.map Entry.call
  /-- a call between its send and its return has been sent (feeds `retLogged`) -/
  sentLogged : s.sent ⊆ s.logged
  /-- a returned call has been sent (makes `cutRet` hold at the request) -/
  retLogged : s.returned ⊆ s.logged
  cutPrefix : ∀ c, s.cutLogged = some c → c <+: s.logged
  cutRet : ∀ c, s.cutLogged = some c → s.cutReturned ⊆ c
  syncCut : s.syncReq = true → ∃ c, s.cutLogged = some c
  afterSync : s.fpc.afterSync = true → s.syncReq = true
  /-- repaired: `asyncCancel()` is reached only from the drain loop's `default`, i.e. with the
  whole cut written -/
  ackCut : v = .repaired → s.fpc.acked = true → ∃ c, s.cutLogged = some c ∧ c <+: s.written
  /-- `asyncDone` is cancelled by the flusher's last statement and by nothing else -/
  done : s.asyncDone = decide (s.fpc = .exited)
  /-- while `FlushLogger` waits, the request is out (so the flusher's `syncDone` case is enabled) -/
  waitSync : s.flush = .waiting → s.syncReq = true
  /-- the request is made by `FlushLogger` after it was entered (`flushSync` happens once) -/
  syncFlush : s.syncReq = true → s.flush ≠ .idle ∧ s.flush ≠ .called
  retDone : s.flush = .returned true → s.asyncDone = true

theorem inv_init (v : Variant) : Inv v init := by
  constructor <;> simp [init, FPc.hand, FPc.afterSync, FPc.acked]

/-- Every action of the flusher rewrites `hand ++ queue` (and `written`) in place and moves the pc
along `flushLog`; the other fields of the invariant do not see it. -/
theorem inv_step {v : Variant} {cap : Nat} {s s' : State} {a : Action}
    (h : Inv v s) (hs : step v cap s a = some s') : Inv v s' := by
  have hc := h.conserve
  have hd := h.done
  have hy := h.afterSync
  cases Step.of_step hs with
  | logCall e _ =>
    exact { h with
      callOrder := fun g => by
        show (s.called ++ [e]).filter _ = _ ++ (s.inCall ++ [e]).filter _
        rw [List.filter_append, List.filter_append, h.callOrder g, List.append_assoc] }
  | enq g e hf _ =>
    exact { h with
      callOrder := fun g' => by
        show _ = (s.logged ++ [e]).filter _ ++ (s.inCall.erase e).filter _
        rw [List.filter_append, List.append_assoc, filter_erase_found g' hf, h.callOrder g']
      conserve := by
        show s.logged ++ [e] = s.written ++ (s.fpc.hand ++ (s.queue ++ [e]))
        rw [hc, List.append_assoc, List.append_assoc]
      cutPrefix := fun c hcut => (h.cutPrefix c hcut).trans (List.prefix_append _ _)
      sentLogged := List.append_subset.mpr
        ⟨List.subset_append_of_subset_left _ h.sentLogged, List.subset_append_right _ _⟩
      retLogged := List.subset_append_of_subset_left _ h.retLogged }
  | logRet g e hf =>
    exact { h with
      sentLogged := fun x hx => h.sentLogged (List.mem_of_mem_erase hx)
      retLogged := List.append_subset.mpr
        ⟨h.retLogged, List.cons_subset.mpr ⟨h.sentLogged (List.mem_of_find?_eq_some hf), List.nil_subset _⟩⟩ }
  | fOuterRecv e q hp hq | fInnerRecv e q hp hq =>
    rw [hp] at hc hd
    rw [hq] at hc
    exact { h with conserve := hc, done := hd, afterSync := nofun, ackCut := fun _ => nofun }
  | fOuterDefault hp hq =>
    rw [hp] at hc hd
    exact { h with conserve := hc, done := hd, afterSync := nofun, ackCut := fun _ => nofun }
  | fInnerSync hp hsync =>
    rw [hp] at hc hd
    cases v with
    | asFound => exact { h with conserve := hc, done := hd, afterSync := fun _ => hsync, ackCut := nofun }
    | repaired =>
      exact { h with conserve := hc, done := hd, afterSync := fun _ => hsync, ackCut := fun _ => nofun }
  | fWrite e r hp =>
    rw [hp] at hc hd hy
    have hc' : s.logged = (s.written ++ [e]) ++ ([] ++ s.queue) := by rw [hc, List.append_assoc]; rfl
    have hw : s.writes ++ [e.call] = (s.written ++ [e]).map Entry.call := by
      rw [List.map_append, ← h.writesEq]; rfl
    cases r with
    | loop =>
      exact { h with conserve := hc', writesEq := hw, done := hd, afterSync := nofun,
                     ackCut := fun _ => nofun }
    | drain =>
      exact { h with conserve := hc', writesEq := hw, done := hd, afterSync := fun _ => hy rfl,
                     ackCut := fun _ => nofun }
  | fDrainRecv e q hp hq =>
    rw [hp] at hc hd hy
    rw [hq] at hc
    exact { h with conserve := hc, done := hd, afterSync := fun _ => hy rfl, ackCut := fun _ => nofun }
  | fDrainDefault hp hq =>
    -- the queue was seen empty after the request: everything logged so far is written
    rw [hp] at hc hd hy
    have hlw : s.logged = s.written := by rw [hc, hq]; exact List.append_nil _
    obtain ⟨c, hcut⟩ := h.syncCut (hy rfl)
    exact { h with conserve := hc, done := hd, afterSync := fun _ => hy rfl,
                   ackCut := fun _ _ => ⟨c, hcut, hlw ▸ h.cutPrefix c hcut⟩ }
  | fAck hp =>
    rw [hp] at hc hy
    exact { h with conserve := hc, done := rfl, afterSync := fun _ => hy rfl, retDone := fun _ => rfl,
                   ackCut := fun hv _ => h.ackCut hv (by rw [hp]; rfl) }
  | flushCall hp =>
    exact { h with syncFlush := fun hx => absurd hp (h.syncFlush hx).1, waitSync := nofun,
                   retDone := nofun }
  | flushSync hp =>
    have hns : ¬ s.syncReq = true := fun hx => (h.syncFlush hx).2 hp
    exact { h with
      cutPrefix := fun c hcut => Option.some.inj hcut ▸ List.prefix_refl _
      syncCut := fun _ => ⟨_, rfl⟩
      waitSync := fun _ => rfl
      syncFlush := fun _ => ⟨nofun, nofun⟩
      cutRet := fun c hcut => Option.some.inj hcut ▸ h.retLogged
      afterSync := fun _ => rfl
      -- `asyncCancel()` is only reached through the `syncDone` case, which needs the request; but
      -- `flushSync` is the request and is enabled only before it
      ackCut := fun _ hx => absurd (hy (afterSync_of_acked hx)) hns
      retDone := nofun }
  | flushDone hp hdone =>
    exact { h with syncFlush := fun _ => ⟨nofun, nofun⟩, waitSync := nofun, retDone := fun _ => hdone }
  | flushTimeout hp =>
    exact { h with syncFlush := fun _ => ⟨nofun, nofun⟩, waitSync := nofun, retDone := nofun }

theorem inv_reachable {v : Variant} {cap : Nat} {s : State} (h : Reachable v cap s) : Inv v s := by
  induction h with
  | init => exact inv_init v
  | step a _ hs ih => exact inv_step ih hs

theorem isRun (v : Variant) (cap : Nat) : Lts.IsRun (step v cap) (runFrom v cap) :=
  ⟨fun _ => rfl, fun s a _ => by rw [runFrom]; cases step v cap s a <;> rfl⟩

theorem run_reachable {v : Variant} {cap : Nat} {acts : List Action} {s : State}
    (h : run v cap acts = some s) : Reachable v cap s :=
  (isRun v cap).inv (Reachable.step _) Reachable.init h

theorem inv_run {v : Variant} {cap : Nat} {acts : List Action} {s : State} (h : run v cap acts = some s) : Inv v s :=
  inv_reachable (run_reachable h)

theorem reachable_run {v : Variant} {cap : Nat} {s : State} (h : Reachable v cap s) :
    ∃ acts, run v cap acts = some s := by
  induction h with
  | init => exact ⟨[], rfl⟩
  | step a _ hs ih =>
    obtain ⟨acts, hacts⟩ := ih
    exact ⟨acts ++ [a], (isRun v cap).append_eq_some.2 ⟨_, hacts, (isRun v cap).cons_eq_some.2 ⟨_, hs, rfl⟩⟩⟩

theorem written_prefix_logged {v : Variant} {s : State} (h : Inv v s) : s.written <+: s.logged :=
  h.conserve ▸ List.prefix_append _ _

theorem logged_filter_prefix_called {v : Variant} {s : State} (h : Inv v s) (g : Nat) :
    s.logged.filter (fun x => x.g == g) <+: s.called.filter (fun x => x.g == g) :=
  h.callOrder g ▸ List.prefix_append _ _

theorem written_filter_prefix_called {v : Variant} {s : State} (h : Inv v s) (g : Nat) :
    s.written.filter (fun x => x.g == g) <+: s.called.filter (fun x => x.g == g) :=
  ((written_prefix_logged h).filter _).trans (logged_filter_prefix_called h g)

/-- count `e` among its own goroutine's entries, where `written` is an initial segment of `called` -/
theorem written_count_le_called {v : Variant} {s : State} (h : Inv v s) (e : Entry) :
    s.written.count e ≤ s.called.count e := by
  have hp {l : List Entry} := List.count_filter (p := fun x => x.g == e.g) (l := l) (beq_self_eq_true e.g)
  rw [← hp, ← hp (l := s.called)]
  exact (written_filter_prefix_called h e.g).sublist.count_le e

theorem completed_cut {s : State} (hi : Inv .repaired s) (hf : s.flush = .returned true) :
    ∃ c, s.cutLogged = some c ∧ c <+: s.written := by
  have hx : s.fpc = .exited := of_decide_eq_true (hi.done ▸ hi.retDone hf)
  exact hi.ackCut rfl (by rw [hx]; rfl)

/-- the statements of `flushLog` -/
def flusherActions : List Action :=
  [.fOuterRecv, .fOuterDefault, .fInnerRecv, .fInnerSync, .fWrite, .fDrainRecv, .fDrainDefault, .fAck]

theorem flusher_progress {v : Variant} {cap : Nat} {s : State} (h : Inv v s)
    (hw : s.flush = .waiting) (hd : s.asyncDone = false) :
    ∃ a ∈ flusherActions, (step v cap s a).isSome = true := by
  cases hp : s.fpc with
  | outer =>
    cases hq : s.queue with
    | nil => exact ⟨.fOuterDefault, by decide, (Step.fOuterDefault hp hq).enabled⟩
    | cons e q => exact ⟨.fOuterRecv, by decide, (Step.fOuterRecv e q hp hq).enabled⟩
  | inner => exact ⟨.fInnerSync, by decide, (Step.fInnerSync hp (h.waitSync hw)).enabled⟩
  | writing e r => exact ⟨.fWrite, by decide, (Step.fWrite e r hp).enabled⟩
  | drain =>
    cases hq : s.queue with
    | nil => exact ⟨.fDrainDefault, by decide, (Step.fDrainDefault hp hq).enabled⟩
    | cons e q => exact ⟨.fDrainRecv, by decide, (Step.fDrainRecv e q hp hq).enabled⟩
  | ack => exact ⟨.fAck, by decide, (Step.fAck hp).enabled⟩
  | exited =>
    rw [h.done, hp] at hd
    exact absurd hd (by decide)

end Tars.Logger
