/-
  The ways each action can go (`checkOne_cases`, `start_cases`, `finish_cases`), induction over the
  registry walk of `checkStatus` and over histories, what one visit of the walk leaves alone, and which
  action can change `status` and the rotation.
-/
import TarsModel.Proofs.Health

namespace Tars.Health
open Tars

/-! ## the ways an action can go -/

/-- one visit of `checkStatus`: nothing, `lastBlockTime` stamped, the endpoint taken out, or queued as probe
candidate; each with those of `checkActive`'s tests that the invariants rest on -/
theorem checkOne_cases (conn : List Nat) (s : Mgr) (x : Nat) :
    checkOne conn s x = s ∨
    (s.has x = true ∧ checkOne conn s x = setRec s x { s.recs x with lastBlockTime := s.now }) ∨
    (s.has x = true ∧
      ((Consts.healthFainN : Int) ≤ (s.recs x).lastFailCount ∨ (Consts.healthOverN : Int) ≤ (s.recs x).failCount) ∧
      checkOne conn s x = takeOut (setRec s x { s.recs x with status := false, lastBlockTime := s.now }) x) ∨
    (s.has x = true ∧ (s.recs x).status = false ∧
      (Consts.healthTryTimeInterval : Int) ≤ s.now - (s.recs x).lastBlockTime ∧ x ∉ s.pend ∧
      checkOne conn s x = enqueue (setRec s x { s.recs x with lastBlockTime := s.now }) x) := by
  unfold checkOne
  by_cases hh : s.has x = true
  case neg => exact .inl (if_neg hh)
  rw [if_pos hh]
  rcases checkActive_cases s.now (conn.contains x) (s.recs x) with e | e | ⟨hr, e⟩ | ⟨hs, ht, e⟩ <;> rw [e]
  · left; show setRec s x (s.recs x) = s; rw [setRec, upd_self]
  · exact .inr (.inl ⟨hh, rfl⟩)
  · exact .inr (.inr (.inl ⟨hh, hr, rfl⟩))
  · -- a candidate only if `x` is not waiting already
    by_cases hp : x ∈ s.pend
    · exact .inr (.inl ⟨hh, if_neg (by simp [setRec, hp])⟩)
    · exact .inr (.inr (.inr ⟨hh, hs, ht, hp, if_pos (by simp [setRec, hp])⟩))

theorem start_cases (s : Mgr) (c : Nat) (so ow : Bool) :
    (s.reg = [] ∧ start s c so ow = emit s (.noEndpoint s.now)) ∨
    (∃ x q, s.queue = x :: q ∧ start s c so ow = startOn (popProbe s x q) x true so ow) ∨
    (∃ ep, s.queue = [] ∧ (s.sel ≠ [] → ep ∈ s.sel) ∧ (s.sel = [] → ep ∈ s.reg) ∧
      start s c so ow = startOn (touch s ep) ep false so ow) := by
  unfold start selectAdapter
  split
  · rename_i hreg; exact .inl ⟨hreg, rfl⟩
  rename_i r0 _ hreg
  split
  · rename_i x q hq; exact .inr (.inl ⟨x, q, hq, rfl⟩)
  rename_i hq
  split
  · rename_i e0 _ hsel
    exact .inr (.inr ⟨_, hq, fun _ => getD_mod_mem hsel c, fun h => by simp [h] at hsel, rfl⟩)
  · rename_i hsel
    exact .inr (.inr ⟨_, hq, fun h => absurd hsel h, fun _ => getD_mod_mem hreg c, rfl⟩)

theorem finish_cases (s : Mgr) (k : Nat) (ok : Bool) :
    (s.inflight = [] ∧ finish s k ok = s) ∨
    ∃ c0 cs, s.inflight = c0 :: cs ∧ s.inflight.getD (k % s.inflight.length) c0 ∈ s.inflight ∧
      finish s k ok = finishCall { s with inflight := s.inflight.eraseIdx (k % s.inflight.length) }
        (s.inflight.getD (k % s.inflight.length) c0).1 (s.inflight.getD (k % s.inflight.length) c0).2 ok := by
  unfold finish
  split
  · rename_i h; exact .inl ⟨h, rfl⟩
  · rename_i c0 cs h; exact .inr ⟨c0, cs, h, getD_mod_mem h k, rfl⟩

theorem startOn_cases (s : Mgr) (ep : Nat) (p so ow : Bool) :
    startOn s ep p so ow = recFail (recSend s ep p) ep ∨
    startOn s ep p so ow = recOk (recSend s ep p) ep ∨
    startOn s ep p so ow = { recSend s ep p with inflight := (recSend s ep p).inflight ++ [(ep, p)] } := by
  cases so
  · exact .inl rfl
  cases ow
  · exact .inr (.inr rfl)
  · exact .inr (.inl rfl)

theorem finishCall_cases (s : Mgr) (ep : Nat) (p ok : Bool) :
    finishCall s ep p ok = recFail s ep ∨ finishCall s ep p ok = recOk s ep ∨
    finishCall s ep p ok = recOk (reinstate s ep) ep := by
  cases ok
  · exact .inl rfl
  cases p
  · exact .inr (.inl rfl)
  · exact .inr (.inr rfl)

theorem checkStatus_induct {P : Mgr → Prop} (conn : List Nat) (hstep : ∀ m x, P m → P (checkOne conn m x))
    {s : Mgr} (h : P s) : P (checkStatus conn s) :=
  List.foldlRecOn s.reg (checkOne conn) h fun m hm x _ => hstep m x hm

theorem run_induct {P : Mgr → Prop} (hstep : ∀ {m}, P m → ∀ a, P (step m a)) {s : Mgr} (h : P s) (hist : List Action) :
    P (run s hist) :=
  List.foldlRecOn hist step h fun _ hm a _ => hstep hm a

/-! ## what a visit leaves alone -/

theorem checkOne_frame (conn : List Nat) (s : Mgr) (x : Nat) :
    ∃ r active sel log,
      checkOne conn s x = { s with recs := upd s.recs x r, active := active, sel := sel, log := log } ∨
      checkOne conn s x = { s with recs := upd s.recs x r, active := active, sel := sel, log := log,
                                   queue := s.queue ++ [x], pend := x :: s.pend } := by
  rcases checkOne_cases conn s x with he | ⟨_, he⟩ | ⟨_, _, he⟩ | ⟨_, _, _, _, he⟩
  · exact ⟨s.recs x, s.active, s.sel, s.log, .inl (by rw [he, upd_self])⟩
  · exact ⟨_, s.active, s.sel, s.log, .inl he⟩
  · exact ⟨_, _, _, _, .inl he⟩
  · exact ⟨_, s.active, s.sel, _, .inr he⟩

theorem checkOne_other (conn : List Nat) (s : Mgr) {x ep : Nat} (hne : x ≠ ep) :
    (checkOne conn s x).has = s.has ∧ (checkOne conn s x).now = s.now ∧ (checkOne conn s x).recs ep = s.recs ep ∧
    (ep ∉ s.pend → ep ∉ (checkOne conn s x).pend) := by
  obtain ⟨_, _, _, _, e | e⟩ := checkOne_frame conn s x <;> rw [e]
  · exact ⟨rfl, rfl, if_neg (Ne.symm hne), id⟩
  · exact ⟨rfl, rfl, if_neg (Ne.symm hne), fun h hm => (List.mem_cons.mp hm).elim (Ne.symm hne) h⟩

/-- `checkStatus` visits every registered endpoint, and the visits of the others leave alone what the visit
of `ep` looks at (`checkOne_other`): if the visit of `ep`, in a state that agrees with `s` there, establishes
`Q`, and `Q` survives every visit, then `Q` holds at the end -/
theorem checkStatus_visit {Q : Mgr → Prop} (conn : List Nat) {s : Mgr} {ep : Nat} (hreg : ep ∈ s.reg)
    (hvisit : ∀ m, m.has = s.has → m.now = s.now → m.recs ep = s.recs ep → (ep ∉ s.pend → ep ∉ m.pend) →
      Q (checkOne conn m ep))
    (hQ : ∀ m x, Q m → Q (checkOne conn m x)) : Q (checkStatus conn s) := by
  have hfold (l : List Nat) (m : Mgr) (hm : Q m) : Q (l.foldl (checkOne conn) m) :=
    List.foldlRecOn l _ hm fun m hm x _ => hQ m x hm
  have : ∀ (l : List Nat) (m : Mgr), ep ∈ l → m.has = s.has → m.now = s.now → m.recs ep = s.recs ep →
      (ep ∉ s.pend → ep ∉ m.pend) → Q (l.foldl (checkOne conn) m) := by
    intro l; induction l with
    | nil => exact fun _ hm => nomatch hm
    | cons x xs ih =>
      intro m hm h1 h2 h3 h4
      by_cases hx : x = ep
      · subst hx; exact hfold xs _ (hvisit m h1 h2 h3 h4)
      · obtain ⟨e1, e2, e3, e4⟩ := checkOne_other conn m hx
        exact ih _ ((List.mem_cons.mp hm).resolve_left (Ne.symm hx)) (e1.trans h1) (e2.trans h2) (e3.trans h3)
          fun h => e4 (h4 h)
  exact this s.reg s hreg rfl rfl rfl id

theorem checkStatus_inflight (conn : List Nat) (s : Mgr) : (checkStatus conn s).inflight = s.inflight := by
  refine checkStatus_induct (P := fun m => m.inflight = s.inflight) conn (fun m x h => ?_) rfl
  obtain ⟨_, _, _, _, e | e⟩ := checkOne_frame conn m x <;> rw [e] <;> exact h

/-! ## who changes `status` and the rotation -/

theorem setRec_status {s : Mgr} {ep : Nat} {r' : Rec} (h : r'.status = (s.recs ep).status) (e : Nat) :
    ((setRec s ep r').recs e).status = (s.recs e).status :=
  forall_upd (P := fun x (r : Rec) => r.status = (s.recs x).status) h (fun _ _ => rfl) e

theorem checkOne_status_false (conn : List Nat) (ep : Nat) (s : Mgr) (x : Nat) (h : (s.recs ep).status = false) :
    ((checkOne conn s x).recs ep).status = false := by
  rcases checkOne_cases conn s x with he | ⟨_, he⟩ | ⟨_, _, he⟩ | ⟨_, _, _, _, he⟩ <;> rw [he]
  · exact h
  · exact Eq.trans (setRec_status (by rfl) ep) h
  · exact forall_upd (P := fun _ (r : Rec) => r.status = false) rfl (fun _ _ => h) ep
  · exact Eq.trans (setRec_status (s := s) (ep := x) (by rfl) ep) h

theorem checkStatus_status_false (conn : List Nat) (s : Mgr) (ep : Nat) (h : (s.recs ep).status = false) :
    ((checkStatus conn s).recs ep).status = false :=
  checkStatus_induct (P := fun m => (m.recs ep).status = false) conn (checkOne_status_false conn ep) h

theorem startOn_status (s : Mgr) (ep : Nat) (p so ow : Bool) (e : Nat) :
    ((startOn s ep p so ow).recs e).status = (s.recs e).status := by
  have h1 : ((recSend s ep p).recs e).status = (s.recs e).status := setRec_status (r' := sendAdd _) rfl e
  rcases startOn_cases s ep p so ow with he | he | he <;> rw [he, ← h1]
  · exact setRec_status (s := recSend s ep p) (r' := failAdd _) rfl e
  · exact setRec_status (s := recSend s ep p) (r' := successAdd _ _) rfl e

theorem popProbe_status (s : Mgr) (ep : Nat) (q : List Nat) (e : Nat) :
    ((popProbe s ep q).recs e).status = (s.recs e).status := by
  unfold popProbe
  split
  · exact setRec_status (s := { s with queue := q, pend := s.pend.erase ep }) (r' := { s.recs ep with lastBlockTime := s.now }) rfl e
  · rfl

theorem start_status (s : Mgr) (c : Nat) (so ow : Bool) (e : Nat) :
    ((start s c so ow).recs e).status = (s.recs e).status := by
  rcases start_cases s c so ow with ⟨_, he⟩ | ⟨x, q, _, he⟩ | ⟨ep, _, _, _, he⟩ <;> rw [he]
  · rfl
  · rw [startOn_status, popProbe_status]
  · exact startOn_status (touch s ep) _ _ _ _ e

theorem start_sel (s : Mgr) (c : Nat) (so ow : Bool) : (start s c so ow).sel = s.sel := by
  have key : ∀ (m : Mgr) ep p, (startOn m ep p so ow).sel = m.sel := by
    intro m ep p
    rcases startOn_cases m ep p so ow with e | e | e <;> rw [e] <;>
      simp only [recFail, recOk, recSend, emit, setRec]
  rcases start_cases s c so ow with ⟨_, he⟩ | ⟨x, q, _, he⟩ | ⟨ep, _, _, _, he⟩ <;> rw [he]
  · rfl
  · rw [key]; unfold popProbe; split <;> rfl
  · exact key (touch s ep) _ _

theorem finishCall_status (s : Mgr) (ep : Nat) (p ok : Bool) (e : Nat) :
    ((finishCall s ep p ok).recs e).status = if e = ep ∧ p = true ∧ ok = true then true else (s.recs e).status := by
  by_cases he : e = ep
  · subst he
    cases ok <;> cases p <;>
      simp [finishCall, recFail, recOk, reinstate, emit, addAliveEp, setRec, failAdd, successAdd, reset]
  · cases ok <;> cases p <;> simp [finishCall, recFail, recOk, reinstate, emit, addAliveEp, setRec, upd_apply, he]

theorem finishCall_fail (s : Mgr) (ep : Nat) (p : Bool) (e : Nat) :
    ((finishCall s ep p false).recs e).status = (s.recs e).status ∧ (finishCall s ep p false).sel = s.sel :=
  ⟨by simp [finishCall_status], rfl⟩

theorem finishCall_ok_probe (s : Mgr) (ep : Nat) :
    ((finishCall s ep true true).recs ep).status = true ∧ ep ∈ (finishCall s ep true true).sel ∧
    ep ∈ (finishCall s ep true true).active ∧ ((finishCall s ep true true).recs ep).failCount = 0 := by
  simp only [finishCall, recOk, reinstate, emit, addAliveEp, setRec, upd_same, successAdd, reset, if_true]
  refine ⟨trivial, (mem_selAdd _ _ _).mpr (Or.inr rfl), ?_, trivial⟩
  simp

theorem step_unblock (s : Mgr) (a : Action) (ep : Nat) (h0 : (s.recs ep).status = false)
    (h1 : ((step s a).recs ep).status = true) : (∃ k, a = .finish k true) ∧ (ep, true) ∈ s.inflight := by
  cases a with
  | advance d => rw [show (step s (.advance d)).recs = s.recs from rfl, h0] at h1; cases h1
  | checkStatus conn => rw [show step s (.checkStatus conn) = checkStatus conn s from rfl, checkStatus_status_false conn s ep h0] at h1; cases h1
  | start c so ow => rw [show step s (.start c so ow) = start s c so ow from rfl, start_status, h0] at h1; cases h1
  | finish k ok =>
    rw [show step s (.finish k ok) = finish s k ok from rfl] at h1
    rcases finish_cases s k ok with ⟨_, he⟩ | ⟨c0, _, _, hmem, he⟩ <;> rw [he] at h1
    · rw [h0] at h1; cases h1
    · rw [finishCall_status] at h1
      split at h1
      · rename_i hc
        obtain ⟨hep, hp, hok⟩ := hc
        rw [hok]
        refine ⟨⟨k, rfl⟩, ?_⟩
        rw [hep, ← hp]; exact hmem
      · rw [show ({ s with inflight := _ } : Mgr).recs = s.recs from rfl, h0] at h1; cases h1

/-! ## what a call logs and takes from the probe queue -/

theorem startOn_picked (s : Mgr) (ep : Nat) (p so ow : Bool) : Event.picked ep p s.now ∈ (startOn s ep p so ow).log := by
  cases so <;> cases ow <;> simp [startOn, recFail, recOk, recSend, emit, setRec]

theorem startOn_queue (s : Mgr) (ep : Nat) (p so ow : Bool) : (startOn s ep p so ow).queue = s.queue := by
  rcases startOn_cases s ep p so ow with e | e | e <;> rw [e] <;>
    simp only [recFail, recOk, recSend, emit, setRec]

theorem popProbe_now (s : Mgr) (ep : Nat) (q : List Nat) : (popProbe s ep q).now = s.now := by
  unfold popProbe; split <;> rfl

theorem popProbe_has (s : Mgr) (ep : Nat) (q : List Nat) : (popProbe s ep q).has = s.has := by
  unfold popProbe; split <;> rfl

theorem popProbe_log (s : Mgr) (ep : Nat) (q : List Nat) : (popProbe s ep q).log = s.log := by
  unfold popProbe; split <;> rfl

theorem popProbe_queue (s : Mgr) (ep : Nat) (q : List Nat) : (popProbe s ep q).queue = q := by
  unfold popProbe; split <;> rfl

end Tars.Health
