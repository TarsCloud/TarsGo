import TarsModel.Proofs.SchemaEnc
import TarsModel.Proofs.MemberRead

/-! The scalar case of a member that is written: what `Write<T>` writes is a head and a payload that
    the switch of `Read<T>` takes back (C02 lifted to `Val`, behind the head). -/
namespace Tars
open Consts

theorem intBody_scalar {w : Nat} (f : Int → Val) (i : Int) (tag : Nat) (hw : minWidth i ≤ w)
    (hi : -(2:Int)^63 ≤ i ∧ i < (2:Int)^63) :
    ∃ wty p, wty < 16 ∧ wty ≠ tyStructEnd ∧ specInt i tag = writeHead wty tag ++ p ∧
      ∀ (r1 : Reader) (t : Bytes), r1.rest = p ++ t →
        mapRes f (intBody w wty r1) = (.ok (f i), r1.adv p.length) :=
  have hty := intWidth_ty (intWidth_minWidth i hw)
  ⟨_, _, hty.1, hty.2, by rw [specInt, writeHead_eq_specHead], fun r1 t h => by
    rw [intBody_specInt i hw hi r1 t h]; rfl⟩

theorem scalarBody_int {ty : Ty} {i : Int} (hv : ScalarOK ty (.int i)) :
    ∃ w f, scalarBody ty = (fun wty r => mapRes f (intBody w wty r)) ∧ minWidth i ≤ w ∧
      f i = .int i := by
  cases ty <;> simp only [ScalarOK] at hv
  · exact ⟨1, .int, rfl, minWidth_le_one hv, rfl⟩
  · exact ⟨2, _, rfl, minWidth_le_two (by omega), congrArg Val.int (toU_of_range hv.1 hv.2)⟩
  · exact ⟨2, .int, rfl, minWidth_le_two hv, rfl⟩
  · exact ⟨4, _, rfl, minWidth_le_four (by omega), congrArg Val.int (toU_of_range hv.1 hv.2)⟩
  · exact ⟨4, .int, rfl, minWidth_le_four hv, rfl⟩
  · exact ⟨8, _, rfl, minWidth_le_eight i, congrArg Val.int (toU_of_range hv.1 hv.2)⟩
  · exact ⟨8, .int, rfl, minWidth_le_eight i, rfl⟩
  · exact ⟨4, .int, rfl, minWidth_le_four hv, rfl⟩

theorem writeScalar_field (ty : Ty) (v : Val) (tag : Nat) (hv : ScalarOK ty v) :
    ∃ wty p, wty < 16 ∧ wty ≠ tyStructEnd ∧ writeScalar ty v tag = writeHead wty tag ++ p ∧
      ∀ (r1 : Reader) (t : Bytes), r1.rest = p ++ t →
        scalarBody ty wty r1 = (.ok v, r1.adv p.length) := by
  rcases hv.shape with ⟨a, rfl, rfl⟩ | ⟨i, rfl⟩ | ⟨a, rfl, rfl⟩ | ⟨a, rfl, rfl⟩ | ⟨a, rfl, rfl⟩
  · simp only [writeScalar, writeBool_spec]
    have := intBody_scalar (w := 1) (fun n => .bool !(n == 0)) (if a then 1 else 0) tag
      (minWidth_le_one (by cases a <;> simp)) (by cases a <;> simp)
    cases a <;> exact this
  · rw [writeScalar_int ty i tag hv]
    obtain ⟨w, f, hb, hw, hf⟩ := scalarBody_int hv
    rw [hb]
    exact hf ▸ intBody_scalar f i tag hw (scalarOK_int_range hv)
  · exact ⟨tyFLOAT, be 4 a, by decide, by decide, rfl, fun r1 t h => by
      show mapRes Val.f32 (f32Body tyFLOAT r1) = _
      rw [f32Body_float a hv r1 t h]; rfl⟩
  · exact ⟨tyDOUBLE, be 8 a, by decide, by decide, rfl, fun r1 t h => by
      show mapRes Val.f64 (f64Body tyDOUBLE r1) = _
      rw [f64Body_double a hv r1 t h]; rfl⟩
  · obtain ⟨wty, w, hty, hne, hw, hsw, he⟩ := writeString_field a tag hv
    exact ⟨wty, _, hty, hne, he, fun r1 t h => by
      show mapRes Val.str (strBody wty r1) = _
      rw [strBody_rt hw a hsw r1 t h]; rfl⟩

end Tars
