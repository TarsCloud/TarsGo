import TarsModel.Proofs.ShortMembers

/-!
  C06, struct level beside the cut statement: `ReadFrom` into a fresh struct reduced to the member
  loop (`decStruct_fresh`); the loop on an encoding cut exactly at a member boundary with only
  optional members left succeeds (`decMembers_boundary`); the admissible cuts `CutOK`.
-/
namespace Tars
open Consts

/-! ### where the input may be cut -/

/-- `p` is the encoding of the members `fs`/`vs` cut at an admissible place: at a member boundary
    (possibly the very end), or inside the field of a scalar/enum member behind its complete
    head.  (Not covered: a cut inside a vector, map, array or nested-struct member, and a cut
    between the two bytes of a head with tag ≥ 15.) -/
def CutOK (env : Env) : List Field → List Val → Bytes → Prop
  | f :: fs, v :: vs, p =>
    (∃ p', p = encVar env f.tag f.req f.ty f.dflt v ++ p' ∧ CutOK env fs vs p') ∨
    p = [] ∨
    (f.ty.isAtom = true ∧ p.length < (encVar env f.tag f.req f.ty f.dflt v).length ∧
      p <+: encVar env f.tag f.req f.ty f.dflt v ∧ ∃ hty rest, hty < 16 ∧ p = writeHead hty f.tag ++ rest)
  | _, _, p => p = []

/-- tags below 15 have one-byte heads, so no prefix ends inside a head -/
theorem cutOK_of_atoms (env : Env) : ∀ (fs : List Field) (vs : List Val) (p : Bytes),
    (∀ f ∈ fs, f.ty.isAtom = true ∧ f.tag < 15) →
    p <+: encMembers env fs vs → CutOK env fs vs p
  | [], vs, p, _, h => by
    cases vs <;> simp [encMembers] at h <;> simp [CutOK, h]
  | f :: fs, [], p, _, h => by simp [encMembers] at h; simp [CutOK, h]
  | f :: fs, v :: vs, p, hat, h => by
    simp only [encMembers] at h
    simp only [CutOK]
    have hf := hat f (by simp)
    rcases prefix_append_cases p _ _ h with ⟨p', rfl, hp'⟩ | ⟨hpre, hlt⟩
    · exact Or.inl ⟨p', rfl, cutOK_of_atoms env fs vs p' (fun g hg => hat g (by simp [hg])) hp'⟩
    · by_cases hp : p = []
      · exact Or.inr (Or.inl hp)
      · right; right
        refine ⟨hf.1, hlt, hpre, ?_⟩
        -- a non-empty encoding starts with a one-byte head; a non-empty prefix contains it
        rcases encVar_headAt env f.tag f.req f.ty f.dflt v with h0 | ⟨hty, rest, h16, hh⟩
        · rw [h0] at hlt; simp at hlt
        · rw [hh] at hpre
          obtain ⟨t, ht⟩ := hpre
          obtain ⟨q', hq', _⟩ := split_head hf.2 ht hp
          exact ⟨hty, q', h16, hq'⟩

theorem cutOK_prefix (env : Env) : ∀ (fs : List Field) (vs : List Val) (p : Bytes),
    CutOK env fs vs p → p <+: encMembers env fs vs
  | [], _, p, h => by simp only [CutOK] at h; subst h; exact List.nil_prefix
  | _ :: _, [], p, h => by simp only [CutOK] at h; subst h; exact List.nil_prefix
  | f :: fs, v :: vs, p, h => by
    simp only [CutOK] at h
    simp only [encMembers]
    rcases h with ⟨p', rfl, hc⟩ | rfl | ⟨_, _, hpre, _⟩
    · exact (List.prefix_append_right_inj _).mpr (cutOK_prefix env fs vs p' hc)
    · exact List.nil_prefix
    · exact hpre.trans (List.prefix_append _ _)

/-- an admissible cut never ends on half a head -/
theorem cutOK_cutAt (env : Env) : ∀ (fs : List Field) (vs : List Val) (p : Bytes) (k : Nat),
    CutOK env fs vs p → CutAt p (encMembers env (fs.take k) (vs.take k)) →
    p = encMembers env (fs.take k) (vs.take k)
  | [], vs, p, k, h, _ => by simp only [CutOK] at h; subst h; cases vs <;> simp [encMembers]
  | _ :: _, [], p, k, h, _ => by simp only [CutOK] at h; subst h; cases k <;> simp [encMembers]
  | f :: fs, v :: vs, p, 0, h, hc => by
    simp only [List.take_zero, encMembers] at hc ⊢
    rcases hc with rfl | ⟨b, hb, rfl⟩
    · rfl
    · exfalso
      simp only [CutOK, List.nil_append] at h
      rcases h with ⟨p', he, hc'⟩ | h0 | ⟨_, _, _, hty, rest, h16, hq⟩
      · rcases encVar_headAt env f.tag f.req f.ty f.dflt v with h0 | ⟨hty, rest, h16, hh⟩
        · rw [h0, List.nil_append] at he; subst he
          have := cutOK_cutAt env fs vs [b] 0 hc' (.inr ⟨b, hb, by simp [encMembers]⟩)
          simp [encMembers] at this
        · rw [hh, List.append_assoc] at he; exact head_not_half h16 he hb
      · cases h0
      · exact head_not_half h16 hq hb
  | f :: fs, v :: vs, p, k + 1, h, hc => by
    simp only [List.take_succ_cons, encMembers] at hc ⊢
    obtain ⟨p'', rfl, hc''⟩ : ∃ p'', p = encVar env f.tag f.req f.ty f.dflt v ++ p'' ∧
        CutAt p'' (encMembers env (fs.take k) (vs.take k)) := by
      rcases hc with rfl | ⟨b, hb, rfl⟩
      · exact ⟨_, rfl, .inl rfl⟩
      · exact ⟨_, by simp, .inr ⟨b, hb, rfl⟩⟩
    simp only [CutOK] at h
    rcases h with ⟨p', he, hc'⟩ | h0 | ⟨_, hlt, _⟩
    · rw [← List.append_cancel_left he] at hc'
      rw [cutOK_cutAt env fs vs p'' k hc' hc'']
    · obtain ⟨h1, rfl⟩ := List.append_eq_nil_iff.mp h0
      rcases hc'' with h | ⟨b, _, h⟩
      · rw [← h]
      · simp at h
    · simp only [List.length_append] at hlt; omega

/-! ### a cut exactly at a member boundary -/

theorem decMembers_boundary (env : Env) (rk : String → Nat) (hE : EnvWF env rk)
    (k : Nat) (vs : List Val) (fs : List Field) (olds : List Val) (fuel : Nat) (r : Reader)
    (hfs : ∀ f ∈ fs, MemberOK env rk f) (hasc : TagsAsc fs) (hwt : WTm env fs vs)
    (hold : OldOKs env fs olds) (hk : k ≤ fs.length) (hopt : ∀ f ∈ fs.drop k, f.req = false)
    (hfuel : (env.width + 3) * (encMembers env (fs.take k) (vs.take k)).length + fs.length + 2 ≤ fuel)
    (hr : r.rest = encMembers env (fs.take k) (vs.take k)) :
    decMembers env fuel fs olds r =
      (.ok (normMembers env (fs.take k) (vs.take k) ++
            absentVals env (fuel - k) (fs.drop k) (olds.drop k)),
       r.adv (encMembers env (fs.take k) (vs.take k)).length) := by
  have hwt' := hwt.take k
  obtain ⟨ho1, ho2⟩ := hold.take_drop k
  have hneed := needElems_le_members env _ _ hwt'
  have hl := WTm_length hwt'
  have hlk : (fs.take k).length = k := List.length_take_of_le hk
  -- the first `k` members: the round trip of the member loop (C03), nothing behind the encoding
  have h1 := (rtAt_all hE fuel).members (vs.take k) (fs.take k) (olds.take k) r [] (by omega)
    (fun f hf => hfs f (List.mem_of_mem_take hf)) (hasc.sublist (List.take_sublist k fs)) hwt' ho1
    (.inl rfl) (by simpa using hr)
  -- the others: the loop at the end of the input
  have h2 := (decMembers_eof env (fs.drop k) (olds.drop k) (fuel - k) _
    (r.rest_adv (t := []) (by simpa using hr)) (by simp; omega)
    (fun f hf => (hfs f (List.mem_of_mem_drop hf)).2.2) ho2).1 hopt
  have := decMembers_append env (fs.drop k) (olds.drop k) (fs.take k) (olds.take k) fuel r _ _
    (by rw [ho1.length]) h1
  rw [List.take_append_drop, List.take_append_drop, hlk, h2] at this
  exact this

theorem decStruct_fresh {env : Env} {rk : String → Nat} {S : String} {fs : List Field}
    (p : Bytes) (hE : EnvWF env rk) (hfs : env.find S = some fs) :
    ∃ os, freshStruct env S = .struct os ∧
      OldOKs env fs (resetDefault env (decFuel env (Reader.mk0 p)) fs os) ∧
      (env.width + 3) * p.length + fs.length + 2 ≤ decFuel env (Reader.mk0 p) ∧
      decStruct env S (.struct os) (Reader.mk0 p) =
        match decMembers env (decFuel env (Reader.mk0 p)) fs
            (resetDefault env (decFuel env (Reader.mk0 p)) fs os) (Reader.mk0 p) with
        | (.error er, r') => (.error er, r')
        | (.ok ws, r1) => (.ok (.struct ws), r1) := by
  obtain ⟨os, hos, hrm⟩ := ready_struct hfs (freshStruct_targetOK hE hfs)
  refine ⟨os, hos, ?_, ?_, decStruct_struct hfs os _⟩
  · rw [decFuel_succ]
    exact resetDefault_oldOK hE _ fs os (hE.memberOK hfs) hrm
  · have hw := Env.find_width hfs
    have := decFuel_lb env (r := Reader.mk0 p) (Nat.le_refl p.length)
    omega

end Tars
