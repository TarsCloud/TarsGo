/-
  The pool model along a schedule (C19): how often a job is started, the length of a schedule of the
  pool's own steps, the schedule that `progress` and `variant` give, what can happen after `Release`.
-/
import TarsModel.Proofs.PoolProgress

namespace Tars.Pool

def Action.isStartOf (j : Job) : Action → Bool
  | .start _ k => k == j
  | _ => false

/-- number of times `job_j()` is called in a schedule -/
def startsOf (j : Job) (as : List Action) : Nat := as.countP (Action.isStartOf j)

/-- started-ness of job `j`: its body is executing or has returned -/
def startedN (s : State) (j : Job) : Nat := rcount j s.ws + s.done.count j

theorem startedN_set {s : State} {w : Wid} {old new : WPc} {j : Job} (hw : s.ws[w]? = some old)
    (hr : new.running = old.running) :
    rcount j (s.ws.set w new) + s.done.count j = startedN s j :=
  congrArg (· + _) (sumBy_set_of_eq hw rfl (by rw [hr]; rfl))

theorem startedN_step {cfg : Cfg} {s s' : State} {a : Action} (j : Job)
    (h : step cfg s a = some s') :
    startedN s' j = startedN s j + (if a.isStartOf j then 1 else 0) := by
  cases Step.of_step h
  case subCall | subSendBuf | subSendSync | subRet | dTake | dPick | relCall | relSend | sTake | dAck
      | relRet => rfl
  case wReg hw _ | dGive hw | sSend hw | sAck hw => exact startedN_set hw rfl
  case start w k hw =>
    have := sumBy_set (fun x => x.running.count j) (.run k) hw
    by_cases hk : k = j <;> simp [startedN, rcount, Action.isStartOf, WPc.running, hk] at this ⊢ <;> omega
  case fin w k hw =>
    have := sumBy_set (fun x => x.running.count j) .reg hw
    by_cases hk : k = j <;> simp [startedN, rcount, Action.isStartOf, WPc.running, hk] at this ⊢ <;> omega

theorem startedN_run {cfg : Cfg} (j : Job) (as : List Action) {s s' : State}
    (h : run cfg s as = some s') : startedN s' j = startedN s j + startsOf j as :=
  (isRun cfg).induct (P := fun t bs => startedN t j + startsOf j bs = startedN s j + startsOf j as)
    (fun hp hs => by
      rw [← hp, startedN_step j hs]
      simp only [startsOf, List.countP_cons]; omega) as rfl h

theorem rcount_le_wcount (j : Job) : ∀ ws : List WPc, rcount j ws ≤ wcount j ws
  | [] => Nat.le_refl _
  | x :: xs => Nat.add_le_add (by cases x <;> simp [WPc.running, WPc.jobs]) (rcount_le_wcount j xs)

theorem startedN_init (cfg : Cfg) (j : Job) : startedN (init cfg) j = 0 := by
  simp [startedN, init, rcount, sumBy_replicate, WPc.running]

theorem startedN_le_one {cfg : Cfg} {s : State} (hi : Inv cfg s) (j : Job) : startedN s j ≤ 1 := by
  have h1 := hi.once j
  have h2 := rcount_le_wcount j s.ws
  simp only [startedN]; omega

theorem run_bounded {cfg : Cfg} (as : List Action) {s s' : State} (hi : Inv cfg s)
    (h : run cfg s as = some s') (hne : ∀ a ∈ as, a.isEnv = false) : as.length + mu cfg s' ≤ mu cfg s :=
  -- the steps taken so far, `as.length - bs.length`, have lowered `mu` by at least as much
  ((isRun cfg).induct
    (P := fun t bs => Inv cfg t ∧ (∀ a ∈ bs, a.isEnv = false) ∧ as.length + mu cfg t ≤ mu cfg s + bs.length)
    (fun ⟨hi, hne, hb⟩ hs => by
      obtain ⟨ha, hne⟩ := List.forall_mem_cons.1 hne
      have := variant hi hs ha
      exact ⟨inv_step hi hs, hne, by simp only [List.length_cons] at hb; omega⟩)
    as ⟨hi, hne, Nat.le_of_eq (Nat.add_comm _ _)⟩ h).2.2

theorem nonenv_keeps {cfg : Cfg} {s s' : State} {a : Action} (h : step cfg s a = some s')
    (ha : a.isEnv = false) : s'.submitted = s.submitted ∧ (s'.rel = .idle ↔ s.rel = .idle) := by
  cases Step.of_step h
  case subCall | subSendBuf | subSendSync | relCall => cases ha
  case subRet | wReg | dTake | dPick | dGive | start | fin | sTake | sSend | sAck => exact ⟨rfl, .rfl⟩
  case relSend hr _ | dAck hr | relRet hr => simp [hr]

/-- Let `keep` be stable under the pool's own steps and, short of `goal`, put the pool in a
    situation where `progress` applies. Then the pool's own steps lead from every `keep` state to a
    `goal` state, in at most `mu` steps: `mu` decreases along them (`variant`). -/
theorem exists_run {cfg : Cfg} (hn : 1 ≤ cfg.n) {keep goal : State → Prop}
    (hkeep : ∀ {s s' a}, keep s → a.isEnv = false → step cfg s a = some s' → keep s')
    (hprog : ∀ {s}, keep s → ¬ goal s →
      (s.rel = .idle → ∃ j, j ∈ s.submitted ∧ j ∉ s.done) ∧ s.rel ≠ .returned)
    {s : State} (hi : Inv cfg s) (hk : keep s) :
    ∃ (as : List Action) (s' : State), (∀ a ∈ as, a.isEnv = false) ∧ run cfg s as = some s' ∧
      as.length ≤ mu cfg s ∧ keep s' ∧ goal s' := by
  induction hm : mu cfg s using Nat.strongRecOn generalizing s with | _ m ih => ?_
  by_cases hg : goal s
  · exact ⟨[], s, nofun, rfl, Nat.zero_le _, hk, hg⟩
  · obtain ⟨hidle, hret⟩ := hprog hk hg
    obtain ⟨a, ha, hs⟩ := progress hi hn hidle hret
    obtain ⟨s1, hs1⟩ := Option.isSome_iff_exists.mp hs
    have hv := variant hi hs1 ha
    obtain ⟨as, s', hne, hrun, hlen, hk', hg'⟩ :=
      ih _ (hm ▸ hv) (inv_step hi hs1) (hkeep hk ha hs1) rfl
    exact ⟨a :: as, s', List.forall_mem_cons.2 ⟨ha, hne⟩, run_cons.2 ⟨s1, hs1, hrun⟩,
      hm ▸ Nat.lt_of_le_of_lt hlen hv, hk', hg'⟩

/-- after `Release` returned only submitter actions are possible -/
theorem after_returned_step {cfg : Cfg} {s s' : State} {a : Action} (hi : Inv cfg s)
    (hr : s.rel = .returned) (h : step cfg s a = some s') :
    s'.rel = .returned ∧ a.isStart = false ∧ (∀ j ∈ s.jobQ, j ∈ s'.jobQ) ∧ s'.done = s.done := by
  obtain ⟨hdone, hdead, _⟩ := stopped hi (.inr hr)
  cases Step.of_step h
  case subCall | subRet => exact ⟨hr, rfl, fun _ hj => hj, rfl⟩
  case subSendBuf => exact ⟨hr, rfl, fun _ hj => List.mem_append_left _ hj, rfl⟩
  case subSendSync hd | dTake hd _ | dPick hd _ | dGive hd _ | relSend _ hd | sTake hd _ _ | sSend hd _
      | sAck hd _ | dAck hd _ _ => cases hd.symm.trans hdone
  case wReg hw _ | start hw | fin hw => cases hdead _ (List.mem_of_getElem? hw)
  case relCall hr' | relRet hr' => cases hr'.symm.trans hr

theorem after_returned_run {cfg : Cfg} : ∀ (as : List Action) {s s' : State}, Inv cfg s →
    s.rel = .returned → run cfg s as = some s' →
    s'.rel = .returned ∧ (∀ a ∈ as, a.isStart = false) ∧ (∀ j ∈ s.jobQ, j ∈ s'.jobQ) ∧ s'.done = s.done
  | [], s, s', _, hr, h => by cases h; exact ⟨hr, nofun, fun _ hj => hj, rfl⟩
  | a :: as, s, s', hi, hr, h => by
    obtain ⟨s1, hs, h⟩ := run_cons.1 h
    obtain ⟨h1, h2, h3, h4⟩ := after_returned_step hi hr hs
    obtain ⟨g1, g2, g3, g4⟩ := after_returned_run as (inv_step hi hs) h1 h
    exact ⟨g1, List.forall_mem_cons.2 ⟨h2, g2⟩, fun j hj => g3 j (h3 j hj), g4.trans h4⟩

end Tars.Pool
