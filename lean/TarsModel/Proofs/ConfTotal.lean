/-
  On arbitrary input: no panic on well-nested token streams; the line scanner on
  arbitrary text (nothing is dropped below the limit; everything after an over-long line is dropped
  at the limit).
-/
import TarsModel.Proofs.ConfLine

namespace Tars.Conf
open Tars

theorem run_no_panic (v : Variant) : ∀ (ts : List Token) (cur : Frame) (rest : List Frame),
    wellNested ts rest.length = true → run v ts (cur :: rest) ≠ .panic := by
  intro ts
  induction ts with
  | nil => intro cur rest _; rw [run]; nofun
  | cons t ts ih =>
    intro cur rest h
    cases t with
    | chardata text =>
      rw [run]
      split
      · nofun
      · exact ih _ rest h
    | start n =>
      rw [run]
      cases cur.node.findChild n with
      | some child => exact ih _ (cur :: rest) h
      | none => exact ih _ (_ :: rest) h
    | fin n =>
      cases rest with
      | nil => cases h
      | cons parent rest' =>
        rw [run]
        split
        · nofun
        · exact ih _ rest' h
    | other => rw [run]; exact ih cur rest h

theorem wellNested_doc :
    (∀ (i : Item) (ts : List Token) (n : Nat), wellNested (i.tokens ++ ts) n = wellNested ts n) ∧
    ∀ (is : List Item) (ts : List Token) (n : Nat), wellNested (tokensL is ++ ts) n = wellNested ts n := by
  refine Item.induct (fun t ts n => ?_) (fun m body ih ts n => ?_) (fun ts n => ?_) (fun i is ihi ihs ts n => ?_)
  · rw [Item.tokens]; split <;> rfl
  · rw [Item.tokens, List.cons_append, List.append_assoc, wellNested, ih]; rfl
  · rw [tokensL]; rfl
  · rw [tokensL, List.append_assoc, ihi, ihs]

theorem wellNested_item : ∀ (i : Item) (ts : List Token) (n : Nat),
    wellNested (i.tokens ++ ts) n = wellNested ts n := wellNested_doc.1

def atLineStart (a : Txt) : Prop := a = [] ∨ ∃ a0, a = a0 ++ [nlCh]

theorem scan_short (max : Nat) : ∀ (t cur : Txt) (acc : List Txt), t.length + cur.length < max →
    ∃ ls, scanLines max t cur acc = (acc.reverse ++ ls, false) := by
  intro t
  induction t with
  | nil =>
    intro cur acc h
    rw [scanLines]
    split
    · exact ⟨[], (List.append_nil _).symm ▸ rfl⟩
    · rw [if_neg (Nat.not_le.mpr (Nat.lt_of_le_of_lt (Nat.le_add_left _ _) h)), List.reverse_cons]; exact ⟨_, rfl⟩
  | cons c t ih =>
    intro cur acc h
    rw [List.length_cons, Nat.succ_add] at h
    by_cases hc : c = nlCh
    · subst hc
      have h' := Nat.lt_of_succ_lt h
      obtain ⟨ls, hls⟩ := ih [] (lineOfRev cur :: acc) (Nat.lt_of_le_of_lt (Nat.le_add_right _ _) h')
      rw [scan_nl, if_neg (Nat.not_le.mpr (Nat.lt_of_le_of_lt (Nat.le_add_left _ _) h')), hls, List.reverse_cons,
        List.append_assoc]
      exact ⟨_, rfl⟩
    · rw [scanLines, if_neg hc]
      exact ih (c :: cur) acc h

theorem scan_prefix (max : Nat) : ∀ (a cur : Txt) (acc : List Txt), a.length + cur.length < max →
    ∃ acc', ∀ rest, scanLines max (a ++ nlCh :: rest) cur acc = scanLines max rest [] acc' := by
  intro a
  induction a with
  | nil =>
    intro cur acc h
    exact ⟨_, fun rest => by
      rw [List.nil_append, scan_nl, if_neg (Nat.not_le.mpr (Nat.lt_of_le_of_lt (Nat.le_add_left _ _) h))]⟩
  | cons c a ih =>
    intro cur acc h
    rw [List.length_cons, Nat.succ_add] at h
    by_cases hc : c = nlCh
    · subst hc
      have h' := Nat.lt_of_succ_lt h
      obtain ⟨acc', ha⟩ := ih [] (lineOfRev cur :: acc) (Nat.lt_of_le_of_lt (Nat.le_add_right _ _) h')
      exact ⟨acc', fun rest => by
        rw [List.cons_append, scan_nl, if_neg (Nat.not_le.mpr (Nat.lt_of_le_of_lt (Nat.le_add_left _ _) h')), ha]⟩
    · obtain ⟨acc', ha⟩ := ih (c :: cur) acc h
      exact ⟨acc', fun rest => by rw [List.cons_append, scanLines, if_neg hc, ha]⟩

theorem scan_prefix0 (max : Nat) (a : Txt) (acc : List Txt) (hlen : a.length < max) (h : atLineStart a) :
    ∃ acc', ∀ rest, scanLines max (a ++ rest) [] acc = scanLines max rest [] acc' := by
  rcases h with rfl | ⟨a0, rfl⟩
  · exact ⟨acc, fun _ => rfl⟩
  · rw [List.length_append] at hlen
    obtain ⟨acc', h'⟩ := scan_prefix max a0 [] acc (Nat.lt_of_succ_lt hlen)
    exact ⟨acc', fun rest => by rw [List.append_assoc]; exact h' rest⟩

theorem scan_complete (max : Nat) (a l b : Txt) (hmax : (a ++ l ++ nlCh :: b).length < max)
    (ha : atLineStart a) (hnl : nlCh ∉ l) (hcr : crCh ∉ l) :
    (scanLines max (a ++ l ++ nlCh :: b) [] []).2 = false ∧ l ∈ (scanLines max (a ++ l ++ nlCh :: b) [] []).1 := by
  simp only [List.length_append, List.length_cons] at hmax
  obtain ⟨acc', h'⟩ := scan_prefix0 max a [] (by omega) ha
  obtain ⟨ls, hls⟩ := scan_short max b [] (l :: acc') (by rw [List.length_nil]; omega)
  rw [List.append_assoc, h', scan_line max l b acc' hnl hcr (by omega), hls, List.reverse_cons]
  exact ⟨rfl, List.mem_append_left _ (List.mem_append_right _ List.mem_cons_self)⟩

theorem scan_too_long (max : Nat) (a l b : Txt) (halen : a.length < max) (ha : atLineStart a)
    (hnl : nlCh ∉ l) (hlen : max ≤ l.length) :
    scanLines max (a ++ l ++ nlCh :: b) [] [] = ((scanLines max a [] []).1, true) := by
  obtain ⟨acc', h'⟩ := scan_prefix0 max a [] halen ha
  have h0 := h' []
  rw [List.append_nil] at h0
  rw [h0, List.append_assoc, h', scan_noNl _ _ _ _ _ hnl, scan_nl, List.append_nil, List.length_reverse, if_pos hlen]
  rfl

end Tars.Conf
