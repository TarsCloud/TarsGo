import TarsModel.Model.Bytes

/-!
# Independent wire-format specification: heads and integers as the format prescribes them
-/
namespace Tars

/-- the head prescribed by the Tars wire format -/
def specHead (ty tag : Nat) : Bytes :=
  if tag < 15 then [byte (tag * 16 + ty)] else [byte (240 + ty), byte tag]

/-- narrowest width (in bytes) of a signed integer; 0 = the zero marker -/
def minWidth (v : Int) : Nat :=
  if v = 0 then 0
  else if -(2 : Int) ^ 7 ≤ v ∧ v < (2 : Int) ^ 7 then 1
  else if -(2 : Int) ^ 15 ≤ v ∧ v < (2 : Int) ^ 15 then 2
  else if -(2 : Int) ^ 31 ≤ v ∧ v < (2 : Int) ^ 31 then 4
  else 8

/-- wire type code for an integer of the given width -/
def intTy : Nat → Nat
  | 0 => 12 | 1 => 0 | 2 => 1 | 4 => 2 | _ => 3

/-- the integer encoding prescribed by the format: head, then `w` big-endian two's-complement bytes -/
def specInt (v : Int) (tag : Nat) : Bytes :=
  specHead (intTy (minWidth v)) tag ++ be (minWidth v) (toU (8 * minWidth v) v)

end Tars
