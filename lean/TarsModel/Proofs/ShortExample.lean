import TarsModel.Proofs.SchemaCheck

/-! A concrete schema, `struct P { 0 require int a; 1 optional string b; }`, with a value and its
encoding, for the struct-level examples of `Props/C06.lean`. -/
namespace Tars

def C06.bsP (l : List Nat) : Bytes := l.map byte

def C06.envP : Env := [("P", [⟨0, true, .i32, none⟩, ⟨1, false, .str, none⟩])]
def C06.rkP : String → Nat := fun _ => 0
def C06.fsP : List Field := [⟨0, true, .i32, none⟩, ⟨1, false, .str, none⟩]
/-- `a = 0x1234, b = "ab"` -/
def C06.vsP : List Val := [.int 0x1234, .str (C06.bsP [97, 98])]

theorem C06.findP : C06.envP.find "P" = some C06.fsP := by simp [C06.envP, C06.fsP, Env.find]

theorem C06.envP_wf : EnvWF C06.envP C06.rkP := EnvWF.of_check (by decide)

theorem C06.vP_wt : WellTyped C06.envP C06.rkP "P" (.struct C06.vsP) := by
  refine ⟨C06.envP_wf, ?_⟩
  simp [C06.vsP, WT, WTm, ScalarOK, C06.findP, C06.fsP, C06.bsP]

/-- the encoding: SHORT 0x1234 under tag 0, STRING1 "ab" under tag 1 -/
theorem C06.encP : encMembers C06.envP C06.fsP C06.vsP = C06.bsP [0x01, 0x12, 0x34, 0x16, 2, 97, 98] := by
  simp [C06.fsP, C06.vsP, encMembers, encVar, writeScalar, Ty.isScalar]
  decide

theorem C06.encP1 : encMembers C06.envP (C06.fsP.take 1) (C06.vsP.take 1) = C06.bsP [0x01, 0x12, 0x34] := by
  simp [C06.fsP, C06.vsP, encMembers, encVar, writeScalar, Ty.isScalar]
  decide

end Tars
