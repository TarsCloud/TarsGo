/-
  The timed call-path LTS `Tars.Call.tstep` (C09): the timing invariant (`Within` per call, `TInv`); every timed
  run is a run of the untimed LTS, so the invariants of `Proofs/RouteInv.lean` hold along it; there are no
  time-locks (`no_timelock`).
-/
import TarsModel.Model.Call
import TarsModel.Proofs.Lts
import TarsModel.Proofs.RouteInv

namespace Tars.Call
open Tars.Route

/-- the clock has not passed the call's budget, provided a wait at the full send queue is bounded at all -/
def InBudget (cfg : Cfg) (now : Nat) (t : Times) : Prop :=
  (t.blocked = true → 0 < cfg.writeTimeout) → now ≤ budget cfg t

/-- the timing bound of one call: where the clock can be, relative to the call's time stamps, at each
    program point -/
def Within (cfg : Cfg) (now : Nat) (pc : Pc) (t : Times) : Prop :=
  match pc with
  | .idle | .lock => True
  | .genCas | .genAdd | .pre | .select | .gate | .incQ | .store => now = t.start
  | .dial => now ≤ t.lockAt + cfg.dialTimeout
  | .enq => t.enqAt ≤ t.lockAt + cfg.dialTimeout ∧ (t.blocked = false → now = t.enqAt) ∧
      (t.blocked = true → 0 < cfg.writeTimeout → now ≤ t.enqAt + cfg.writeTimeout)
  | .wait | .decQ _ | .del _ | .post _ => InBudget cfg now t
  | .done _ => InBudget cfg t.ret t

theorem inBudget_of_start {cfg : Cfg} {now : Nat} {t : Times} (h : now = t.start) : InBudget cfg now t :=
  fun _ => h ▸ Nat.le_max_left _ _

theorem inBudget_of_dial {cfg : Cfg} {now : Nat} {t : Times} (h : now ≤ t.lockAt + cfg.dialTimeout) :
    InBudget cfg now t := by
  intro _; unfold budget; omega

theorem inBudget_of_deadline {cfg : Cfg} {now : Nat} {t : Times} (h : now ≤ t.deadline) : InBudget cfg now t := by
  intro _; unfold budget; omega

/-- leaving the select of `TarsClient.Send`: at once if the queue had room, within `WriteTimeout` otherwise -/
theorem inBudget_of_enq {cfg : Cfg} {now : Nat} {t : Times} (h : Within cfg now .enq t) : InBudget cfg now t := by
  obtain ⟨h1, h2, h3⟩ := h
  intro hw
  unfold budget
  cases hb : t.blocked
  · have := h2 hb; simp only [Bool.false_eq_true, ↓reduceIte]; omega
  · have := h3 hb (hw hb); simp only [↓reduceIte]; omega

theorem Within.edge {cfg : Cfg} {s : State} {c : Call} {t : Times} {now : Nat} {a : CallAct} {p p' : Pc}
    (he : Edge s c a p p') (hB : Within cfg now p t) : Within cfg now p' (stampCall cfg s now c t a) := by
  cases he with
  | begin => exact rfl
  | cas | addIssue | addZero | pre | selectSome | gateOk | incQ | timeout | decQ | del | post => exact hB
  | dialOk => exact ⟨hB, fun _ => rfl, nofun⟩
  | selectNone | gateFull => exact inBudget_of_start hB
  | store => trivial
  | lockDial hk hcl =>
    simp only [stampCall, hk, hcl, ↓reduceIte]
    exact Nat.le_add_right _ _
  | lockOpen hk hcl =>
    simp only [stampCall, hk, hcl]
    exact ⟨Nat.le_add_right _ _, fun _ => rfl, nofun⟩
  | dialFail => exact inBudget_of_dial hB
  | enqOneway | enqueue | writeTimeout => exact inBudget_of_enq hB

theorem Within.tick {cfg : Cfg} {b : State} {now : Nat} {c : Call} {t : Times}
    (hB : Within cfg now c.pc t) (hok : tickOk cfg b now c t = true) :
    Within cfg (now + 1) c.pc (if c.pc = .enq then { t with blocked := true } else t) := by
  -- everywhere but in the six places where a call may wait `tickOk` is `false`
  cases hpc : c.pc <;> simp only [tickOk, hpc, Bool.false_eq_true] at hok <;> rw [hpc] at hB <;>
    simp only [reduceCtorEq, ↓reduceIte]
  case idle | lock => trivial
  case done => exact hB
  case dial => exact Nat.succ_le_of_lt (of_decide_eq_true hok)
  case enq =>
    refine ⟨hB.1, nofun, fun _ hw => ?_⟩
    simp only [Bool.and_eq_true, Bool.or_eq_true, decide_eq_true_eq] at hok
    show now + 1 ≤ t.enqAt + cfg.writeTimeout
    omega
  case wait => exact inBudget_of_deadline (Nat.succ_le_of_lt (of_decide_eq_true hok))

structure TInv (cfg : Cfg) (ts : TState) : Prop where
  len : ts.times.length = ts.base.calls.length
  within : ∀ (i : Nat) (c : Call) (t : Times), ts.base.calls[i]? = some c → ts.times[i]? = some t → Within cfg ts.now c.pc t

theorem tinv_init (cfg : Cfg) (ctr : Int) : TInv cfg (tinit cfg ctr) := by
  constructor <;> simp [tinit, init]

theorem of_tstep_tick {cfg : Cfg} {ts ts' : TState} (h : tstep cfg ts .tick = some ts') :
    canTick cfg ts = true ∧ ts' = { ts with now := ts.now + 1, times := stampTick ts.base.calls ts.times } := by
  simp only [tstep] at h
  split at h
  · exact ⟨‹_›, (Option.some.inj h).symm⟩
  · contradiction

theorem of_tstep_act {cfg : Cfg} {ts ts' : TState} {a : Action} (h : tstep cfg ts (.act a) = some ts') :
    ∃ b', timeOk ts a = true ∧ step cfg ts.base a = some b' ∧ ts' = ⟨b', ts.now, stamp cfg ts a⟩ := by
  simp only [tstep] at h
  split at h
  · split at h
    · exact ⟨_, ‹_›, ‹_›, (Option.some.inj h).symm⟩
    · contradiction
  · contradiction

theorem tinv_step {cfg : Cfg} {ts ts' : TState} {a : TAction} (hI : TInv cfg ts) (h : tstep cfg ts a = some ts') :
    TInv cfg ts' := by
  cases a with
  | tick =>
    obtain ⟨hct, rfl⟩ := of_tstep_tick h
    constructor
    · simp [stampTick, List.length_zipWith, hI.len]
    · intro i c t hc ht
      simp only [stampTick, List.getElem?_zipWith] at ht
      split at ht
      · next c0 t0 hc0 ht0 =>
        injection ht with ht; subst ht
        simp only at hc
        rw [hc0] at hc; injection hc with hc; subst hc
        exact Within.tick (hI.within i c0 t0 hc0 ht0) (List.all_eq_true.mp hct (c0, t0)
          (List.mem_of_getElem? (List.getElem?_zip_eq_some.mpr ⟨hc0, ht0⟩)))
      · contradiction
  | act a =>
    obtain ⟨b', hto, hb, rfl⟩ := of_tstep_act h
    have hcalls := step_calls hb
    cases a with
    | spawn par =>
      simp only at hcalls
      constructor
      · simp [stamp, hcalls, hI.len]
      · intro i c t hc ht
        simp only [hcalls] at hc
        simp only [stamp] at ht
        rcases getElem?_append_one_cases hc with ⟨_, rfl⟩ | hc'
        · simp [Within]
        · rcases getElem?_append_one_cases ht with ⟨hi, _⟩ | ht'
          · have := lt_of_getElem? hc'; rw [hI.len] at hi; omega
          · exact hI.within i c t hc' ht'
    | call i ca =>
      obtain ⟨c, hc, hb⟩ := StepSpec.of_step hb
      obtain ⟨t, ht⟩ : ∃ t, ts.times[i]? = some t :=
        ⟨ts.times[i]'(hI.len ▸ lt_of_getElem? hc), List.getElem?_eq_getElem _⟩
      obtain ⟨c', hs, _, he⟩ := callStep_summary hc hb
      have hcs := hs.calls
      have hB' := Within.edge (now := ts.now) he (hI.within i c t hc ht)
      constructor
      · simp [stamp, hc, ht, hcs, hI.len]
      · intro j cj tj hcj htj
        simp only [stamp, hc, ht] at htj
        simp only [hcs] at hcj
        rcases getElem?_set_cases hcj with ⟨rfl, rfl⟩ | ⟨hji, hcj'⟩ <;>
          rcases getElem?_set_cases htj with ⟨hji', rfl⟩ | ⟨hne, htj'⟩
        · exact hB'
        · exact absurd rfl hne
        · exact absurd hji' hji
        · exact hI.within j cj tj hcj' htj'
    | deliver r =>
      simp only at hcalls
      obtain ⟨i, c, p, hc, hw, hcs⟩ := hcalls
      constructor
      · simp [stamp, hcs, hI.len]
      · intro j cj tj hcj htj
        simp only [stamp] at htj
        simp only [hcs] at hcj
        rcases getElem?_set_cases hcj with ⟨rfl, rfl⟩ | ⟨_, hcj'⟩
        · exact (hw ▸ hI.within j c tj hc htj : Within cfg ts.now .wait tj)
        · exact hI.within j cj tj hcj' htj
    | emit _ _ | garbage _ | lookup _ | giveUp _ | drain _ | connClose _ | kaCas | kaAdd | kaTake _ | kaRelease _ =>
      exact ⟨hcalls ▸ hI.len, hcalls ▸ hI.within⟩

theorem tinv_reachable {cfg : Cfg} {ctr : Int} {ts : TState} (h : TReachable cfg ctr ts) : TInv cfg ts := by
  induction h with
  | init => exact tinv_init cfg ctr
  | step a _ hs ih => exact tinv_step ih hs

theorem base_reachable {cfg : Cfg} {ctr : Int} {ts : TState} (h : TReachable cfg ctr ts) :
    Reachable cfg ctr ts.base := by
  induction h with
  | init => exact Reachable.init
  | step a _ hs ih =>
    cases a with
    | tick => exact (of_tstep_tick hs).2 ▸ ih
    | act a => obtain ⟨b', _, hb, rfl⟩ := of_tstep_act hs; exact Reachable.step a ih hb

theorem isRun (cfg : Cfg) : Lts.IsRun (tstep cfg) (trun cfg) :=
  ⟨fun _ => rfl, fun s a _ => by rw [trun]; cases tstep cfg s a <;> rfl⟩

theorem trun_reachable {cfg : Cfg} {ctr : Int} {ts0 ts : TState} {as : List TAction} (h0 : TReachable cfg ctr ts0)
    (h : trun cfg ts0 as = some ts) : TReachable cfg ctr ts :=
  (isRun cfg).inv (TReachable.step _) h0 h

theorem tstep_call_some {cfg : Cfg} {ts : TState} {i : Nat} {c : Call} {a : CallAct}
    (hc : ts.base.calls[i]? = some c) (hto : timeOk ts (.call i a) = true)
    (h : (callStep cfg ts.base i c a).isSome = true) : ∃ ts', tstep cfg ts (.act (.call i a)) = some ts' := by
  obtain ⟨b', hb⟩ := Option.isSome_iff_exists.mp h
  simp [tstep, hto, step, hc, hb]

theorem no_timelock {cfg : Cfg} {ctr : Int} {ts : TState} (hr : TReachable cfg ctr ts)
    (hct : canTick cfg ts = false) : ∃ i a ts', tstep cfg ts (.act (.call i a)) = some ts' := by
  have hInv := inv_reachable (base_reachable hr)
  have : ∃ ct, ct ∈ List.zip ts.base.calls ts.times ∧ tickOk cfg ts.base ts.now ct.1 ct.2 = false := by
    unfold canTick at hct
    rw [List.all_eq_false] at hct
    obtain ⟨ct, hm, hf⟩ := hct
    exact ⟨ct, hm, by simpa using hf⟩
  obtain ⟨⟨c, t⟩, hm, hf⟩ := this
  obtain ⟨i, hi⟩ := List.mem_iff_getElem?.mp hm
  obtain ⟨hc, ht⟩ := List.getElem?_zip_eq_some.mp hi
  simp only at hc ht hf
  have hconn : c.pc.needsAdp = true → ∃ k, ts.base.conns[c.adp]? = some k := by
    intro hn
    have := hInv.adpValid i c hc hn
    exact ⟨ts.base.conns[c.adp], by simp [this]⟩
  refine ⟨i, ?_⟩
  -- where the tick is refused the call's own next action is enabled (`idle`, `done` never refuse it: `hf` closes them)
  cases hpc : c.pc <;> simp only [tickOk, hpc, reduceCtorEq] at hf
  case lock =>
    obtain ⟨k, hk⟩ := hconn (by rw [hpc]; rfl)
    have hl : k.locked = false := by simpa [connLocked, hk] using hf
    exact ⟨.lockAcq, tstep_call_some hc rfl (by simp only [callStep, hpc, hk, hl, Bool.false_eq_true, ↓reduceIte]; split <;> rfl)⟩
  case dial =>
    obtain ⟨k, hk⟩ := hconn (by rw [hpc]; rfl)
    exact ⟨.dialOk, tstep_call_some hc rfl (by simp [callStep, hpc, hk])⟩
  case enq =>
    obtain ⟨k, hk⟩ := hconn (by rw [hpc]; rfl)
    by_cases hq : k.sendQ.length < cfg.queueCap
    · exact ⟨.enqueue, tstep_call_some hc rfl (by simp [callStep, hpc, hk, hq])⟩
    · have hwt : 0 < cfg.writeTimeout := by
        simp [queueFull, hk, Nat.le_of_not_lt hq] at hf
        omega
      exact ⟨.writeTimeout, tstep_call_some hc rfl (by simp [callStep, hpc, hwt])⟩
  case wait =>
    have hd : t.deadline ≤ ts.now := by simpa using hf
    exact ⟨.timeout, tstep_call_some hc (by simp [timeOk, ht, hd]) (by simp [callStep, hpc])⟩
  case genCas => exact ⟨.cas, tstep_call_some hc rfl (by simp [callStep, hpc])⟩
  case genAdd => exact ⟨.add, tstep_call_some hc rfl (by simp only [callStep, hpc]; split <;> rfl)⟩
  case pre => exact ⟨.pre, tstep_call_some hc rfl (by simp [callStep, hpc])⟩
  case select => exact ⟨.selectAdp none, tstep_call_some hc rfl (by simp [callStep, hpc])⟩
  case gate => exact ⟨.gate, tstep_call_some hc rfl (by simp only [callStep, hpc]; split <;> rfl)⟩
  case incQ => exact ⟨.incQ, tstep_call_some hc rfl (by simp [callStep, hpc])⟩
  case store => exact ⟨.store, tstep_call_some hc rfl (by simp [callStep, hpc])⟩
  case decQ => exact ⟨.decQ, tstep_call_some hc rfl (by simp [callStep, hpc])⟩
  case del => exact ⟨.del, tstep_call_some hc rfl (by simp [callStep, hpc])⟩
  case post => exact ⟨.post, tstep_call_some hc rfl (by simp [callStep, hpc])⟩

end Tars.Call
