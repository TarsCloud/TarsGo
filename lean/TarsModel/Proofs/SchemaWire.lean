import TarsModel.Proofs.SchemaEnc
import TarsModel.Proofs.Parsable

/-!
# The wire field of a value

`genWriteVar` is a schema-directed step (which field does this member become, or is it omitted?)
followed by a schema-free one (the bytes of a field).  The second step is `WFField.render`; this
file names the first — `wireVar`, beside `omitted` of `SchemaEnc.lean` — with the one equation
`encVar_eq_render` between them and `encVar`.  What is said about encodings afterwards can be said
about fields.
-/
namespace Tars
open Consts WFField Skip

/-! ## scalars -/

def wireScalar (ty : Ty) (v : Val) (tag : Nat) : WFField :=
  match ty, v with
  | .bool, .bool b => intField tag (if b then 1 else 0)
  | .f32, .f32 b => .float tag b
  | .f64, .f64 b => .double tag b
  | .str, .str s => if s.length > 255 then .string4 tag s else .string1 tag s
  | _, .int i => intField tag i
  | _, _ => default

theorem wireScalar_int (ty : Ty) (i : Int) (tag : Nat) : wireScalar ty (.int i) tag = intField tag i := by
  cases ty <;> rfl

theorem writeScalar_render {ty : Ty} {v : Val} (tag : Nat) (h : ScalarOK ty v) :
    writeScalar ty v tag = render (wireScalar ty v tag) := by
  rcases h.shape with ⟨b, rfl, rfl⟩ | ⟨i, rfl⟩ | ⟨b, rfl, rfl⟩ | ⟨b, rfl, rfl⟩ | ⟨s, rfl, rfl⟩
  · simp only [writeScalar, wireScalar, writeBool_spec, render_intField]
  · rw [writeScalar_int ty i tag h, wireScalar_int, render_intField]
  · rfl
  · rfl
  · simp only [writeScalar, wireScalar, writeString, str1Max]
    split <;> simp [render, WFField.ty, WFField.tag, body]

theorem wireScalar_tag {ty : Ty} {v : Val} (tag : Nat) (h : ScalarOK ty v) :
    (wireScalar ty v tag).tag = tag := by
  rcases h.shape with ⟨b, rfl, rfl⟩ | ⟨i, rfl⟩ | ⟨b, rfl, rfl⟩ | ⟨b, rfl, rfl⟩ | ⟨s, rfl, rfl⟩
  · exact intField_tag _ _
  · rw [wireScalar_int]; exact intField_tag _ _
  · rfl
  · rfl
  · simp only [wireScalar]; split <;> rfl

/-! ## members -/

mutual
/-- the field a member/element holding `v` is written as (when it is written) -/
def wireVar (env : Env) (tag : Nat) (ty : Ty) : Val → WFField
  | .list vs =>
    match ty with
    | .vec e | .arr _ e =>
      if e = .i8 then .simpleList tag (int8Bytes vs) else .list tag (wireElems env e vs)
    | _ => default
  | .map kvs =>
    match ty with
    | .map k v => .map tag (wirePairs env k v kvs)
    | _ => default
  | .struct vs =>
    match ty with
    | .struct name =>
      match env.find name with
      | some fs => .struct tag (wireMembers env fs vs)
      | none => default
    | _ => default
  | v => wireScalar ty v tag
def wireElems (env : Env) (e : Ty) : List Val → List WFField
  | [] => []
  | v :: vs => wireVar env 0 e v :: wireElems env e vs
def wirePairs (env : Env) (k v : Ty) : List (Val × Val) → List (WFField × WFField)
  | [] => []
  | (a, b) :: rest => (wireVar env 0 k a, wireVar env 1 v b) :: wirePairs env k v rest
def wireMembers (env : Env) : List Field → List Val → List WFField
  | f :: fs, v :: vs =>
    if omitted f.req f.ty f.dflt v then wireMembers env fs vs
    else wireVar env f.tag f.ty v :: wireMembers env fs vs
  | _, _ => []
end

theorem wireElems_length (env : Env) (e : Ty) : ∀ vs, (wireElems env e vs).length = vs.length
  | [] => rfl
  | _ :: vs => by simp [wireElems, wireElems_length env e vs]

theorem wirePairs_length (env : Env) (k v : Ty) : ∀ kvs, (wirePairs env k v kvs).length = kvs.length
  | [] => rfl
  | (_, _) :: kvs => by simp [wirePairs, wirePairs_length env k v kvs]

theorem wireVar_leaf (env : Env) (tag : Nat) (ty : Ty) {v : Val} (h : v.isLeaf = true) :
    wireVar env tag ty v = wireScalar ty v tag := by
  cases v <;> first | (cases h; done) | simp only [wireVar]

theorem wireVar_list (env : Env) (tag : Nat) {ty e : Ty} {vs : List Val}
    (hty : ty = .vec e ∨ ty = .arr vs.length e) :
    wireVar env tag ty (.list vs) =
      if e = .i8 then .simpleList tag (int8Bytes vs) else .list tag (wireElems env e vs) := by
  rcases hty with rfl | rfl <;> simp only [wireVar]

theorem wireVar_tag (env : Env) (tag : Nat) {ty : Ty} {v : Val} (h : WT env ty v) :
    (wireVar env tag ty v).tag = tag :=
  WT.ind (P := fun ty v => (wireVar env tag ty v).tag = tag)
    (fun hl hv => by rw [wireVar_leaf env tag _ hl]; exact wireScalar_tag tag hv)
    (fun hty _ _ => by rw [wireVar_list env tag hty]; split <;> rfl)
    (fun _ _ _ => rfl)
    (fun hfs _ _ => by simp only [wireVar, hfs]; rfl) v ty h

theorem wireMembers_tags (env : Env) : ∀ (fs : List Field) (vs : List Val), WTm env fs vs →
    ((wireMembers env fs vs).map WFField.tag).Sublist (fs.map Field.tag)
  | [], [], _ => by simp [wireMembers]
  | [], _ :: _, h => by simp [WTm] at h
  | _ :: _, [], h => by simp [WTm] at h
  | g :: gs, v :: vs, h => by
    simp only [WTm] at h
    have ih := wireMembers_tags env gs vs h.2
    rw [wireMembers]
    split
    · exact ih.trans (List.sublist_cons_self _ _)
    · simp only [List.map_cons, wireVar_tag env g.tag h.1]
      exact ih.cons_cons _

/-! ## `genWriteVar` = omit, or render the field -/

def EncEq (env : Env) (ty : Ty) (v : Val) : Prop :=
  ∀ (tag : Nat) (req : Bool) (dflt : Option Val),
    encVar env tag req ty dflt v =
      if omitted req ty dflt v then [] else render (wireVar env tag ty v)

theorem EncEq.elem {env : Env} {ty : Ty} {v : Val} (h : EncEq env ty v) (tag : Nat) :
    encVar env tag true ty none v = render (wireVar env tag ty v) := by
  rw [h tag true none, omitted_req]; rfl

theorem encElems_eq (env : Env) (e : Ty) : ∀ (vs : List Val), (∀ v ∈ vs, EncEq env e v) →
    encElems env e vs = renderList (wireElems env e vs)
  | [], _ => rfl
  | v :: vs, ih => by
    rw [encElems, wireElems, renderList_cons, (ih v (by simp)).elem 0,
      encElems_eq env e vs (fun w hw => ih w (by simp [hw]))]

theorem encPairs_eq (env : Env) (k v : Ty) : ∀ (kvs : List (Val × Val)),
    (∀ p ∈ kvs, EncEq env k p.1 ∧ EncEq env v p.2) →
    encPairs env k v kvs = renderPairs (wirePairs env k v kvs)
  | [], _ => rfl
  | (a, b) :: kvs, ih => by
    rw [encPairs, wirePairs, renderPairs_cons, (ih (a, b) (by simp)).1.elem 0,
      (ih (a, b) (by simp)).2.elem 1,
      encPairs_eq env k v kvs (fun p hp => ih p (by simp [hp])), List.append_assoc]

theorem encMembers_eq (env : Env) : ∀ (vs : List Val), (∀ v ∈ vs, ∀ ty, WT env ty v → EncEq env ty v) →
    ∀ (fs : List Field), WTm env fs vs → encMembers env fs vs = renderList (wireMembers env fs vs)
  | [], _, fs, _ => by cases fs <;> rfl
  | v :: vs, ih, [], hwt => by simp [WTm] at hwt
  | v :: vs, ih, g :: gs, hwt => by
    simp only [WTm] at hwt
    rw [encMembers, wireMembers, ih v (by simp) g.ty hwt.1 g.tag g.req g.dflt,
      encMembers_eq env vs (fun w hw => ih w (by simp [hw])) gs hwt.2]
    split
    · rfl
    · rw [renderList_cons]

theorem encEq_all (env : Env) : ∀ v ty, WT env ty v → EncEq env ty v :=
  WT.ind
    (fun hl hv tag req dflt => by
      rw [encVar_scalarVal env tag req _ dflt _ hv, wireVar_leaf env tag _ hl, ← writeScalar_render tag hv])
    (fun hty hlen ih tag req dflt => by
      rw [encVar_list env tag req dflt hty, wireVar_list env tag hty, lenField_eq _ hlen,
        encElems_eq env _ _ fun v hv => (ih v hv).2]
      split
      · rfl
      · split <;>
          simp [render, WFField.ty, WFField.tag, body, int8Bytes_length, wireElems_length])
    (fun hlen _ ih tag req dflt => by
      rw [encVar_map, wireVar, lenField_eq _ hlen,
        encPairs_eq env _ _ _ fun p hp => ⟨(ih p hp).1.2, (ih p hp).2.2⟩]
      split
      · rfl
      · simp [render, WFField.ty, WFField.tag, body, wirePairs_length])
    (fun hfs hw ih tag req dflt => by
      rw [encVar, wireVar]
      simp only [hfs, omitted, encMembers_eq env _ ih _ hw]
      simp [render, WFField.ty, WFField.tag, body])

theorem encVar_eq_render (env : Env) (v : Val) (tag : Nat) (req : Bool) (ty : Ty) (dflt : Option Val)
    (hwt : WT env ty v) :
    encVar env tag req ty dflt v =
      if omitted req ty dflt v then [] else render (wireVar env tag ty v) :=
  encEq_all env v ty hwt tag req dflt

theorem encMembers_eq_render (env : Env) (fs : List Field) (vs : List Val) (h : WTm env fs vs) :
    encMembers env fs vs = renderList (wireMembers env fs vs) :=
  encMembers_eq env vs (fun v _ => encEq_all env v) fs h

/-! ## a member that is written occupies bytes -/

theorem encVar_req_pos (env : Env) (tag : Nat) (ty : Ty) (dflt : Option Val) (v : Val)
    (h : WT env ty v) : 0 < (encVar env tag true ty dflt v).length := by
  rw [encVar_eq_render env v tag true ty dflt h, omitted_req]
  exact render_length_pos _

theorem encElems_length_ge (env : Env) (e : Ty) (vs : List Val) (h : WTs env e vs) :
    vs.length ≤ (encElems env e vs).length := by
  rw [encElems_eq env e vs (fun v hv => encEq_all env v e (WTs_mem h v hv)), ← wireElems_length env e vs]
  exact length_le_renderList _

theorem encPairs_length_ge (env : Env) (k v : Ty) (kvs : List (Val × Val)) (h : WTp env k v kvs) :
    kvs.length ≤ (encPairs env k v kvs).length := by
  have := two_mul_length_le_renderPairs (wirePairs env k v kvs)
  rw [encPairs_eq env k v kvs fun p hp =>
    ⟨encEq_all env p.1 k (WTp_mem h p hp).1, encEq_all env p.2 v (WTp_mem h p hp).2⟩]
  rw [wirePairs_length] at this
  omega

/-! ## the field of a well-typed value is parsable -/

def WireOK (env : Env) (ty : Ty) (v : Val) : Prop :=
  ∀ (tag : Nat), tag < 256 → parsable (wireVar env tag ty v) = true

theorem wireScalar_parsable {ty : Ty} {v : Val} {tag : Nat} (htag : tag < 256) (h : ScalarOK ty v) :
    parsable (wireScalar ty v tag) = true := by
  rcases h.shape with ⟨b, rfl, rfl⟩ | ⟨i, rfl⟩ | ⟨b, rfl, rfl⟩ | ⟨b, rfl, rfl⟩ | ⟨s, rfl, rfl⟩
  · exact intField_parsable _ _ htag
  · rw [wireScalar_int]; exact intField_parsable _ _ htag
  · simp [wireScalar, parsable, htag]
  · simp [wireScalar, parsable, htag]
  · simp only [ScalarOK] at h
    simp only [wireScalar]; split <;> simp [parsable, htag] <;> omega

theorem wireElems_ok (env : Env) (e : Ty) : ∀ (vs : List Val), (∀ v ∈ vs, WT env e v ∧ WireOK env e v) →
    parsableElems (wireElems env e vs) = true
  | [], _ => rfl
  | v :: vs, ih => by
    simp [wireElems, parsableElems, wireVar_tag env 0 (ih v (by simp)).1, (ih v (by simp)).2 0 (by decide),
      wireElems_ok env e vs (fun w hw => ih w (by simp [hw]))]

theorem wirePairs_ok (env : Env) (k v : Ty) : ∀ (kvs : List (Val × Val)),
    (∀ p ∈ kvs, (WT env k p.1 ∧ WireOK env k p.1) ∧ (WT env v p.2 ∧ WireOK env v p.2)) →
    parsablePairs (wirePairs env k v kvs) = true
  | [], _ => rfl
  | (a, b) :: rest, ih => by
    obtain ⟨⟨ha, a2⟩, hb, b2⟩ := ih (a, b) (by simp)
    simp [wirePairs, parsablePairs, wireVar_tag env 0 ha, wireVar_tag env 1 hb, a2 0 (by decide),
      b2 1 (by decide), wirePairs_ok env k v rest (fun p hp => ih p (by simp [hp]))]

theorem wireMembers_ok (env : Env) : ∀ (vs : List Val),
    (∀ v ∈ vs, ∀ ty, WT env ty v → WireOK env ty v) →
    ∀ (fs : List Field), (∀ f ∈ fs, f.tag < 256) → WTm env fs vs →
    parsableMembers (wireMembers env fs vs) = true
  | [], _, fs, _, _ => by cases fs <;> rfl
  | v :: vs, ih, [], _, hwt => by simp [WTm] at hwt
  | v :: vs, ih, g :: gs, htag, hwt => by
    simp only [WTm] at hwt
    have r2 := wireMembers_ok env vs (fun w hw => ih w (by simp [hw])) gs
      (fun f hf => htag f (by simp [hf])) hwt.2
    rw [wireMembers]
    split
    · exact r2
    · simp [parsableMembers, r2, ih v (by simp) g.ty hwt.1 g.tag (htag g (by simp))]

theorem wireOK_all (env : Env) (rk : String → Nat) (hE : EnvWF env rk) :
    ∀ v ty, WT env ty v → WireOK env ty v :=
  WT.ind
    (fun hl hv tag htag => by rw [wireVar_leaf env tag _ hl]; exact wireScalar_parsable htag hv)
    (fun hty hlen ih tag htag => by
      rw [wireVar_list env tag hty]
      split
      · simp [parsable, htag, int8Bytes_length, hlen]
      · simp [parsable, htag, wireElems_length, hlen, wireElems_ok env _ _ ih])
    (fun hlen _ ih tag htag => by
      simp [wireVar, parsable, htag, wirePairs_length, hlen, wirePairs_ok env _ _ _ ih])
    (fun {S fs vs} hfs hw ih tag htag => by
      simp [wireVar, hfs, parsable, htag, wireMembers_ok env vs ih fs (fun f hf => (hE.memberOK hfs f hf).1) hw])

end Tars
