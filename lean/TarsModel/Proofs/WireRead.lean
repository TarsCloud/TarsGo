import TarsModel.Model.WireField
import TarsModel.Proofs.Wire
import TarsModel.Proofs.WireSpec

/-! What each `ReadX` returns when the field with the wanted tag is next in the input.  Every
    `ReadX` is `readWith` over a type switch; each switch has a table of the wire types it admits
    (`intWidth`, `f32Width`, `f64Width`, `strLenWidth`), and the scalar ones are one table-driven
    switch `fixedBody`.  The four integer readers are instances of one reader indexed by the width
    of the target (`readWith … (intBody w)`), so their lemmas are stated once, over the width.
    Then the writers against the format's specification (`WireSpec`), and the integer, length and
    string readers on what the writer of their type wrote (floats: `Props/C02.lean`). -/
namespace Tars
open Consts

/-- common shape of every `Reader.ReadX`: `SkipToNoCheck`, then a type switch on the head found -/
def readWith {α : Type} (old : α) (tag : Nat) (req : Bool) (body : Nat → RM α) : RM α := fun r =>
  match skipToNoCheck tag req r with
  | (.error e, r') => (.error e, r')
  | (.ok (false, _), r1) => (.ok old, r1)
  | (.ok (true, ty), r1) => body ty r1

theorem mapRes_readWith {α β : Type} (f : α → β) (old : α) (tag : Nat) (req : Bool) (body : Nat → RM α)
    (r : Reader) :
    mapRes f (readWith old tag req body r)
      = readWith (f old) tag req (fun ty r1 => mapRes f (body ty r1)) r := by
  unfold readWith
  rcases skipToNoCheck tag req r with ⟨_ | ⟨_ | _, _⟩, _⟩ <;> rfl

theorem readWith_found {α : Type} {old : α} {tag : Nat} {req : Bool} {body : Nat → RM α}
    {r r1 : Reader} {ty : Nat} (h : skipToNoCheck tag req r = (.ok (true, ty), r1)) :
    readWith old tag req body r = body ty r1 := by
  unfold readWith; rw [h]

theorem readWith_absent {α : Type} (old : α) (tag : Nat) (body : Nat → RM α) (r : Reader)
    (h : NextTagGt tag r.rest) : readWith old tag false body r = (.ok old, r) := by
  obtain ⟨ty, h'⟩ := skipToNoCheck_miss r tag h
  unfold readWith
  rw [h']

/-- the type switch of `ReadInt8/16/32/64` (`w` = 1, 2, 4, 8 bytes in the target): one switch, cut
    off after the widest payload the target holds -/
def intBody (w : Nat) (ty : Nat) : RM Int := fun r1 =>
  if ty = tyZeroTag then (.ok 0, r1)
  else if ty = tyBYTE then mapRes (toS 8) (bReadU8 r1)
  else if w < 2 then (.error .mismatch, r1)
  else if ty = tySHORT then mapRes (toS 16) (bReadU 2 r1)
  else if w < 4 then (.error .mismatch, r1)
  else if ty = tyINT then mapRes (toS 32) (bReadU 4 r1)
  else if w < 8 then (.error .mismatch, r1)
  else if ty = tyLONG then mapRes (toS 64) (bReadU 8 r1)
  else (.error .mismatch, r1)

/-- payload width (bytes) of wire type `ty` when read into an integer of at most `maxw` bytes;
    `none` = not admissible -/
def intWidth (maxw ty : Nat) : Option Nat :=
  if ty = tyZeroTag then some 0
  else if ty = tyBYTE then some 1
  else if ty = tySHORT ∧ 2 ≤ maxw then some 2
  else if ty = tyINT ∧ 4 ≤ maxw then some 4
  else if ty = tyLONG ∧ 8 ≤ maxw then some 8
  else none

/-- payload width of the wire types `ReadFloat32` admits (`0`: the zero marker) -/
def f32Width (ty : Nat) : Option Nat :=
  if ty = tyZeroTag then some 0 else if ty = tyFLOAT then some 4 else none

/-- payload width of the wire types `ReadFloat64` admits: a FLOAT field is widened -/
def f64Width (ty : Nat) : Option Nat :=
  if ty = tyZeroTag then some 0 else if ty = tyFLOAT then some 4 else if ty = tyDOUBLE then some 8 else none

/-- the type switches of `ReadFloat32` / `ReadFloat64` -/
def f32Body (ty : Nat) : RM Nat := fun r1 =>
  if ty = tyZeroTag then (.ok 0, r1) else if ty = tyFLOAT then bReadU 4 r1 else (.error .mismatch, r1)

def f64Body (ty : Nat) : RM Nat := fun r1 =>
  if ty = tyZeroTag then (.ok 0, r1) else if ty = tyFLOAT then mapRes widenF32 (bReadU 4 r1)
  else if ty = tyDOUBLE then bReadU 8 r1 else (.error .mismatch, r1)

def strLenWidth (ty : Nat) : Option Nat :=
  if ty = tySTRING4 then some 4 else if ty = tySTRING1 then some 1 else none

/-- the type switch of `ReadString` -/
def strBody (ty : Nat) : RM Bytes := fun r1 =>
  if ty = tySTRING4 then
    match bReadU 4 r1 with
    | (.error e, r') => (.error e, r')
    | (.ok l, r2) => nextExact l r2
  else if ty = tySTRING1 then
    match bReadU8 r1 with
    | (.error e, r') => (.error e, r')
    | (.ok l, r2) => nextExact l r2
  else (.error .mismatch, r1)

theorem readInt8_body (old : Int) (tag : Nat) (req : Bool) :
    readInt8 old tag req = readWith old tag req (intBody 1) := rfl
theorem readInt16_body (old : Int) (tag : Nat) (req : Bool) :
    readInt16 old tag req = readWith old tag req (intBody 2) := rfl
theorem readInt32_body (old : Int) (tag : Nat) (req : Bool) :
    readInt32 old tag req = readWith old tag req (intBody 4) := rfl
theorem readInt64_body (old : Int) (tag : Nat) (req : Bool) :
    readInt64 old tag req = readWith old tag req (intBody 8) := rfl

theorem readFloat32_body (old : Nat) (tag : Nat) (req : Bool) :
    readFloat32 old tag req = readWith old tag req f32Body := rfl
theorem readFloat64_body (old : Nat) (tag : Nat) (req : Bool) :
    readFloat64 old tag req = readWith old tag req f64Body := rfl
theorem readString_body (old : Bytes) (tag : Nat) (req : Bool) :
    readString old tag req = readWith old tag req strBody := by
  funext r; unfold readString readWith strBody; rfl

/-- a type switch given by a table: the payload width of each admissible wire type (`0`: the zero
    marker, no payload), and the conversion of the payload's big-endian value.  The integer and
    float switches are of this form (`intBody_eq`, `f32Body_eq`, `f64Body_eq`), so what a switch does
    on arbitrary, complete and short input is said once. -/
def fixedBody {α : Type} (width : Nat → Option Nat) (zero : α) (conv : Nat → Nat → α) (ty : Nat) :
    RM α := fun r1 =>
  match width ty with
  | none => (.error .mismatch, r1)
  | some w => if w = 0 then (.ok zero, r1) else mapRes (conv w) (bReadU w r1)

section
variable {α : Type} {width : Nat → Option Nat} {zero : α} {conv : Nat → Nat → α} {ty : Nat}

theorem fixedBody_mismatch (h : width ty = none) (r1 : Reader) :
    fixedBody width zero conv ty r1 = (.error .mismatch, r1) := by
  unfold fixedBody; rw [h]

theorem fixedBody_of_width {w : Nat} (h : width ty = some w) (r1 : Reader) :
    fixedBody width zero conv ty r1
      = if w = 0 then (.ok zero, r1) else mapRes (conv w) (bReadU w r1) := by
  unfold fixedBody; rw [h]

end

/-- `intWidth` asks "this type and wide enough", `intBody` "too narrow, else this type" -/
theorem intBody_eq (maxw : Nat) : intBody maxw = fixedBody (intWidth maxw) 0 fun w => toS (8 * w) := by
  funext ty r1
  unfold fixedBody intWidth intBody
  by_cases c0 : ty = tyZeroTag
  · rw [if_pos c0, if_pos c0]; rfl
  rw [if_neg c0, if_neg c0]
  by_cases c1 : ty = tyBYTE
  · rw [if_pos c1, if_pos c1, bReadU8_eq_bReadU]; rfl
  rw [if_neg c1, if_neg c1]
  by_cases c2 : ty = tySHORT ∧ 2 ≤ maxw
  · rw [if_pos c2, if_neg (by omega), if_pos c2.1]; rfl
  rw [if_neg c2]
  by_cases c4 : ty = tyINT ∧ 4 ≤ maxw
  · rw [if_pos c4, if_neg (by omega), if_neg (by rw [c4.1]; decide), if_neg (by omega), if_pos c4.1]
    rfl
  rw [if_neg c4]
  by_cases c8 : ty = tyLONG ∧ 8 ≤ maxw
  · rw [if_pos c8, if_neg (by omega), if_neg (by rw [c8.1]; decide), if_neg (by omega),
      if_neg (by rw [c8.1]; decide), if_neg (by omega), if_pos c8.1]
    rfl
  rw [if_neg c8]
  by_cases w2 : maxw < 2
  · rw [if_pos w2]
  rw [if_neg w2, if_neg (fun e => c2 ⟨e, by omega⟩)]
  by_cases w4 : maxw < 4
  · rw [if_pos w4]
  rw [if_neg w4, if_neg (fun e => c4 ⟨e, by omega⟩)]
  by_cases w8 : maxw < 8
  · rw [if_pos w8]
  rw [if_neg w8, if_neg (fun e => c8 ⟨e, by omega⟩)]

theorem f32Body_eq : f32Body = fixedBody f32Width 0 fun _ v => v := by
  funext ty r1
  unfold f32Body fixedBody f32Width
  by_cases c0 : ty = tyZeroTag
  · rw [if_pos c0, if_pos c0]; rfl
  rw [if_neg c0, if_neg c0]
  by_cases c1 : ty = tyFLOAT
  · rw [if_pos c1, if_pos c1]; exact (mapRes_id _).symm
  rw [if_neg c1, if_neg c1]

theorem f64Body_eq : f64Body = fixedBody f64Width 0 fun w v => if w = 4 then widenF32 v else v := by
  funext ty r1
  unfold f64Body fixedBody f64Width
  by_cases c0 : ty = tyZeroTag
  · rw [if_pos c0, if_pos c0]; rfl
  rw [if_neg c0, if_neg c0]
  by_cases c1 : ty = tyFLOAT
  · rw [if_pos c1, if_pos c1]; rfl
  rw [if_neg c1, if_neg c1]
  by_cases c2 : ty = tyDOUBLE
  · rw [if_pos c2, if_pos c2]; exact (mapRes_id _).symm
  rw [if_neg c2, if_neg c2]

theorem strBody_eq (ty : Nat) (r1 : Reader) : strBody ty r1 =
    match strLenWidth ty with
    | none => (.error .mismatch, r1)
    | some w =>
      match bReadU w r1 with
      | (.error e, r') => (.error e, r')
      | (.ok l, r2) => nextExact l r2 := by
  unfold strBody strLenWidth
  by_cases c4 : ty = tySTRING4
  · rw [if_pos c4, if_pos c4]
  rw [if_neg c4, if_neg c4]
  by_cases c1 : ty = tySTRING1
  · rw [if_pos c1, if_pos c1, bReadU8_eq_bReadU]
  rw [if_neg c1, if_neg c1]

theorem strLenWidth_pos {ty w : Nat} (h : strLenWidth ty = some w) : 0 < w := by
  unfold strLenWidth at h
  by_cases c4 : ty = tySTRING4
  · rw [if_pos c4] at h; cases h; decide
  rw [if_neg c4] at h
  by_cases c1 : ty = tySTRING1
  · rw [if_pos c1] at h; cases h; decide
  rw [if_neg c1] at h; cases h

theorem intWidth_ty {w ty k : Nat} (h : intWidth w ty = some k) : ty < 16 ∧ ty ≠ tyStructEnd := by
  unfold intWidth at h
  by_cases c0 : ty = tyZeroTag; · rw [c0]; decide
  by_cases c1 : ty = tyBYTE; · rw [c1]; decide
  by_cases c2 : ty = tySHORT ∧ 2 ≤ w; · rw [c2.1]; decide
  by_cases c4 : ty = tyINT ∧ 4 ≤ w; · rw [c4.1]; decide
  by_cases c8 : ty = tyLONG ∧ 8 ≤ w; · rw [c8.1]; decide
  rw [if_neg c0, if_neg c1, if_neg c2, if_neg c4, if_neg c8] at h
  cases h

/-! ## a field that is next in the input: the head once, then the switch on the payload

    A canonical field is `writeHead ty tag ++ p`.  The head is consumed by `SkipToNoCheck`
    (`readWith_hit`); what a reader makes of the payload `p` is said about its switch alone
    (`intBody_field`, `f32Body_float`, `strBody_rt`, …), in the form `readWith_field` asks for. -/

theorem readWith_hit {α : Type} (old : α) (body : Nat → RM α) (r : Reader) (ty tag : Nat) (req : Bool)
    (rest : Bytes) (hty : ty < 16) (hne : ty ≠ tyStructEnd) (htag : tag < 256)
    (h : r.rest = writeHead ty tag ++ rest) :
    readWith old tag req body r = body ty (r.adv (writeHead ty tag).length) :=
  readWith_found (skipToNoCheck_hit ty tag req hty hne htag r rest h)

theorem readWith_field {α : Type} (old : α) {body : Nat → RM α} {ty : Nat} (tag : Nat)
    (req : Bool) {p : Bytes} {a : α} (hty : ty < 16) (hne : ty ≠ tyStructEnd) (htag : tag < 256)
    (hb : Reads (body ty) p a) :
    Reads (readWith old tag req body) (writeHead ty tag ++ p) a := fun r t h => by
  have h' : r.rest = writeHead ty tag ++ (p ++ t) := by simpa using h
  rw [readWith_hit old body r ty tag req _ hty hne htag h', hb _ t (r.rest_adv h')]
  simp

theorem fixedBody_be {α : Type} {width : Nat → Option Nat} {zero : α} {conv : Nat → Nat → α}
    {ty k : Nat} (hw : width ty = some k) (hk : 0 < k) (x : Nat) (hx : x < 256 ^ k) :
    Reads (fixedBody width zero conv ty) (be k x) (conv k x) := fun r1 t h => by
  rw [fixedBody_of_width hw, if_neg (by omega), bReadU_reads k x hx r1 t h]; rfl

theorem intBody_field {w ty k : Nat} (hw : intWidth w ty = some k) (x : Nat) (hx : x < 256 ^ k) :
    Reads (intBody w ty) (be k x) (toS (8 * k) x) := fun r1 t h => by
  rw [intBody_eq]
  by_cases hk : k = 0
  · subst hk; rw [fixedBody_of_width hw]; simp [toS, Nat.mod_one]
  · exact fixedBody_be hw (Nat.pos_of_ne_zero hk) x hx r1 t h

theorem f32Body_float (x : Nat) (hx : x < 2 ^ 32) : Reads (f32Body tyFLOAT) (be 4 x) x := fun r1 t h => by
  rw [f32Body_eq, fixedBody_be (width := f32Width) rfl (by decide) x hx r1 t h]

theorem f64Body_float (x : Nat) (hx : x < 2 ^ 32) : Reads (f64Body tyFLOAT) (be 4 x) (widenF32 x) :=
  fun r1 t h => by
    rw [f64Body_eq, fixedBody_be (width := f64Width) rfl (by decide) x hx r1 t h]; rfl

theorem f64Body_double (x : Nat) (hx : x < 2 ^ 64) : Reads (f64Body tyDOUBLE) (be 8 x) x := fun r1 t h => by
  rw [f64Body_eq, fixedBody_be (width := f64Width) rfl (by decide) x hx r1 t h]; rfl

theorem strBody_rt {ty w : Nat} (hw : strLenWidth ty = some w) (s : Bytes) (hs : s.length < 256 ^ w) :
    Reads (strBody ty) (be w s.length ++ s) s := fun r1 t h => by
  have h' : r1.rest = be w s.length ++ (s ++ t) := by simpa using h
  have hn := nextExact_full s _ t (r1.rest_adv h')
  rw [Reader.adv_adv] at hn
  rw [strBody_eq, hw]
  simp only [bReadU_reads w _ hs r1 _ h', hn, List.length_append]

/-! ## the writers against the specification, and the readers on what the writers wrote -/

theorem writeHead_eq_specHead (ty tag : Nat) : writeHead ty tag = specHead ty tag := by
  unfold writeHead specHead; rfl

/-- `minWidth` by cases, each with the range tests of the writers' cascade that single it out -/
theorem minWidth_cases (v : Int) :
    (minWidth v = 0 ∧ v = 0) ∨
    (minWidth v = 1 ∧ v ≠ 0 ∧ (-128 ≤ v ∧ v ≤ 127)) ∨
    (minWidth v = 2 ∧ ¬ (-128 ≤ v ∧ v ≤ 127) ∧ (-32768 ≤ v ∧ v ≤ 32767)) ∨
    (minWidth v = 4 ∧ ¬ (-32768 ≤ v ∧ v ≤ 32767) ∧ (-2147483648 ≤ v ∧ v ≤ 2147483647)) ∨
    (minWidth v = 8 ∧ ¬ (-2147483648 ≤ v ∧ v ≤ 2147483647)) := by
  unfold minWidth
  by_cases h0 : v = 0
  · exact .inl ⟨if_pos h0, h0⟩
  rw [if_neg h0]
  by_cases h8 : -(2 : Int) ^ 7 ≤ v ∧ v < (2 : Int) ^ 7
  · exact .inr (.inl ⟨if_pos h8, h0, by omega⟩)
  rw [if_neg h8]
  by_cases h16 : -(2 : Int) ^ 15 ≤ v ∧ v < (2 : Int) ^ 15
  · exact .inr (.inr (.inl ⟨if_pos h16, by omega⟩))
  rw [if_neg h16]
  by_cases h32 : -(2 : Int) ^ 31 ≤ v ∧ v < (2 : Int) ^ 31
  · exact .inr (.inr (.inr (.inl ⟨if_pos h32, by omega⟩)))
  · exact .inr (.inr (.inr (.inr ⟨if_neg h32, by omega⟩)))

theorem intWidth_minWidth {w : Nat} (v : Int) (hw : minWidth v ≤ w) :
    intWidth w (intTy (minWidth v)) = some (minWidth v) := by
  rcases minWidth_cases v with ⟨h, _⟩ | ⟨h, _⟩ | ⟨h, _⟩ | ⟨h, _⟩ | ⟨h, _⟩ <;> rw [h] at hw ⊢ <;>
    simp +decide [intWidth, hw]

theorem wrapS_minWidth (v : Int) (hv : -(2:Int)^63 ≤ v ∧ v < (2:Int)^63) :
    wrapS (8 * minWidth v) v = v := by
  rcases minWidth_cases v with ⟨hw, rfl⟩ | ⟨hw, _, h⟩ | ⟨hw, _, h⟩ | ⟨hw, _, h⟩ | ⟨hw, _⟩
  · rw [hw]; rfl
  all_goals rw [hw]; exact toS_toU _ (by decide) v (by omega) (by omega)

theorem minWidth_le_one {v : Int} (h : -(2:Int)^7 ≤ v ∧ v < (2:Int)^7) : minWidth v ≤ 1 := by
  rcases minWidth_cases v with h' | h' | h' | h' | h' <;> omega

theorem minWidth_le_two {v : Int} (h : -(2:Int)^15 ≤ v ∧ v < (2:Int)^15) : minWidth v ≤ 2 := by
  rcases minWidth_cases v with h' | h' | h' | h' | h' <;> omega

theorem minWidth_le_four {v : Int} (h : -(2:Int)^31 ≤ v ∧ v < (2:Int)^31) : minWidth v ≤ 4 := by
  rcases minWidth_cases v with h' | h' | h' | h' | h' <;> omega

theorem minWidth_le_eight (v : Int) : minWidth v ≤ 8 := by
  rcases minWidth_cases v with h' | h' | h' | h' | h' <;> omega

theorem writeInt64_specInt (v : Int) (tag : Nat) : writeInt64 v tag = specInt v tag := by
  simp only [specInt, writeInt64, writeInt32, writeInt16, writeInt8, ← writeHead_eq_specHead]
  rcases minWidth_cases v with ⟨hw, rfl⟩ | ⟨hw, h0, h8⟩ | ⟨hw, h8, h16⟩ | ⟨hw, h16, h32⟩ | ⟨hw, h32⟩
  · simp [hw, intTy, be]
  · have : (-32768 ≤ v ∧ v ≤ 32767) ∧ (-2147483648 ≤ v ∧ v ≤ 2147483647) := by omega
    simp [hw, intTy, be, h0, h8, this]
  · have : -2147483648 ≤ v ∧ v ≤ 2147483647 := by omega
    simp [hw, intTy, h8, h16, this]
  · simp [hw, intTy, h16, h32]
  · simp [hw, intTy, h32]

theorem writeInt32_eq_writeInt64 (v : Int) (tag : Nat) (h : -(2:Int)^31 ≤ v ∧ v < (2:Int)^31) :
    writeInt32 v tag = writeInt64 v tag := by
  have a1 : -2147483648 ≤ v ∧ v ≤ 2147483647 := by omega
  simp [writeInt64, a1]

theorem writeInt16_eq_writeInt64 (v : Int) (tag : Nat) (h : -(2:Int)^15 ≤ v ∧ v < (2:Int)^15) :
    writeInt16 v tag = writeInt64 v tag := by
  have a2 : -32768 ≤ v ∧ v ≤ 32767 := by omega
  rw [← writeInt32_eq_writeInt64 v tag (by omega)]
  simp [writeInt32, a2]

theorem writeInt8_eq_writeInt64 (v : Int) (tag : Nat) (h : -(2:Int)^7 ≤ v ∧ v < (2:Int)^7) :
    writeInt8 v tag = writeInt64 v tag := by
  have a3 : -128 ≤ v ∧ v ≤ 127 := by omega
  rw [← writeInt16_eq_writeInt64 v tag (by omega)]
  simp [writeInt16, a3]

theorem intBody_specInt {w : Nat} (v : Int) (hw : minWidth v ≤ w)
    (hv : -(2:Int)^63 ≤ v ∧ v < (2:Int)^63) :
    Reads (intBody w (intTy (minWidth v))) (be (minWidth v) (toU (8 * minWidth v) v)) v := by
  have hlt : toU (8 * minWidth v) v < (2 ^ 8) ^ minWidth v := Nat.pow_mul 2 8 _ ▸ toU_lt _ v
  have := intBody_field (intWidth_minWidth v hw) _ hlt
  rwa [show toS (8 * minWidth v) (toU (8 * minWidth v) v) = v from wrapS_minWidth v hv] at this

theorem readInt_specInt {w : Nat} (v : Int) (tag : Nat) (old : Int) (req : Bool)
    (htag : tag < 256) (hw : minWidth v ≤ w) (hv : -(2:Int)^63 ≤ v ∧ v < (2:Int)^63) :
    Reads (readWith old tag req (intBody w)) (specInt v tag) v := by
  rw [specInt, ← writeHead_eq_specHead]
  have hty := intWidth_ty (intWidth_minWidth v hw)
  exact readWith_field old tag req hty.1 hty.2 htag (intBody_specInt v hw hv)

theorem readInt32_writeInt32 (v : Int) (tag : Nat) (old : Int) (req : Bool)
    (htag : tag < 256) (hv : -(2:Int)^31 ≤ v ∧ v < (2:Int)^31) :
    Reads (readInt32 old tag req) (writeInt32 v tag) v := by
  rw [writeInt32_eq_writeInt64 v tag hv, writeInt64_specInt, readInt32_body]
  exact readInt_specInt v tag old req htag (minWidth_le_four hv) (by omega)

theorem readLen_lenField {n : Nat} (hn : n < 2 ^ 31) : Reads readLen (WFField.lenField n) (n : Int) :=
  fun r t h => by
    rw [readLen_eq 0]
    exact readInt32_writeInt32 n 0 0 true (by decide) (by omega) r t h

/-- the length prefix as the generated code writes it (`int32(len(x))`) -/
theorem lenField_eq (n : Nat) (h : n < 2 ^ 31) : writeInt32 (wrapS 32 (n : Int)) 0 = WFField.lenField n := by
  rw [wrapS32_len n h]; rfl

theorem readLen_reads {n : Nat} (hn : n < 2 ^ 31) :
    Reads readLen (writeInt32 (wrapS 32 (n : Int)) 0) (n : Int) := by
  rw [lenField_eq n hn]; exact readLen_lenField hn

theorem writeString_field (s : Bytes) (tag : Nat) (hl : s.length < 2 ^ 32) :
    ∃ ty w, ty < 16 ∧ ty ≠ tyStructEnd ∧ strLenWidth ty = some w ∧ s.length < 256 ^ w ∧
      writeString s tag = writeHead ty tag ++ (be w s.length ++ s) := by
  unfold writeString
  split
  · exact ⟨tySTRING4, 4, by decide, by decide, rfl, hl, by simp⟩
  · rename_i h
    exact ⟨tySTRING1, 1, by decide, by decide, rfl, by simp only [str1Max] at h; omega, by simp [be]⟩

theorem readString_writeString (s : Bytes) (tag : Nat) (old : Bytes) (req : Bool)
    (htag : tag < 256) (hs : s.length < 2^32) :
    Reads (readString old tag req) (writeString s tag) s := by
  obtain ⟨ty, w, hty, hne, hw, hsw, he⟩ := writeString_field s tag hs
  rw [he, readString_body]
  exact readWith_field old tag req hty hne htag (strBody_rt hw s hsw)

end Tars
