import TarsModel.Proofs.ClientConn

/-! Behind `C11_no_healthy_close`: with `ReConnect` holding the lock from the test of the flag to the
installation of the new connection (and the idle close out of reach) the client only ever closes
connections the server has left. -/
namespace Tars.ClientConn

/-- `recv` has had its `Read` fail and has not run `close` yet -/
def RPc.readFailed : RPc → Bool
  | .atClosing | .closing => true
  | _ => false

/-- `send` has had its `Write` fail and has not run `close` yet -/
def SPc.writeFailed : SPc → Bool
  | .failed _ | .failClosing => true
  | _ => false

/-- every trace of an error on the connection means that the server has left it -/
structure Conn.Sound (c : Conn) : Prop where
  known : c.known = true → c.alive = false
  reset : c.reset = true → c.alive = false
  rpc : c.rpc.readFailed = true → c.alive = false
  spc : c.spc.writeFailed = true → c.alive = false
  noIdle : c.spc ≠ .idleClosing

theorem Conn.Sound.of_left {c : Conn} (h : c.alive = false) (hn : c.spc ≠ .idleClosing) : c.Sound :=
  ⟨fun _ => h, fun _ => h, fun _ => h, fun _ => h, hn⟩

theorem Conn.Sound.setSpc {c : Conn} (o : c.Sound) {x : SPc} {b : Bool}
    (hx : x.writeFailed = true → c.alive = false) (hn : x ≠ .idleClosing) :
    Conn.Sound { c with spc := x, connDone := b } :=
  ⟨o.known, o.reset, o.rpc, hx, hn⟩

theorem Conn.Sound.setRpc {c : Conn} (o : c.Sound) {x : RPc} {b : Bool}
    (hx : x.readFailed = true → c.alive = false) : Conn.Sound { c with rpc := x, connDone := b } :=
  ⟨o.known, o.reset, hx, o.spc, o.noIdle⟩

theorem afterDequeue_sound {c : Conn} (o : c.Sound) (v : Variant) (m : Msg) :
    Conn.Sound { c with spc := afterDequeue v m } := by
  cases v <;> exact o.setSpc nofun nofun

structure Inv2 (s : State) : Prop where
  conn : ∀ (k : Nat) (c : Conn), s.conns[k]? = some c → c.Sound
  noIdle : s.idleOK = false
  locked : s.unlockedDial = false

@[simp] theorem setCall_idleOK (s : State) (m pc) : (setCall s m pc).idleOK = s.idleOK := rfl
@[simp] theorem setCall_unlockedDial (s : State) (m pc) : (setCall s m pc).unlockedDial = s.unlockedDial := rfl
@[simp] theorem dropCall_idleOK (s : State) (id) : (dropCall s id).idleOK = s.idleOK := rfl
@[simp] theorem dropCall_unlockedDial (s : State) (id) : (dropCall s id).unlockedDial = s.unlockedDial := rfl

macro "inv2_case" h:ident : tactic => `(tactic|
  (simp only [step] at $h:ident
   repeat' (split at $h:ident)
   all_goals first
     | (cases $h:ident; done)
     | (cases $h:ident
        constructor
        all_goals simp only [setConn, closeConn, List.getElem?_set, List.length_set, isCur, afterDequeue,
          setCall_conns, dropCall_conns, setCall_idleOK, setCall_unlockedDial, dropCall_idleOK,
          dropCall_unlockedDial]
        all_goals grind [Inv2, isCur, afterDequeue])))

theorem Inv2.update {s s' : State} {k : Nat} {c' : Conn} (hi : Inv2 s)
    (hs : s'.conns = s.conns.set k c') (hc' : c'.Sound) (h1 : s'.idleOK = s.idleOK := by rfl)
    (h2 : s'.unlockedDial = s.unlockedDial := by rfl) : Inv2 s' :=
  ⟨hs ▸ forall_set hi.conn hc', h1 ▸ hi.noIdle, h2 ▸ hi.locked⟩

theorem inv2_step {v s s' a} (hi : Inv2 s) (h : Step v s a s') : Inv2 s' := by
  cases h with
  | callBegin | noDial | markReconnected | callEnq | callFail | callRet | obsAccept | obsRecv =>
    exact ⟨hi.conn, hi.noIdle, hi.locked⟩
  | dial => exact ⟨forall_append hi.conn ⟨nofun, nofun, nofun, nofun, nofun⟩, hi.noIdle, hi.locked⟩
  | conn hc h =>
    have o := hi.conn _ _ hc
    cases h with
    | pClose | pReset => exact hi.update rfl (.of_left rfl o.noIdle)
    | rEof hg => exact hi.update rfl (.of_left hg.2.1 o.noIdle)
    | rErr hg => exact hi.update rfl (.of_left (hg.2.elim o.reset o.known) o.noIdle)
    | rClose hr => exact hi.update rfl (.of_left (o.rpc (congrArg _ hr)) o.noIdle)
    | rSignal => exact hi.update rfl (o.setRpc nofun)
    | markClosing hr => exact hi.update rfl (o.setRpc fun _ => o.rpc (congrArg _ hr))
    | markTop | markInner | markGot | sTopDone | sTopGo | sNoFail | sTickClosed | sTickCont | sInnerDone
    | sCheckOk | sCheckLost | sHandback | sWriteOk | sWriteLost =>
      exact hi.update rfl (o.setSpc nofun nofun)
    | sTakeFail | sTakeQ | sInnerFail => exact hi.update rfl (afterDequeue_sound o v _)
    | sTickIdle hg => rw [hi.noIdle] at hg; cases hg.2.2
    | sIdleClose hs => exact absurd hs o.noIdle
    | sWriteFail _ hg => exact hi.update rfl (o.setSpc (fun _ => hg.elim id o.known) nofun)
    | sRequeue hs => exact hi.update rfl (o.setSpc (fun _ => o.spc (congrArg _ hs)) nofun)
    | sFailClose hs => exact hi.update rfl (.of_left (o.spc (congrArg _ hs)) nofun)

theorem inv2_initNoIdle : Inv2 initNoIdle := ⟨fun _ _ h => (nomatch h), rfl, rfl⟩

/-- along `runFrom` from `initNoIdle` and not over `Reachable`, whose `init` has `idleOK = true` -/
theorem inv2_run {v cap acts s} (h : runFrom v cap initNoIdle acts = some s) : Inv2 s :=
  (isRun v cap).inv (fun hi hs => inv2_step hi (.of_step hi.locked hs)) inv2_initNoIdle h

end Tars.ClientConn
