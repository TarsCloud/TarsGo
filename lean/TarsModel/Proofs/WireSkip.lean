import TarsModel.Model.CostSkip
import TarsModel.Proofs.WireSat

/-!
  Wire level: the skip family (`skipField`, the element loop of `skipFieldList`/`skipFieldMap`,
  `SkipToStructEnd`, `SkipToNoCheck`) never moves backwards and is independent of the fuel once
  the fuel covers the remaining input.  The family is followed once, in the depth-instrumented
  form of `Model/CostSkip.lean` (`skipD_run`), so that the call depth is bounded in the same walk.
-/
namespace Tars
open Consts

theorem readLen_sat (r : Reader) : Sat (readLen r) (fun _ r' => r.Lt r') (PlainAt r) := by
  -- every payload branch of `readLen`: a `Step` after the head, its value converted by `f`
  have payload : ∀ {r1 : Reader} {x : Res Nat} (f : Nat → Int), r.Lt r1 → Step r1 x →
      Sat (match x with
        | (.ok v, r2) => ((.ok (f v), r2) : Res Int)
        | (.error e, r2) => (.error e, r2)) (fun _ r' => r.Lt r') (PlainAt r) :=
    fun f hlt hx => hx.elim (fun _ _ h => ⟨hlt.le.trans h.1, h.2 ▸ rfl⟩) (fun _ _ h => hlt.trans h)
  unfold readLen
  refine (readHead_step r).elim (fun _ _ h => ⟨h.1, rfl⟩) (fun p r1 h => ?_)
  obtain ⟨ty, tag⟩ := p
  exact .ite (fun _ => ⟨h.le, rfl⟩) fun _ => .ite (fun _ => h) fun _ =>
    .ite (fun _ => payload _ h (bReadU8_step r1)) fun _ =>
    .ite (fun _ => payload _ h (bReadU_step (by decide) r1)) fun _ =>
    .ite (fun _ => payload _ h (bReadU_step (by decide) r1)) fun _ => ⟨h.le, rfl⟩

theorem readLen_le {r r' : Reader} {x : Except Err Int} (h : readLen r = (x, r')) : r.Le r' := by
  have : r.Le (readLen r).2 := (readLen_sat r).elim (fun _ _ h => h.1) (fun _ _ h => h.le)
  rwa [h] at this

/-- one unfolding of `skipField`, separating the three recursive cases from the leaves (which do
    not look at the fuel) -/
theorem skipField_succ (f ty : Nat) (r : Reader) :
    skipField (f+1) ty r =
      if ty = tyMAP then
        match readLen r with
        | (.error e, r') => (.error e, r')
        | (.ok len, r1) => skipElems f (wrapS 32 (len * 2)) r1
      else if ty = tyLIST then
        match readLen r with
        | (.error e, r') => (.error e, r')
        | (.ok len, r1) => skipElems f len r1
      else if ty = tyStructBegin then skipToStructEnd f r
      else skipField 1 ty r := by
  by_cases hM : ty = tyMAP
  · subst hM; simp [skipField, tyMAP, tyBYTE, tySHORT, tyINT, tyLONG, tyFLOAT, tyDOUBLE, tySTRING1, tySTRING4]
    rcases readLen r with ⟨_ | _, _⟩ <;> rfl
  by_cases hL : ty = tyLIST
  · subst hL; simp [skipField, tyMAP, tyLIST, tyBYTE, tySHORT, tyINT, tyLONG, tyFLOAT, tyDOUBLE, tySTRING1, tySTRING4]
    rcases readLen r with ⟨_ | _, _⟩ <;> rfl
  by_cases hS : ty = tyStructBegin
  · subst hS; simp [skipField, tyMAP, tyLIST, tyBYTE, tySHORT, tyINT, tyLONG, tyFLOAT, tyDOUBLE, tySTRING1, tySTRING4, tyStructBegin, tySimpleList]
  rw [if_neg hM, if_neg hL, if_neg hS]
  simp only [skipField, if_neg hM, if_neg hL, if_neg hS]

/-! ### how a call of the family continues: one equation per way, fuel `F+1` on the left, `F`
    on the right -/

namespace Skip
variable (F : Nat) {r r1 r2 : Reader} {n len : Int} {e : Err} {ty tg : Nat}

theorem skipField_map (h : readLen r = (.ok len, r1)) :
    skipField (F+1) tyMAP r = skipElems F (wrapS 32 (len * 2)) r1 := by
  rw [skipField_succ, if_pos rfl, h]
theorem skipField_map_err (h : readLen r = (.error e, r1)) :
    skipField (F+1) tyMAP r = (.error e, r1) := by
  rw [skipField_succ, if_pos rfl, h]
theorem skipField_list (h : readLen r = (.ok len, r1)) :
    skipField (F+1) tyLIST r = skipElems F len r1 := by
  rw [skipField_succ, if_neg (by decide), if_pos rfl, h]
theorem skipField_list_err (h : readLen r = (.error e, r1)) :
    skipField (F+1) tyLIST r = (.error e, r1) := by
  rw [skipField_succ, if_neg (by decide), if_pos rfl, h]
theorem skipField_structBegin (r : Reader) :
    skipField (F+1) tyStructBegin r = skipToStructEnd F r := by
  rw [skipField_succ, if_neg (by decide), if_neg (by decide), if_pos rfl]
theorem skipField_structEnd (r : Reader) : skipField (F+1) tyStructEnd r = (.ok (), r) := by
  simp +decide [skipField]
theorem skipField_leaf (r : Reader) (h1 : ty ≠ tyMAP) (h2 : ty ≠ tyLIST) (h3 : ty ≠ tyStructBegin) :
    skipField (F+1) ty r = skipField 1 ty r := by
  rw [skipField_succ, if_neg h1, if_neg h2, if_neg h3]

theorem skipElems_done (r : Reader) (h : n ≤ 0) : skipElems (F+1) n r = (.ok (), r) := by
  simp [skipElems, h]
theorem skipElems_err (hn : 0 < n) (h : readHead r = (.error e, r1)) :
    skipElems (F+1) n r = (.error e, r1) := by
  simp [skipElems, Int.not_le.2 hn, h]
theorem skipElems_step (hn : 0 < n) (h : readHead r = (.ok (ty, tg), r1)) :
    skipElems (F+1) n r = skipElems F (n - 1) (skipField F ty r1).2 := by
  simp [skipElems, Int.not_le.2 hn, h]

theorem skipToStructEnd_err (h : readHead r = (.error e, r1)) :
    skipToStructEnd (F+1) r = (.error e, r1) := by
  simp [skipToStructEnd, h]
theorem skipToStructEnd_field_err (h : readHead r = (.ok (ty, tg), r1))
    (h2 : skipField F ty r1 = (.error e, r2)) : skipToStructEnd (F+1) r = (.error e, r2) := by
  simp [skipToStructEnd, h, h2]
theorem skipToStructEnd_step (h : readHead r = (.ok (ty, tg), r1))
    (h2 : skipField F ty r1 = (.ok (), r2)) :
    skipToStructEnd (F+1) r = if ty = tyStructEnd then (.ok (), r2) else skipToStructEnd F r2 := by
  simp [skipToStructEnd, h, h2]

end Skip

theorem skipField_leaf_fwd (ty : Nat) (r : Reader)
    (hM : ty ≠ tyMAP) (hL : ty ≠ tyLIST) (hS : ty ≠ tyStructBegin) :
    Fwd r (skipField 1 ty r) := by
  have skp : ∀ (n : Int) {r1 : Reader}, r.Le r1 → Fwd r (skip n r1) :=
    fun n _ h => by rw [skip_eq]; exact h.trans (Reader.le_adv _ _)
  unfold skipField
  rw [if_neg hM, if_neg hL, if_neg hS]
  -- the six payloads of fixed width; STRING1, STRING4, SimpleList; StructEnd, ZeroTag; invalid
  refine .ite (fun _ => skp _ (.refl _)) fun _ => .ite (fun _ => skp _ (.refl _)) fun _ =>
    .ite (fun _ => skp _ (.refl _)) fun _ => .ite (fun _ => skp _ (.refl _)) fun _ =>
    .ite (fun _ => skp _ (.refl _)) fun _ => .ite (fun _ => skp _ (.refl _)) fun _ =>
    .ite (fun _ => (readByte_step r).fwd.elim (fun _ _ h => h) (fun _ _ h => skp _ h)) fun _ =>
    .ite (fun _ => (bReadU_step (by decide) r).fwd.elim (fun _ _ h => h) (fun _ _ h => skp _ h))
      fun _ => .ite (fun _ => ?_) fun _ =>
    .ite (fun _ => .refl _) fun _ => .ite (fun _ => .refl _) fun _ => ⟨.refl _, rfl⟩
  refine (readHead_step r).elim (fun e r1 h => ?_) (fun p r1 h => ?_)
  · rw [h.2]; dsimp only
    split
    · exact ⟨h.1, rfl⟩
    · split <;> exact ⟨h.1, rfl⟩
  · obtain ⟨tyCur, _⟩ := p
    dsimp only
    split
    · exact ⟨h.le, rfl⟩
    · exact (readLen_sat r1).elim (fun _ _ h2 => ⟨h.le.trans h2.1, h2.2⟩)
        (fun _ _ h2 => skp _ (h.trans h2).le)

/-! ### the skip family, followed once -/

/-- **What a run of the skip family guarantees**: `x` is the instrumented run from `r` with fuel
    `f`, `g f'` the plain run with fuel `f'`.  At any fuel: `x` returns what `g f` returns, the
    position has not moved backwards, the depth is at most `remaining + d` (`d = 1` for a
    `skipField` call, which is a frame itself; `d = 0` for the two loops, which run in their
    caller's frame).  If the fuel covers the input (`2·remaining + m`): the outcome is a value or
    a plain error, and every such fuel gives the same.  (Equality matters, not just `≠ .fuel`:
    the loops of `skipFieldList`/`skipFieldMap` ignore the error of the inner `skipField`, so an
    inner `.fuel` would be swallowed.) -/
structure SkipOK (m d f : Nat) (r : Reader) (g : Nat → Res Unit) (x : Res Unit × Nat) : Prop where
  run_eq : x.1 = g f
  pos_le : r.Le x.1.2
  depth_le : x.2 ≤ r.remaining + d
  covered : 2 * r.remaining + m ≤ f →
    PlainRes x.1.1 ∧ ∀ f', 2 * r.remaining + m ≤ f' → g f' = x.1

namespace SkipOK
variable {m m' d d' f c : Nat} {r r1 : Reader} {g ga gz : Nat → Res Unit} {x a z : Res Unit × Nat}

theorem le (h : SkipOK m d f r g x) : r.Le (g f).2 := h.run_eq ▸ h.pos_le

theorem plain (h : SkipOK m d f r g x) (hf : 2 * r.remaining + m ≤ f) : PlainRes (g f).1 :=
  h.run_eq ▸ (h.covered hf).1

theorem fuel (h : SkipOK m d f r g x) (f' : Nat) (hf : 2 * r.remaining + m ≤ f)
    (hf' : 2 * r.remaining + m ≤ f') : g f = g f' :=
  h.run_eq ▸ ((h.covered hf).2 f' hf').symm

theorem ret {res : Res Unit} (h : Fwd r res) (hc : c ≤ r.remaining + d) (hg : ∀ F, g F = res) :
    SkipOK m d f r g (res, c) where
  run_eq := (hg f).symm
  pos_le := h.le
  depth_le := hc
  covered _ := ⟨h.plain, fun f' _ => hg f'⟩

theorem of_eq (h : SkipOK m d f r g x) {g' : Nat → Res Unit} (hg : ∀ F, g' F = g F) :
    SkipOK m d f r g' x where
  run_eq := h.run_eq.trans (hg f).symm
  pos_le := h.pos_le
  depth_le := h.depth_le
  covered hf := ⟨(h.covered hf).1, fun f' hf' => (hg f').trans ((h.covered hf).2 f' hf')⟩

/-- the unit of fuel a call or a loop round takes -/
theorem succ (h : SkipOK m d f r (fun F => g (F+1)) x) : SkipOK (m+1) d (f+1) r g x where
  run_eq := h.run_eq
  pos_le := h.pos_le
  depth_le := h.depth_le
  covered hf :=
    have ⟨p, q⟩ := h.covered (by omega)
    ⟨p, fun f' hf' => by
      obtain ⟨f'', rfl⟩ : ∃ k, f' = k + 1 := ⟨f' - 1, by omega⟩
      exact q f'' (by omega)⟩

/-- a run from the later position `r1`, `c` frames further down, seen from `r`: the bytes consumed
    in between pay for the fuel (two units each) and the frames -/
theorem after (h : SkipOK m' d' f r1 g x) (hle : r.Le r1)
    (hm : 2 * r1.remaining + m' ≤ 2 * r.remaining + m) (hd : r1.remaining + d' + c ≤ r.remaining + d) :
    SkipOK m d f r g (x.1, x.2 + c) where
  run_eq := h.run_eq
  pos_le := hle.trans h.pos_le
  depth_le := by have := h.depth_le; dsimp only; omega
  covered hf :=
    have ⟨p, q⟩ := h.covered (by omega)
    ⟨p, fun f' hf' => q f' (by omega)⟩

/-- the run `a`, whose outcome is all that happens (an error passed on, or nothing follows) -/
theorem stop (ha : SkipOK m d f r ga a) (hg : ∀ F, ga F = a.1 → g F = a.1) : SkipOK m d f r g a where
  run_eq := (hg f ha.run_eq.symm).symm
  pos_le := ha.pos_le
  depth_le := ha.depth_le
  covered hf :=
    have ⟨p, q⟩ := ha.covered hf
    ⟨p, fun f' hf' => hg f' (q f' hf')⟩

theorem seq (ha : SkipOK m d f r ga a) (hz : SkipOK m' d' f a.1.2 gz z)
    (hg : ∀ F, ga F = a.1 → g F = gz F) (hm : m' ≤ m) (hd : d' ≤ d) :
    SkipOK m d f r g (z.1, max a.2 z.2) where
  run_eq := hz.run_eq.trans (hg f ha.run_eq.symm).symm
  pos_le := ha.pos_le.trans hz.pos_le
  depth_le := by
    have := ha.pos_le.remaining; have := ha.depth_le; have := hz.depth_le; dsimp only; omega
  covered hf := by
    have := ha.pos_le.remaining
    obtain ⟨_, q⟩ := ha.covered hf
    obtain ⟨p', q'⟩ := hz.covered (by omega)
    exact ⟨p', fun f' hf' => (hg f' (q f' hf')).trans (q' f' (by omega))⟩

end SkipOK

/-- `2·remaining + 2` units of fuel cover a `skipField` call, `2·remaining + 1` each of the two
    loops: a call and a loop round take one unit each, and a field head that exists is read
    between two calls. -/
theorem skipD_run : ∀ f : Nat,
    (∀ ty r, SkipOK 2 1 f r (skipField · ty r) (skipFieldD f ty r)) ∧
    (∀ n r, SkipOK 1 0 f r (skipElems · n r) (skipElemsD f n r)) ∧
    (∀ r, SkipOK 1 0 f r (skipToStructEnd · r) (skipToStructEndD f r)) := by
  intro f
  induction f with
  | zero =>
    refine ⟨fun _ r => ?_, fun _ r => ?_, fun r => ?_⟩ <;>
      exact ⟨rfl, .refl r, Nat.zero_le _, fun h => by omega⟩
  | succ f ih =>
    obtain ⟨ihF, ihE, ihS⟩ := ih
    refine ⟨fun ty r => ?_, fun n r => ?_, fun r => ?_⟩
    · -- a container's count is a `readLen`, which consumed a byte; `StructBegin` consumes nothing
      have count : ∀ (cnt : Int → Int) {g : Nat → Res Unit},
          (∀ F {e r'}, readLen r = (.error e, r') → g F = (.error e, r')) →
          (∀ F {len r1}, readLen r = (.ok len, r1) → g F = skipElems F (cnt len) r1) →
          SkipOK 1 1 f r g (match readLen r with
            | (.error e, r') => ((.error e, r'), 1)
            | (.ok len, r1) => ((skipElemsD f (cnt len) r1).1, (skipElemsD f (cnt len) r1).2 + 1)) := by
        intro cnt g he hk
        have hl := readLen_sat r
        rcases h : readLen r with ⟨e | len, r1⟩ <;> rw [h] at hl
        · exact .ret hl (Nat.le_add_left _ _) fun F => he F h
        · have := Reader.Lt.remaining hl
          exact ((ihE (cnt len) r1).after hl.le (by omega) (by omega)).of_eq fun F => hk F h
      refine .succ ?_
      rw [skipFieldD]
      split
      · subst ‹ty = tyMAP›
        exact count _ (fun F => Skip.skipField_map_err F) (fun F => Skip.skipField_map F)
      split
      · subst ‹ty = tyLIST›
        exact count _ (fun F => Skip.skipField_list_err F) (fun F => Skip.skipField_list F)
      split
      · subst ‹ty = tyStructBegin›
        exact ((ihS r).after (c := 1) (.refl r) (Nat.le_refl _) (Nat.le_refl _)).of_eq fun F =>
          Skip.skipField_structBegin F r
      · exact .ret (skipField_leaf_fwd ty r ‹_› ‹_› ‹_›) (Nat.le_add_left _ _) fun F =>
          Skip.skipField_leaf F r ‹_› ‹_› ‹_›
    · refine .succ ?_
      rw [skipElemsD]
      by_cases hn : n ≤ 0
      · rw [if_pos hn]
        exact .ret (res := (.ok (), r)) (.refl r) (Nat.zero_le _) fun F => Skip.skipElems_done F r hn
      rw [if_neg hn]
      have hlt := readHead_step r
      rcases hh : readHead r with ⟨e | ⟨tyCur, tg⟩, r1⟩ <;> rw [hh] at hlt
      · exact .ret hlt.fwd (Nat.zero_le _) fun F => Skip.skipElems_err F (by omega) hh
      · have := Reader.Lt.remaining hlt
        exact ((ihF tyCur r1).seq (ihE (n - 1) _) (fun F hF =>
          (Skip.skipElems_step F (by omega) hh).trans
            (congrArg (fun y => skipElems F (n - 1) y.2) hF)) (by omega) (by omega)).after
          (c := 0) hlt.le (by omega) (by omega)
    · refine .succ ?_
      rw [skipToStructEndD]
      have hlt := readHead_step r
      rcases hh : readHead r with ⟨e | ⟨ty, tg⟩, r1⟩ <;> rw [hh] at hlt
      · exact .ret hlt.fwd (Nat.zero_le _) fun F => Skip.skipToStructEnd_err F hh
      · have := Reader.Lt.remaining hlt
        have ha := ihF ty r1
        dsimp only
        generalize skipFieldD f ty r1 = a at ha ⊢
        obtain ⟨⟨e | u, r2⟩, da⟩ := a
        · exact (ha.stop fun F hF => Skip.skipToStructEnd_field_err F hh hF).after
            (c := 0) hlt.le (by omega) (by omega)
        · dsimp only
          split
          · exact (ha.stop fun F hF => (Skip.skipToStructEnd_step F hh hF).trans
              (if_pos ‹_›)).after (c := 0) hlt.le (by omega) (by omega)
          · exact (ha.seq (ihS r2) (fun F hF => (Skip.skipToStructEnd_step F hh hF).trans
              (if_neg ‹_›)) (by omega) (by omega)).after (c := 0) hlt.le (by omega) (by omega)

theorem skipFieldD_ok (f ty : Nat) (r : Reader) :
    SkipOK 2 1 f r (skipField · ty r) (skipFieldD f ty r) := (skipD_run f).1 ty r
theorem skipElemsD_ok (f : Nat) (n : Int) (r : Reader) :
    SkipOK 1 0 f r (skipElems · n r) (skipElemsD f n r) := (skipD_run f).2.1 n r
theorem skipToStructEndD_ok (f : Nat) (r : Reader) :
    SkipOK 1 0 f r (skipToStructEnd · r) (skipToStructEndD f r) := (skipD_run f).2.2 r

theorem skipField_le (f ty : Nat) (r : Reader) : r.Le (skipField f ty r).2 :=
  (skipFieldD_ok f ty r).le

theorem Reader.fuel_ge (r : Reader) : 2 * r.remaining + 2 ≤ r.fuel := by
  unfold Reader.fuel Reader.remaining; omega

theorem Reader.remaining_lt_fuel (r : Reader) : r.remaining + 1 ≤ r.fuel := by
  have := r.fuel_ge; omega

theorem skipField_fuel_plain (ty : Nat) (r : Reader) : PlainRes (skipField r.fuel ty r).1 :=
  (skipFieldD_ok r.fuel ty r).plain r.fuel_ge

/-- where `SkipToNoCheck`/`SkipTo` stop: a hit consumed at least the head; a miss is reported as a
    value only for an optional field -/
def Found (req : Bool) (r : Reader) (hv : Bool) (r' : Reader) : Prop :=
  r.Le r' ∧ (hv = true → r.Lt r') ∧ (hv = false → req = false)

theorem Found.hit {req : Bool} {r r' : Reader} (h : Found req r true r') : r.Lt r' := h.2.1 rfl

theorem Found.miss {req : Bool} {r r' : Reader} (h : Found req r false r') : req = false := h.2.2 rfl

/-- past the `!require && !have` test of the generated code the field was found -/
theorem Found.lt {req hv : Bool} {r r' : Reader} (h : Found req r hv r')
    (c : ¬ ((!req && !hv) = true)) : r.Lt r' := by
  cases hv
  · rw [h.miss] at c; exact absurd rfl c
  · exact h.hit

/-- `SkipToNoCheck` runs one iteration per field head, so `remaining + 1` units of fuel suffice -/
theorem skipToNoCheckF_spec : ∀ (f tag : Nat) (req : Bool) (r : Reader), r.remaining + 1 ≤ f →
    Sat (skipToNoCheckF f tag req r) (fun p r' => Found req r p.1 r') (PlainAt r) ∧
    ∀ f', r.remaining + 1 ≤ f' → skipToNoCheckF f tag req r = skipToNoCheckF f' tag req r := by
  intro f
  induction f with
  | zero => intros; omega
  | succ f ih =>
    intro tag req r hf
    suffices h : ∀ f'', r.remaining ≤ f'' →
        Sat (skipToNoCheckF (f+1) tag req r) (fun p r' => Found req r p.1 r') (PlainAt r) ∧
        skipToNoCheckF (f+1) tag req r = skipToNoCheckF (f''+1) tag req r from
      ⟨(h f (by omega)).1, fun f' hf' => by
        obtain ⟨f'', rfl⟩ : ∃ k, f' = k + 1 := ⟨f' - 1, by omega⟩
        exact (h f'' (by omega)).2⟩
    intro f'' hf''
    simp only [skipToNoCheckF]
    refine (readHead_spec r).elim (fun _ _ h => ⟨?_, rfl⟩) (fun p r1 h => ?_)
    · exact .ite (fun _ => ⟨h.1, rfl⟩) (fun hreq => ⟨h.1, nofun, fun _ => by simpa using hreq⟩)
    · obtain ⟨tyCur, tagCur⟩ := p
      obtain ⟨hlt, htag⟩ := h
      have h1 := hlt.remaining
      dsimp only
      split
      · refine ⟨.ite (fun _ => ⟨hlt.le, rfl⟩) (fun hreq => ?_), rfl⟩
        -- `unreadHead` gives back no more than `readHead` took
        obtain ⟨u2, u4⟩ := unreadHead_spec tagCur r1
        refine ⟨⟨u2.trans hlt.1, ?_⟩, nofun, fun _ => by simpa using hreq⟩
        rcases htag with ⟨hp, ht⟩ | hp
        · rw [if_neg (by omega)] at u4; omega
        · split at u4 <;> omega
      · split
        · exact ⟨⟨hlt.le, fun _ => hlt, nofun⟩, rfl⟩
        · have hnf := skipField_fuel_plain tyCur r1
          have hl2 := hlt.le.trans (skipField_le r1.fuel tyCur r1)
          have hr2 := (skipField_le r1.fuel tyCur r1).remaining
          generalize skipField r1.fuel tyCur r1 = x at hnf hl2 hr2 ⊢
          obtain ⟨_ | u, r2⟩ := x
          · exact ⟨⟨hl2, by simpa using hnf⟩, rfl⟩
          · dsimp only at hr2
            obtain ⟨i1, i2⟩ := ih tag req r2 (by omega)
            exact ⟨i1.mono (fun _ _ h => ⟨hl2.trans h.1, fun hh => hl2.trans_lt (h.2.1 hh), h.2.2⟩)
              (fun _ _ h => ⟨hl2.trans h.1, h.2⟩), i2 f'' (by omega)⟩

theorem skipToNoCheck_sat (tag : Nat) (req : Bool) (r : Reader) :
    Sat (skipToNoCheck tag req r) (fun p r' => Found req r p.1 r') (PlainAt r) :=
  (skipToNoCheckF_spec _ tag req r r.remaining_lt_fuel).1

theorem skipToNoCheck_plain (tag : Nat) (req : Bool) (r : Reader) :
    PlainRes (skipToNoCheck tag req r).1 :=
  (skipToNoCheck_sat tag req r).plain

theorem skipToStructEnd_fuel_plain (r : Reader) : PlainRes (skipToStructEnd r.fuel r).1 :=
  (skipToStructEndD_ok r.fuel r).plain (Nat.le_of_succ_le r.fuel_ge)

theorem skipElems_fuel_plain (n : Int) (r : Reader) : PlainRes (skipElems r.fuel n r).1 :=
  (skipElemsD_ok r.fuel n r).plain (Nat.le_of_succ_le r.fuel_ge)

theorem skipTo_sat (ty tag : Nat) (req : Bool) (r : Reader) :
    Sat (skipTo ty tag req r) (fun hv r' => Found req r hv r') (PlainAt r) := by
  unfold skipTo
  refine (skipToNoCheck_sat tag req r).elim (fun _ _ h => h) (fun p r1 h => ?_)
  obtain ⟨hv, tyCur⟩ := p
  exact .ite (fun _ => ⟨h.1, rfl⟩) (fun _ => h)

theorem skipToStructEnd_fwd (r : Reader) : Fwd r (skipToStructEnd r.fuel r) :=
  .intro (skipToStructEndD_ok r.fuel r).le (skipToStructEnd_fuel_plain r)

/-! ### the same for a given outcome -/

theorem skipToNoCheck_found {tag ty : Nat} {req hv : Bool} {r r' : Reader}
    (h : skipToNoCheck tag req r = (.ok (hv, ty), r')) : Found req r hv r' :=
  (skipToNoCheck_sat tag req r).ok h

end Tars
