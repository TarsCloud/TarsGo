import TarsModel.Proofs.SchemaRTKinds
import TarsModel.Proofs.SchemaFuel

/-!
# Round trip at the API level: `WriteTo`/`ReadFrom` and `WriteBlock`/`ReadBlock`
-/
namespace Tars
open Consts

theorem structTy_ok {env : Env} {rk : String → Nat} (hE : EnvWF env rk) {S : String}
    {fs : List Field} (hfs : env.find S = some fs) : TyOK env rk (env.length + 1) (.struct S) := by
  simp only [TyOK]
  exact ⟨⟨fs, hfs⟩, by have := (hE S fs hfs).1; omega⟩

theorem freshStruct_targetOK {env : Env} {rk : String → Nat} (hE : EnvWF env rk) {S : String}
    {fs : List Field} (hfs : env.find S = some fs) : TargetOK env S (freshStruct env S) :=
  zeroOf_ready hE (.struct S) (structTy_ok hE hfs)

theorem WellTyped.freshOK {env : Env} {rk : String → Nat} {S : String} {v : Val}
    (hW : WellTyped env rk S v) : TargetOK env S (freshStruct env S) :=
  match WT_structTy_inv hW.2 with
  | ⟨_, _, hfs, _, _⟩ => freshStruct_targetOK hW.1 hfs

/-- `ReadFrom` after `WriteTo` into ANY admissible target, with an abstract fuel bound -/
theorem decMembers_target_rt (env : Env) (rk : String → Nat) (hE : EnvWF env rk) (S : String)
    (fs : List Field) (vs os : List Val) (fuel : Nat) (r : Reader) (t : Bytes)
    (hfs : env.find S = some fs) (hwt : WTm env fs vs) (hos : ReadyMembers env fs os)
    (ht : Terminated t) (hfuel : needElems vs ≤ fuel) (h : r.rest = encMembers env fs vs ++ t) :
    decMembers env fuel fs (resetDefault env fuel fs os) r
      = (.ok (normMembers env fs vs), r.adv (encMembers env fs vs).length) := by
  have hmo := hE.memberOK hfs
  obtain ⟨f, rfl⟩ := Nat.exists_eq_add_one.mpr (show 0 < fuel by have := needElems_pos vs; omega)
  exact (rtAt_all hE (f+1)).members vs fs _ r t hfuel hmo (hE.tagsAsc hfs) hwt
    (resetDefault_oldOK hE f fs os hmo hos) ht h

theorem decMembers_fresh_rt (env : Env) (rk : String → Nat) (hE : EnvWF env rk) (S : String)
    (fs : List Field) (vs : List Val) (fuel : Nat) (r : Reader) (t : Bytes)
    (hfs : env.find S = some fs) (hwt : WTm env fs vs) (ht : Terminated t)
    (hfuel : needElems vs ≤ fuel) (h : r.rest = encMembers env fs vs ++ t) :
    ∃ os, freshStruct env S = .struct os ∧
      decMembers env fuel fs (resetDefault env fuel fs os) r
        = (.ok (normMembers env fs vs), r.adv (encMembers env fs vs).length) := by
  obtain ⟨os, hos, hrm⟩ := ready_struct hfs (freshStruct_targetOK hE hfs)
  exact ⟨os, hos, decMembers_target_rt env rk hE S fs vs os fuel r t hfs hwt hrm ht hfuel h⟩

theorem decStruct_rt_target (env : Env) (rk : String → Nat) (S : String) (v old : Val) (r : Reader)
    (t : Bytes) (hW : WellTyped env rk S v) (ho : TargetOK env S old) (ht : Terminated t)
    (h : r.rest = encStruct env S v ++ t) :
    decStruct env S old r = (.ok (norm env S v), r.adv (encStruct env S v).length) := by
  obtain ⟨hE, hwt⟩ := hW
  obtain ⟨fs, vs, hfs, rfl, hwm⟩ := WT_structTy_inv hwt
  simp only [encStruct, hfs] at h ⊢
  have hfuel := needElems_le_decFuel env S fs vs r t hfs hwm h
  obtain ⟨os, rfl, hrm⟩ := ready_struct hfs ho
  have hdec := decMembers_target_rt env rk hE S fs vs os (decFuel env r) r t hfs hwm hrm ht hfuel h
  rw [decStruct_struct hfs, hdec]
  simp only [hfs, norm, normVar]

theorem decStruct_rt (env : Env) (rk : String → Nat) (S : String) (v : Val) (r : Reader) (t : Bytes)
    (hW : WellTyped env rk S v) (ht : Terminated t) (h : r.rest = encStruct env S v ++ t) :
    decStruct env S (freshStruct env S) r
      = (.ok (norm env S v), r.adv (encStruct env S v).length) :=
  decStruct_rt_target env rk S v _ r t hW hW.freshOK ht h

theorem block_rt_target (env : Env) (rk : String → Nat) (S : String) (v old : Val) (tag : Nat)
    (req : Bool) (r : Reader) (t : Bytes) (hW : WellTyped env rk S v) (ho : TargetOK env S old)
    (htag : tag < 256) (h : r.rest = encVar env tag req (.struct S) none v ++ t) :
    decVar env (decFuel env r) tag req (.struct S) old r
      = (.ok (norm env S v), r.adv (encVar env tag req (.struct S) none v).length) := by
  obtain ⟨hE, hwt⟩ := hW
  obtain ⟨fs, vs, hfs, rfl, hwm⟩ := WT_structTy_inv hwt
  rw [rtHeldAt_all env rk hE (.struct vs) (decFuel env r) tag req (.struct S) none old r t htag
    (structTy_ok hE hfs) trivial hwt (.inl ho) (fun hom => nomatch hom)
    (needVar_le_decFuel env tag req none r t hwt h) h]
  simp only [norm, normVar]

theorem block_rt (env : Env) (rk : String → Nat) (S : String) (v : Val) (tag : Nat) (req : Bool)
    (r : Reader) (t : Bytes) (hW : WellTyped env rk S v) (htag : tag < 256)
    (h : r.rest = encVar env tag req (.struct S) none v ++ t) :
    decVar env (decFuel env r) tag req (.struct S) (freshStruct env S) r
      = (.ok (norm env S v), r.adv (encVar env tag req (.struct S) none v).length) :=
  block_rt_target env rk S v _ tag req r t hW hW.freshOK htag h

end Tars
