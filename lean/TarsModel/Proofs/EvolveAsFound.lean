import TarsModel.Model.SchemaAsFound
import TarsModel.Proofs.EvolveReset

/-! The as-found copy of `ResetDefault` (defect D13): lemmas for the counterexample statements. -/
namespace Tars
namespace Evolve
open Consts

/-- what the as-found `ResetDefault` leaves in one member: the explicit default if there is one;
    otherwise the previous value (a nested struct is reset recursively) -/
def asFoundResetMember (env : Env) (fuel : Nat) (f : Field) (v : Val) : Val :=
  match f.dflt with
  | some d => d
  | none =>
    match f.ty, v with
    | .struct name, .struct inner =>
      match env.find name with
      | some ifs => .struct (AsFound.resetDefault env fuel ifs inner)
      | none => v
    | _, _ => v

theorem asFound_resetDefault_cons (env : Env) (F : Nat) (f : Field) (fs : List Field) (v : Val)
    (vs : List Val) :
    AsFound.resetDefault env (F+1) (f :: fs) (v :: vs)
      = asFoundResetMember env F f v :: AsFound.resetDefault env (F+1) fs vs := by
  rw [AsFound.resetDefault.eq_def]
  simp only
  unfold asFoundResetMember
  rfl

theorem asFound_resetDefault_nil_left (env : Env) (F : Nat) (vs : List Val) :
    AsFound.resetDefault env (F+1) [] vs = [] := by
  rw [AsFound.resetDefault.eq_def]

theorem asFound_resetDefault_eq_zipWith (env : Env) (F : Nat) (fs : List Field) (vs : List Val) :
    AsFound.resetDefault env (F+1) fs vs = List.zipWith (asFoundResetMember env F) fs vs := by
  induction fs generalizing vs with
  | nil => rw [asFound_resetDefault_nil_left]; rfl
  | cons f fs ih =>
    cases vs with
    | nil => rw [AsFound.resetDefault.eq_def]; rfl
    | cons v vs => rw [asFound_resetDefault_cons, ih]; rfl

theorem asFound_resetDefault_getElem? (env : Env) (F : Nat) (fs : List Field) (vs : List Val)
    (i : Nat) (f : Field) (v : Val) (hf : fs[i]? = some f) (hv : vs[i]? = some v) :
    (AsFound.resetDefault env (F+1) fs vs)[i]? = some (asFoundResetMember env F f v) := by
  rw [asFound_resetDefault_eq_zipWith, List.getElem?_zipWith, hf, hv]

theorem asFoundResetMember_plain (env : Env) (F : Nat) (f : Field) (v : Val) (h : f.dflt = none)
    (hty : isStructTy f.ty = false) : asFoundResetMember env F f v = v := by
  unfold asFoundResetMember
  rw [h]
  simp only
  split
  · simp_all [isStructTy]
  · rfl

/-- the reader when member `i`'s turn comes in the as-found `ReadFrom` -/
def asFoundReaderBefore (env : Env) (S : String) (old : Val) (r : Reader) (i : Nat) : Reader :=
  match env.find S, old with
  | some fs, .struct ovs =>
    readerAt env (decFuel env r) fs (AsFound.resetDefault env (decFuel env r) fs ovs) r i
  | _, _ => r

theorem asFound_decStruct_ok_members {env : Env} {S : String} {fs : List Field} {ovs vs : List Val}
    {r r' : Reader} (hS : env.find S = some fs)
    (h : AsFound.decStruct env S (.struct ovs) r = (.ok (.struct vs), r')) :
    decMembers env (decFuel env r) fs (AsFound.resetDefault env (decFuel env r) fs ovs) r
      = (.ok vs, r') := by
  unfold AsFound.decStruct at h
  simp only [hS] at h
  rcases hm : decMembers env (decFuel env r) fs (AsFound.resetDefault env (decFuel env r) fs ovs) r
    with ⟨e | vs', r1⟩ <;> rw [hm] at h <;> cases h
  rfl

theorem asFound_decStruct_absent_opt (env : Env) (S : String) (fs : List Field) (ovs vs : List Val)
    (r r' : Reader) (hS : env.find S = some fs)
    (h : AsFound.decStruct env S (.struct ovs) r = (.ok (.struct vs), r'))
    (i : Nat) (f : Field) (o : Val) (hf : fs[i]? = some f) (ho : ovs[i]? = some o)
    (hopt : f.req = false) {w : Val} (hw : asFoundResetMember env (decFuel env r - 1) f o = w)
    (hok : targetOk env f.ty w = true)
    (habs : After f.tag (asFoundReaderBefore env S (.struct ovs) r i).rest) :
    vs[i]? = some (absentVal env (decFuel env r - 1 - i - 1) f.ty w) := by
  subst hw
  simp only [asFoundReaderBefore, hS] at habs
  refine decMembers_absent_opt env _ fs _ r r' vs (asFound_decStruct_ok_members hS h) i f _ hf ?_
    hopt hok habs
  rw [decFuel_succ]
  exact asFound_resetDefault_getElem? env _ fs ovs i f o hf ho

end Evolve
end Tars
