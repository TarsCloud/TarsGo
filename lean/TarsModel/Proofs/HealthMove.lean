/-
  The atomic transitions of the failover model.  Every action is a sequence of `Move`s (`step_rule`),
  and a `Move` is the unit at which the invariants hold: what is preserved by every `Move` is preserved
  by every history (`InvA.run_rule`, once `InvA` supplies `Known`).
-/
import TarsModel.Proofs.HealthFrame

namespace Tars.Health
open Tars

/-- the probe queue and the open calls name only endpoints whose adapter exists; this is what the
control flow itself needs in order to be cut into `Move`s -/
structure Known (s : Mgr) : Prop where
  infl : ∀ c, c ∈ s.inflight → s.has c.1 = true
  queue : ∀ ep, ep ∈ s.queue → s.has ep = true

/-- the atomic transitions, each with those of the tests the code has made that the invariants rest on -/
inductive Move (s : Mgr) : Mgr → Prop
  | advance (d : Nat) : Move s { s with now := s.now + d }
  | recheck (x : Nat) : s.has x = true → Move s (setRec s x { s.recs x with lastBlockTime := s.now })
  | block (x : Nat) : s.has x = true →
      (Consts.healthFainN : Int) ≤ (s.recs x).lastFailCount ∨ (Consts.healthOverN : Int) ≤ (s.recs x).failCount →
      Move s (takeOut (setRec s x { s.recs x with status := false, lastBlockTime := s.now }) x)
  | grant (x : Nat) : s.has x = true → (s.recs x).status = false →
      (Consts.healthTryTimeInterval : Int) ≤ s.now - (s.recs x).lastBlockTime → x ∉ s.pend →
      Move s (enqueue (setRec s x { s.recs x with lastBlockTime := s.now }) x)
  | noEndpoint : s.reg = [] → Move s (emit s (.noEndpoint s.now))
  | probe (x : Nat) (q : List Nat) : s.queue = x :: q → Move s (recSend (popProbe s x q) x true)
  | pick (ep : Nat) : (s.sel ≠ [] → ep ∈ s.sel) → (s.sel = [] → ep ∈ s.reg) →
      Move s (recSend (touch s ep) ep false)
  | fail (ep : Nat) : s.has ep = true → Move s (recFail s ep)
  | ok (ep : Nat) : s.has ep = true → Move s (recOk s ep)
  | reinstate (ep : Nat) : s.has ep = true → Move s (recOk (reinstate s ep) ep)
  | send (ep : Nat) (p : Bool) : s.has ep = true → Move s { s with inflight := s.inflight ++ [(ep, p)] }
  | answer (k : Nat) : Move s { s with inflight := s.inflight.eraseIdx k }

theorem checkOne_move (conn : List Nat) (s : Mgr) (x : Nat) : checkOne conn s x = s ∨ Move s (checkOne conn s x) := by
  rcases checkOne_cases conn s x with he | ⟨hh, he⟩ | ⟨hh, hr, he⟩ | ⟨hh, hs, ht, hp, he⟩
  · exact .inl he
  · exact .inr (he ▸ .recheck x hh)
  · exact .inr (he ▸ .block x hh hr)
  · exact .inr (he ▸ .grant x hh hs ht hp)

theorem step_rule {P : Mgr → Prop} (hk : ∀ {m}, P m → Known m) (hP : ∀ {m m'}, Move m m' → P m → P m')
    {s : Mgr} (h : P s) (a : Action) : P (step s a) := by
  have tail : ∀ m ep p so ow, (recSend m ep p).has ep = true → P (recSend m ep p) → P (startOn m ep p so ow) := by
    intro m ep p so ow hh h
    rcases startOn_cases m ep p so ow with e | e | e <;> rw [e]
    · exact hP (.fail ep hh) h
    · exact hP (.ok ep hh) h
    · exact hP (.send ep p hh) h
  cases a with
  | advance d => exact hP (.advance d) h
  | checkStatus conn =>
    refine checkStatus_induct (P := P) conn (fun m x hm => ?_) h
    rcases checkOne_move conn m x with e | m1
    · rw [e]; exact hm
    · exact hP m1 hm
  | start c so ow =>
    show P (start s c so ow)
    rcases start_cases s c so ow with ⟨hr, he⟩ | ⟨x, q, hq, he⟩ | ⟨ep, _, h1, h2, he⟩ <;> rw [he]
    · exact hP (.noEndpoint hr) h
    · refine tail _ x true so ow ?_ (hP (.probe x q hq) h)
      show (popProbe s x q).has x = true
      rw [popProbe_has]; exact (hk h).queue x (hq ▸ List.mem_cons_self)
    · exact tail _ ep false so ow (upd_same ..) (hP (.pick ep h1 h2) h)
  | finish i ok =>
    show P (finish s i ok)
    rcases finish_cases s i ok with ⟨_, he⟩ | ⟨c0, _, _, hmem, he⟩ <;> rw [he]
    · exact h
    have h1 := hP (.answer (i % s.inflight.length)) h
    have hh : s.has (s.inflight.getD (i % s.inflight.length) c0).1 = true := (hk h).infl _ hmem
    rcases finishCall_cases _ _ _ ok with he | he | he <;> rw [he]
    · exact hP (.fail _ hh) h1
    · exact hP (.ok _ hh) h1
    · exact hP (.reinstate _ hh) h1

/-! ## what no `Move` changes: variant flag, registry list, direction of the clock; no call without an endpoint -/

structure Later (s s' : Mgr) : Prop where
  stamp : s'.stamp = s.stamp
  reg : s'.reg = s.reg
  now : s.now ≤ s'.now

theorem Later.trans {s m s' : Mgr} (h : Later s m) (h' : Later m s') : Later s s' :=
  ⟨h'.stamp.trans h.stamp, h'.reg.trans h.reg, Int.le_trans h.now h'.now⟩

def NoNone (log : List Event) : Prop := ∀ t, Event.noEndpoint t ∉ log

theorem NoNone.cons {log : List Event} (h : NoNone log) (e : Event) (he : ∀ t, e ≠ .noEndpoint t) : NoNone (e :: log) := by
  intro t hm
  rcases List.mem_cons.mp hm with h1 | h1
  · exact he t h1.symm
  · exact h t h1

namespace Move

theorem later {s s' : Mgr} (m : Move s s') : Later s s' := by
  -- the primitives are unfolded before a field is read off: `rfl` on a field of a nested application
  -- would first try to unify the two states, which is slow to fail
  cases m with
  | advance d => exact ⟨rfl, rfl, by show s.now ≤ s.now + d; omega⟩
  | send | answer => exact ⟨rfl, rfl, Int.le_refl _⟩
  | probe x q =>
    unfold popProbe; split <;> simp only [recSend, emit, setRec] <;> exact ⟨rfl, rfl, Int.le_refl _⟩
  | _ =>
    simp only [recSend, recFail, recOk, takeOut, enqueue, emit, setRec, touch]
    exact ⟨rfl, rfl, Int.le_refl _⟩

theorem noNone {s s' : Mgr} (m : Move s s') (hr : s.reg ≠ []) (h : NoNone s.log) : NoNone s'.log := by
  cases m with
  | noEndpoint hreg => exact absurd hreg hr
  | advance | recheck | send | answer => exact h
  | block | grant | fail | ok | pick => exact h.cons _ nofun
  | reinstate ep => exact (h.cons (.reinstated ep s.now) nofun).cons _ nofun
  | probe x q => exact NoNone.cons (popProbe_log s x q ▸ h) _ nofun

end Move

end Tars.Health
