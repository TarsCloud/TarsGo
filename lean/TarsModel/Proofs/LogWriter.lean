/-
  The size-rolling writer (`Model/LogWriter.lean`) keeps everything it is handed.

  Invariant (`Inv s fs W`): the directory is exactly the list `fs` of distinct inodes (newest
  first), the handle is open on the newest, and `dropped ++ (files oldest → newest) = W`, the
  sequence of all writes. Two more clauses exist only for `C20_roll_complete` (nothing is discarded
  below `num × size`): `budget` — every file but the newest was closed because it had reached
  `size`, hence `(fs.length - 1) * size + currSize ≤` the volume written — and `dropBound` — a file
  is only unlinked when all `num` slots are taken, i.e. by `budget` at volume `≥ num × size`.
  Such a directory has no gap, and on a directory without a gap the rename loop moves every file
  up by one and overwrites only the last slot (`rotateFrom_of_contig`); the reopen then puts a
  fresh inode in front (`inv_newFile`, also the very first open).
-/
import TarsModel.Model.LogWriter
import TarsModel.Proofs.ListAux

namespace Tars.LogWriter

variable {β : Type}

theorem upd_same {α : Type} {f : Nat → α} {i : Nat} {v : α} : upd f i v i = v := if_pos rfl

theorem upd_of_ne {α : Type} {f : Nat → α} {i j : Nat} {v : α} (h : j ≠ i) : upd f i v j = f j :=
  if_neg h

/-! ### `reOpenFile` -/

theorem reOpen_of_some {s : State β} {env : Env} {i : Nat} (hok : env.openOk = true)
    (h0 : s.names 0 = some i) : reOpen s env = { s with openTime := env.now, cur := .opened i } := by
  simp only [reOpen, hok, h0, if_true]

theorem reOpen_of_none {s : State β} {env : Env} (hok : env.openOk = true) (h0 : s.names 0 = none) :
    reOpen s env = { s with openTime := env.now, nextIno := s.nextIno + 1,
                            names := upd s.names 0 (some s.nextIno), cur := .opened s.nextIno } := by
  simp only [reOpen, hok, h0, if_true]

/-! ### The rename loop -/

theorem renameStep_frame (s : State β) (j : Nat) :
    renameStep s j = { s with names := (renameStep s j).names, dropped := (renameStep s j).dropped } := by
  unfold renameStep
  cases s.names j <;> rfl

theorem rotateFrom_frame : ∀ (m : Nat) (s : State β),
    rotateFrom m s = { s with names := (rotateFrom m s).names, dropped := (rotateFrom m s).dropped }
  | 0, _ => rfl
  | m + 1, s =>
    (rotateFrom_frame m (renameStep s m)).trans <|
      congrArg (fun t : State β => { t with names := (rotateFrom (m + 1) s).names,
                                             dropped := (rotateFrom (m + 1) s).dropped })
        (renameStep_frame s m)

/-- One rename when the directory has no gap below slot `j + 1`: the entry of slot `j` moves up
(over whatever was there), also when there is none. -/
theorem renameStep_of_contig {s : State β} {j : Nat} (h : s.names j = none → s.names (j + 1) = none) :
    (renameStep s j).names = upd (upd s.names (j + 1) (s.names j)) j none ∧
    (renameStep s j).dropped = s.dropped ++ fileOf s (s.names (j + 1)) := by
  unfold renameStep
  cases hj : s.names j with
  | some src => exact ⟨rfl, rfl⟩
  | none =>
    refine ⟨funext fun k => ?_, by rw [h hj]; exact (List.append_nil _).symm⟩
    by_cases h0 : k = j
    · rw [h0, upd_same, hj]
    · rw [upd_of_ne h0]
      by_cases h1 : k = j + 1
      · rw [h1, upd_same, h hj]
      · rw [upd_of_ne h1]

/-- After the first rename the gap travels down with the loop, so only that one can hit an existing
target: the file that was in slot `m + 1` is the only one unlinked. -/
theorem rotateFrom_of_contig : ∀ (m : Nat) (s : State β), (s.names m = none → s.names (m + 1) = none) →
    (rotateFrom (m + 1) s).names 0 = none ∧
    (∀ k, (rotateFrom (m + 1) s).names (k + 1) = if k < m + 1 then s.names k else s.names (k + 1)) ∧
    (rotateFrom (m + 1) s).dropped = s.dropped ++ fileOf s (s.names (m + 1))
  | 0, s, h => by
    show (renameStep s 0).names 0 = none ∧ (∀ k, (renameStep s 0).names (k + 1) = _) ∧
      (renameStep s 0).dropped = _
    obtain ⟨hn, hd⟩ := renameStep_of_contig h
    rw [hn]
    refine ⟨upd_same, fun k => ?_, hd⟩
    rw [upd_of_ne (Nat.succ_ne_zero k)]
    cases k with
    | zero => exact upd_same
    | succ k => exact upd_of_ne (Nat.succ_ne_succ_iff.mpr (Nat.succ_ne_zero k))
  | m + 1, s, h => by
    obtain ⟨hn, hd⟩ := renameStep_of_contig h
    have hgap : (renameStep s (m + 1)).names (m + 1) = none := by rw [hn]; exact upd_same
    obtain ⟨ih0, ihk, ihd⟩ := rotateFrom_of_contig m (renameStep s (m + 1)) fun _ => hgap
    refine ⟨ih0, fun k => ?_, ?_⟩
    · show (rotateFrom (m + 1) (renameStep s (m + 1))).names (k + 1) = _
      rw [ihk k, hn]
      rcases Nat.lt_trichotomy k (m + 1) with hk | hk | hk
      · rw [if_pos hk, if_pos (Nat.lt_succ_of_lt hk), upd_of_ne (Nat.ne_of_lt hk),
          upd_of_ne (Nat.ne_of_lt (Nat.lt_succ_of_lt hk))]
      · subst hk
        rw [if_neg (Nat.lt_irrefl _), if_pos (Nat.lt_succ_self _), upd_of_ne (Nat.succ_ne_self _),
          upd_same]
      · rw [if_neg (Nat.lt_asymm hk), if_neg (Nat.not_lt.mpr hk),
          upd_of_ne (Nat.ne_of_gt (Nat.lt_succ_of_lt hk)),
          upd_of_ne (Nat.ne_of_gt (Nat.succ_lt_succ hk))]
    · show (rotateFrom (m + 1) (renameStep s (m + 1))).dropped = _
      rw [ihd, hgap, hd]
      exact List.append_nil _

/-! ### The invariant -/

def sumLen (len : β → Nat) (l : List β) : Nat := (l.map len).sum

theorem sumLen_append (len : β → Nat) (a b : List β) :
    sumLen len (a ++ b) = sumLen len a + sumLen len b := by
  simp [sumLen]

/-- the files `fs` (newest first) read oldest first -/
def contentsOf (s : State β) (fs : List Nat) : List β := (fs.reverse.map s.content).flatten

theorem contentsOf_append (s : State β) (a b : List Nat) :
    contentsOf s (a ++ b) = contentsOf s b ++ contentsOf s a := by
  simp [contentsOf]

theorem contentsOf_cons (s : State β) (c : Nat) (fs : List Nat) :
    contentsOf s (c :: fs) = contentsOf s fs ++ s.content c := by
  simp [contentsOf]

theorem contentsOf_congr {s s' : State β} {fs : List Nat} (h : ∀ i ∈ fs, s'.content i = s.content i) :
    contentsOf s' fs = contentsOf s fs :=
  congrArg List.flatten (List.map_congr_left fun i hi => h i (List.mem_reverse.mp hi))

theorem contentsOf_toList (s : State β) (o : Option Nat) : contentsOf s o.toList = fileOf s o := by
  cases o <;> simp [contentsOf, fileOf]

/-- `w.currFile` when the newest file is the head of `fs` -/
def curOf : List Nat → Handle
  | [] => .nil
  | c :: _ => .opened c

/-- `fs`: the inodes behind `<name>.log, <name>1.log, …` (newest first); `W`: everything written -/
structure Inv (len : β → Nat) (num size : Nat) (s : State β) (fs : List Nat) (W : List β) : Prop where
  namesEq : ∀ j, s.names j = fs[j]?
  nodup : fs.Nodup
  fresh : ∀ i ∈ fs, i < s.nextIno
  empty : ∀ i, s.nextIno ≤ i → s.content i = []
  lenLe : fs.length ≤ slots num
  cur : s.cur = curOf fs
  conserve : s.dropped ++ contentsOf s fs = W
  budget : (fs.length - 1) * size + s.currSize ≤ sumLen len W
  dropBound : s.dropped = [] ∨ num * size ≤ sumLen len W

theorem inv_init (len : β → Nat) (num size : Nat) : Inv len num size (init : State β) [] [] := by
  constructor <;> simp [init, contentsOf, slots, sumLen, curOf]

variable {len : β → Nat} {num size : Nat} {s : State β} {fs : List Nat} {W : List β}

theorem inv_newFile {s' : State β} {fs' : List Nat} (h : Inv len num size s fs W)
    (hsub : fs'.Sublist fs) (hlen : fs'.length < slots num)
    (hnames : ∀ j, s'.names j = (s.nextIno :: fs')[j]?) (hcontent : s'.content = s.content)
    (hnext : s'.nextIno = s.nextIno + 1) (hcur : s'.cur = .opened s.nextIno)
    (hcons : s'.dropped ++ contentsOf s fs' = W)
    (hbudget : fs'.length * size + s'.currSize ≤ sumLen len W)
    (hdrop : s'.dropped = [] ∨ num * size ≤ sumLen len W) :
    Inv len num size s' (s.nextIno :: fs') W where
  namesEq := hnames
  nodup := List.nodup_cons.mpr
    ⟨fun hm => Nat.lt_irrefl _ (h.fresh _ (hsub.subset hm)), hsub.nodup h.nodup⟩
  fresh := fun i hi => by
    rw [hnext]
    rcases List.mem_cons.mp hi with rfl | hi
    · exact Nat.lt_succ_self _
    · exact Nat.lt_succ_of_lt (h.fresh i (hsub.subset hi))
  empty := fun i hi => by
    rw [hnext] at hi
    rw [hcontent]
    exact h.empty i (Nat.le_of_succ_le hi)
  lenLe := hlen
  cur := hcur
  conserve := by
    rw [contentsOf_cons, hcontent, h.empty _ (Nat.le_refl _), List.append_nil,
      contentsOf_congr fun i _ => congrFun hcontent i]
    exact hcons
  budget := hbudget
  dropBound := hdrop

theorem reOpen_inv (h : Inv len num size s fs W) (env : Env) (hok : env.openOk = true) :
    ∃ c rest, Inv len num size (reOpen s env) (c :: rest) W := by
  cases fs with
  | nil =>
    have h0 : s.names 0 = none := h.namesEq 0
    rw [reOpen_of_none hok h0]
    refine ⟨_, _, inv_newFile h (List.Sublist.refl _) (Nat.lt_of_lt_of_le Nat.zero_lt_one (Nat.le_max_right _ _))
      (fun j => ?_) rfl rfl rfl h.conserve (by simpa using h.budget) h.dropBound⟩
    cases j with
    | zero => rfl
    | succ j => exact (h.namesEq (j + 1)).trans rfl
  | cons c rest =>
    have h0 : s.names 0 = some c := h.namesEq 0
    rw [reOpen_of_some hok h0]
    exact ⟨c, rest, { h with cur := rfl }⟩

/-- `w.currFile.Write(v)` through the open handle -/
theorem append_inv {c : Nat} {rest : List Nat} (h : Inv len num size s (c :: rest) W) (v : β) :
    Inv len num size { s with content := upd s.content c (s.content c ++ [v]),
                              currSize := s.currSize + len v } (c :: rest) (W ++ [v]) :=
  { h with
    empty := fun i hi => by
      have hc : c < s.nextIno := h.fresh c List.mem_cons_self
      exact (upd_of_ne (Nat.ne_of_gt (Nat.lt_of_lt_of_le hc hi))).trans (h.empty i hi)
    conserve := by
      have hrest : ∀ i ∈ rest, upd s.content c (s.content c ++ [v]) i = s.content i :=
        fun i hi => upd_of_ne fun e => (List.nodup_cons.mp h.nodup).1 (e ▸ hi)
      rw [← h.conserve, contentsOf_cons, contentsOf_cons, contentsOf_congr hrest]
      show _ ++ (_ ++ upd s.content c (s.content c ++ [v]) c) = _
      rw [upd_same, List.append_assoc, List.append_assoc]
    budget := by
      show _ + (s.currSize + len v) ≤ _
      rw [sumLen_append, ← Nat.add_assoc]
      exact Nat.add_le_add_right h.budget (len v)
    dropBound := h.dropBound.imp_right fun hd => by
      rw [sumLen_append]
      exact Nat.le_trans hd (Nat.le_add_right _ _) }

/-- The rotation branch of `Write`: close, rename every file up by one (the one in the last slot is
overwritten), start a fresh `<name>.log`. With `num ≤ 1` there is no rename and the same file is
reopened. -/
theorem rotate_inv {c : Nat} {rest : List Nat} (h : Inv len num size s (c :: rest) W) (env : Env)
    (hok : env.openOk = true) (hsize : s.currSize ≥ size) :
    ∃ fs', Inv len num size
      (reOpen (rotateFrom (num - 1) { s with cur := s.cur.close, currSize := 0 }) env) fs' W := by
  have hb : rest.length * size + s.currSize ≤ sumLen len W := h.budget
  match num, h with
  | 0, h | 1, h =>
    show ∃ fs', Inv _ _ _ (reOpen { s with cur := s.cur.close, currSize := 0 } env) fs' W
    rw [reOpen_of_some (s := { s with cur := s.cur.close, currSize := 0 }) hok (h.namesEq 0)]
    exact ⟨_, { h with cur := rfl, budget := Nat.le_trans (Nat.le_add_right _ _) hb }⟩
  | m + 2, h =>
    show ∃ fs', Inv _ _ _ (reOpen (rotateFrom (m + 1) _) env) fs' W
    have hl : (c :: rest).length ≤ m + 2 := Nat.max_eq_left (Nat.le_add_left 1 (m + 1)) ▸ h.lenLe
    obtain ⟨r0, rk, rd⟩ := rotateFrom_of_contig m { s with cur := s.cur.close, currSize := 0 } <| by
      show s.names m = none → s.names (m + 1) = none
      rw [h.namesEq, h.namesEq]
      exact fun hn => List.getElem?_eq_none (Nat.le_succ_of_le (List.getElem?_eq_none_iff.mp hn))
    rw [rotateFrom_frame, rd]
    generalize (rotateFrom (m + 1) _).names = N at r0 rk ⊢
    rw [reOpen_of_none hok r0]
    refine ⟨_, inv_newFile h (List.take_sublist (m + 1) _) ?_ (fun j => ?_) rfl rfl rfl ?_ ?_ ?_⟩
    · exact Nat.lt_of_lt_of_le (Nat.lt_succ_of_le (List.length_take_le _ _)) (Nat.le_max_left _ _)
    · cases j with
      | zero => rfl
      | succ k =>
        show upd N 0 (some s.nextIno) (k + 1) = ((c :: rest).take (m + 1))[k]?
        rw [upd_of_ne (Nat.succ_ne_zero k), rk k, List.getElem?_take]
        show (if k < m + 1 then s.names k else s.names (k + 1)) = _
        rw [h.namesEq, h.namesEq]
        exact ite_congr rfl (fun _ => rfl) fun hk =>
          List.getElem?_eq_none (Nat.le_trans hl (Nat.succ_le_succ (Nat.not_lt.mp hk)))
    · show s.dropped ++ fileOf s (s.names (m + 1)) ++ _ = W
      rw [← h.conserve, List.append_assoc, h.namesEq, ← contentsOf_toList, getElem?_toList_eq_drop hl,
        ← contentsOf_append, List.take_append_drop]
    · show ((c :: rest).take (m + 1)).length * size + 0 ≤ _
      refine Nat.le_trans (Nat.mul_le_mul_right size (List.length_take_le' (m + 1) (c :: rest))) ?_
      rw [List.length_cons, Nat.succ_mul]
      exact Nat.le_trans (Nat.add_le_add_left hsize _) hb
    · show s.dropped ++ fileOf s (s.names (m + 1)) = [] ∨ _
      rw [h.namesEq]
      cases htop : (c :: rest)[m + 1]? with
      | none => exact h.dropBound.imp_left fun hd => by rw [hd]; rfl
      | some o =>
        have hlt : m + 1 ≤ rest.length := Nat.le_of_lt_succ (List.getElem?_eq_some_iff.mp htop).1
        refine Or.inr (Nat.le_trans ?_ hb)
        rw [Nat.succ_mul]
        exact Nat.add_le_add (Nat.mul_le_mul_right size hlt) hsize

/-! ### `Write` -/

theorem writeTail_inv {c : Nat} {rest : List Nat} (h : Inv len num size s (c :: rest) W) (env : Env)
    (hok : env.openOk = true) (v : β) :
    ∃ fs', Inv len num size (writeTail len true num size s env v) fs' (W ++ [v]) := by
  unfold writeTail
  have hcur : s.cur = Handle.opened c := h.cur
  simp only [hcur, if_true]
  have h2 := append_inv h v
  rw [hcur] at h2
  split
  · next hsz => exact rotate_inv h2 env hok hsz
  · exact ⟨_, h2⟩

theorem write_inv (h : Inv len num size s fs W) (env : Env) (hok : env.openOk = true) (v : β) :
    ∃ fs', Inv len num size (write len true num size s env v) fs' (W ++ [v]) := by
  unfold write
  simp only
  have h0 : Inv len num size { s with written := s.written ++ [v] } fs W := { h with }
  split
  · obtain ⟨c, rest, hinv⟩ := reOpen_inv h0 env hok
    exact writeTail_inv hinv env hok v
  · next hcond =>
    cases fs with
    | nil => exact absurd (Or.inl h.cur) hcond
    | cons c rest => exact writeTail_inv h0 env hok v

theorem writes_inv (ws : List (Env × β)) (h : Inv len num size s fs W) (hok : ∀ e ∈ ws, e.1.openOk = true) :
    ∃ fs', Inv len num size (writes len true num size s ws) fs' (W ++ ws.map (·.2)) := by
  induction ws generalizing s fs W with
  | nil => exact ⟨fs, by rw [List.map_nil, List.append_nil]; exact h⟩
  | cons e rest ih =>
    obtain ⟨fs1, h1⟩ := write_inv h e.1 (hok e List.mem_cons_self) e.2
    obtain ⟨fs2, h2⟩ := ih h1 fun e he => hok e (List.mem_cons_of_mem _ he)
    rw [List.append_assoc] at h2
    exact ⟨fs2, h2⟩

theorem writes_init_inv (len : β → Nat) (num size : Nat) (ws : List (Env × β)) (hok : ∀ e ∈ ws, e.1.openOk = true) :
    ∃ fs, Inv len num size (writes len true num size init ws) fs (ws.map (·.2)) :=
  writes_inv ws (inv_init len num size) hok

theorem concatRoll_take (hn : ∀ j, s.names j = fs[j]?) :
    ∀ k, concatRoll s k = contentsOf s (fs.take k)
  | 0 => rfl
  | k + 1 => by
    rw [concatRoll, fileAt, hn k, concatRoll_take hn k, List.take_add_one, contentsOf_append,
      contentsOf_toList]

theorem Inv.concatRoll (h : Inv len num size s fs W) : s.dropped ++ concatRoll s (slots num) = W := by
  rw [concatRoll_take h.namesEq, List.take_of_length_le h.lenLe]
  exact h.conserve

end Tars.LogWriter
