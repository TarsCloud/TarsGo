/-
  Lemmas about the definitions of the failover model (property C15): `upd`, the selectors,
  `checkActive`, the observables of a log.  Core Lean only.
-/
import TarsModel.Model.Health
import TarsModel.Proofs.KeyedList

namespace Tars.Health
open Tars

@[simp] theorem upd_same {α} (f : Nat → α) (k : Nat) (v : α) : upd f k v k = v := by simp [upd]

theorem upd_apply {α} (f : Nat → α) (k x : Nat) (v : α) : upd f k v x = if x = k then v else f x := rfl

theorem forall_upd {α} {f : Nat → α} {k : Nat} {v : α} {P : Nat → α → Prop} (hk : P k v)
    (ho : ∀ x, x ≠ k → P x (f x)) : ∀ x, P x (upd f k v x) := by
  intro x
  rw [upd_apply]; split
  · rename_i e; rw [e]; exact hk
  · rename_i e; exact ho x e

theorem upd_self {α} (f : Nat → α) (k : Nat) : upd f k (f k) = f := by
  funext x; rw [upd_apply]; split
  · rename_i e; rw [e]
  · rfl

theorem upd_upd {α} (f : Nat → α) (k : Nat) (a b : α) : upd (upd f k a) k b = upd f k b := by
  funext x; simp only [upd_apply]; split <;> rfl

theorem getD_mod_mem {α} {l : List α} {a : α} {r : List α} (h : l = a :: r) (c : Nat) :
    l.getD (c % l.length) a ∈ l := by
  have hi : c % l.length < l.length := Nat.mod_lt _ (by rw [h]; exact Nat.succ_pos _)
  simp only [List.getD, List.getElem?_eq_getElem hi, Option.getD_some]
  exact List.getElem_mem hi

/-- the selectors of this model hold bare endpoint numbers: `addLocked` is `Keyed.install` with the
endpoint as its own key -/
theorem selAdd_eq_install : selAdd = Keyed.install id := by
  funext l ep; simp [selAdd, Keyed.install]

theorem mem_selAdd (l : List Nat) (ep e : Nat) : e ∈ selAdd l ep ↔ e ∈ l ∨ e = ep := by
  simpa [selAdd_eq_install] using Keyed.mem_keys_install (key := id) (s := l) (a := ep) (k := e)

theorem nodup_selAdd (l : List Nat) (ep : Nat) (h : l.Nodup) : (selAdd l ep).Nodup := by
  simpa [selAdd_eq_install] using Keyed.nodup_install (key := id) (s := l) (a := ep) (by simpa using h)

theorem nodup_selRefresh (eps : List Nat) : (selRefresh eps).Nodup := by
  simpa [selRefresh, selAdd_eq_install] using
    Keyed.nodup_foldl_install (key := id) (s := []) (l := eps) List.nodup_nil

theorem mem_selRefresh (eps : List Nat) (e : Nat) : e ∈ selRefresh eps ↔ e ∈ eps := by
  simpa [selRefresh, selAdd_eq_install] using
    Keyed.mem_keys_foldl_install (key := id) (s := []) (l := eps) (k := e)

/-- `P e pre` holds for every split `post ++ e :: pre` of a newest-first log -/
def AllSuffix (P : Event → List Event → Prop) : List Event → Prop
  | [] => True
  | e :: pre => P e pre ∧ AllSuffix P pre

theorem AllSuffix.split {P : Event → List Event → Prop} :
    ∀ {log post : List Event} {e : Event} {pre : List Event}, AllSuffix P log → log = post ++ e :: pre → P e pre := by
  intro log post
  induction post generalizing log with
  | nil => intro e pre h heq; subst heq; exact h.1
  | cons x xs ih => intro e pre h heq; subst heq; exact ih h.2 rfl

/-! ## `checkActive` -/

/-- case split over every test of `checkActive` (after `unfold checkActive at h ⊢`) -/
macro "ca_cases" r:ident now:ident conn:ident h:ident " with " lems:Lean.Parser.Tactic.simpLemma,* : tactic => `(tactic| (
  generalize h1 : cmpOp Consts.healthOpFailInterval ($now - ($r).lastSuccessTime) _ = a1 at $h:ident ⊢
  generalize h2 : cmpOp Consts.healthOpFainN _ _ = a2 at $h:ident ⊢
  generalize h3 : cmpOp Consts.healthOpCheckTime _ _ = a3 at $h:ident ⊢
  generalize h4 : cmpOp Consts.healthOpOverN _ _ = a4 at $h:ident ⊢
  generalize h5 : ratioCmp _ _ _ = a5 at $h:ident ⊢
  generalize h6 : cmpOp Consts.healthOpTryTime _ _ = a6 at $h:ident ⊢
  cases hc : ($r).closed <;> cases hs : ($r).status <;> cases a1 <;> cases a2 <;> cases a3 <;> cases a4 <;> cases a5 <;>
    cases a6 <;> cases $conn:ident <;> (try simp_all [cmpOp, $lems,*]) <;> (try omega)))

/-- the operators the extractor finds in `checkActive` are all `>=` (code 0); the `Consts.healthOp*`
are reducible abbreviations of `0`, so the lemma applies to them as it stands -/
theorem cmpOp_ge {a b : Int} : cmpOp 0 a b = true ↔ b ≤ a := by simp [cmpOp]

theorem checkActive_cases (now : Int) (conn : Bool) (r : Rec) :
    checkActive now conn r = ⟨r, false, false⟩ ∨
    checkActive now conn r = ⟨{ r with lastBlockTime := now }, false, false⟩ ∨
    (((Consts.healthFainN : Int) ≤ r.lastFailCount ∨ (Consts.healthOverN : Int) ≤ r.failCount) ∧
      checkActive now conn r = ⟨{ r with status := false, lastBlockTime := now }, true, false⟩) ∨
    (r.status = false ∧ (Consts.healthTryTimeInterval : Int) ≤ now - r.lastBlockTime ∧
      checkActive now conn r = ⟨{ r with lastBlockTime := now }, false, true⟩) := by
  unfold checkActive
  cases hc : r.closed
  case true => exact .inl rfl
  cases hs : r.status
  case false =>
    cases ht : cmpOp Consts.healthOpTryTime (now - r.lastBlockTime) Consts.healthTryTimeInterval
    · exact .inl rfl
    · cases conn
      · exact .inr (.inl rfl)
      · exact .inr (.inr (.inr ⟨rfl, cmpOp_ge.mp ht, rfl⟩))
  -- active: the streak rule, then (every `checkTime` seconds) the ratio rule
  cases h1 : cmpOp Consts.healthOpFailInterval (now - r.lastSuccessTime) Consts.healthFailInterval &&
      cmpOp Consts.healthOpFainN r.lastFailCount Consts.healthFainN
  case true => exact .inr (.inr (.inl ⟨.inl (cmpOp_ge.mp (Bool.and_eq_true_iff.mp h1).2), rfl⟩))
  cases h3 : cmpOp Consts.healthOpCheckTime (now - r.lastCheckTime) Consts.healthCheckTime
  case false => exact .inl rfl
  cases h4 : cmpOp Consts.healthOpOverN r.failCount Consts.healthOverN &&
      ratioCmp Consts.healthOpFailRatio r.failCount r.sendCount
  · exact .inr (.inl rfl)
  · exact .inr (.inr (.inl ⟨.inr (cmpOp_ge.mp (Bool.and_eq_true_iff.mp h4).1), rfl⟩))

/-- both rules need at least two failures: where the "2" of `C15_min_two` comes from -/
theorem fainN_ge_two : 2 ≤ Consts.healthFainN := by decide
theorem overN_ge_two : 2 ≤ Consts.healthOverN := by decide

theorem checkActive_live (now : Int) (conn : Bool) (r : Rec) (hc : r.closed = false) (hs : r.status = true)
    (ht : (Consts.healthFailInterval : Int) ≤ now - r.lastSuccessTime) (hf : (Consts.healthFainN : Int) ≤ r.lastFailCount) :
    checkActive now conn r = ⟨{ r with status := false, lastBlockTime := now }, true, false⟩ := by
  unfold checkActive
  rw [if_neg (by simp [hc]), if_pos hs, if_pos (Bool.and_eq_true_iff.mpr ⟨cmpOp_ge.mpr ht, cmpOp_ge.mpr hf⟩)]

theorem checkActive_due (now : Int) (r : Rec) (hc : r.closed = false) (hs : r.status = false)
    (ht : (Consts.healthTryTimeInterval : Int) ≤ now - r.lastBlockTime) :
    checkActive now true r = ⟨{ r with lastBlockTime := now }, false, true⟩ := by
  unfold checkActive
  rw [if_neg (by simp [hc]), if_neg (by simp [hs]), if_pos (cmpOp_ge.mpr ht)]
  rfl

/-! ## observables of a log: one lemma per event constructor -/

section logs
variable (r : List Event) (e ep : Nat) (t : Int) (p : Bool)

@[simp] theorem failsSince_picked : failsSince (.picked e p t :: r) ep = failsSince r ep := rfl
@[simp] theorem failsSince_none : failsSince (.noEndpoint t :: r) ep = failsSince r ep := rfl
@[simp] theorem failsSince_ok : failsSince (.ok e t :: r) ep = failsSince r ep := rfl
@[simp] theorem failsSince_fail : failsSince (.fail e t :: r) ep = (if e = ep then 1 else 0) + failsSince r ep := rfl
@[simp] theorem failsSince_blocked : failsSince (.blocked e t :: r) ep = failsSince r ep := rfl
@[simp] theorem failsSince_grant : failsSince (.grant e t :: r) ep = failsSince r ep := rfl
@[simp] theorem failsSince_reinst : failsSince (.reinstated e t :: r) ep = if e = ep then 0 else failsSince r ep := rfl

@[simp] theorem streak_picked : streak (.picked e p t :: r) ep = streak r ep := rfl
@[simp] theorem streak_none : streak (.noEndpoint t :: r) ep = streak r ep := rfl
@[simp] theorem streak_ok : streak (.ok e t :: r) ep = if e = ep then 0 else streak r ep := rfl
@[simp] theorem streak_fail : streak (.fail e t :: r) ep = (if e = ep then 1 else 0) + streak r ep := rfl
@[simp] theorem streak_blocked : streak (.blocked e t :: r) ep = streak r ep := rfl
@[simp] theorem streak_grant : streak (.grant e t :: r) ep = streak r ep := rfl
@[simp] theorem streak_reinst : streak (.reinstated e t :: r) ep = streak r ep := rfl

@[simp] theorem lastOk_picked : lastOk (.picked e p t :: r) ep = lastOk r ep := rfl
@[simp] theorem lastOk_none : lastOk (.noEndpoint t :: r) ep = lastOk r ep := rfl
@[simp] theorem lastOk_ok : lastOk (.ok e t :: r) ep = if e = ep then some t else lastOk r ep := rfl
@[simp] theorem lastOk_fail : lastOk (.fail e t :: r) ep = lastOk r ep := rfl
@[simp] theorem lastOk_blocked : lastOk (.blocked e t :: r) ep = lastOk r ep := rfl
@[simp] theorem lastOk_grant : lastOk (.grant e t :: r) ep = lastOk r ep := rfl
@[simp] theorem lastOk_reinst : lastOk (.reinstated e t :: r) ep = lastOk r ep := rfl

@[simp] theorem lastGrant_picked : lastGrant (.picked e p t :: r) ep = lastGrant r ep := rfl
@[simp] theorem lastGrant_none : lastGrant (.noEndpoint t :: r) ep = lastGrant r ep := rfl
@[simp] theorem lastGrant_ok : lastGrant (.ok e t :: r) ep = lastGrant r ep := rfl
@[simp] theorem lastGrant_fail : lastGrant (.fail e t :: r) ep = lastGrant r ep := rfl
@[simp] theorem lastGrant_blocked : lastGrant (.blocked e t :: r) ep = lastGrant r ep := rfl
@[simp] theorem lastGrant_grant : lastGrant (.grant e t :: r) ep = if e = ep then some t else lastGrant r ep := rfl
@[simp] theorem lastGrant_reinst : lastGrant (.reinstated e t :: r) ep = lastGrant r ep := rfl

@[simp] theorem lastProbe_probe : lastProbe (.picked e true t :: r) ep = if e = ep then some t else lastProbe r ep := rfl
@[simp] theorem lastProbe_pick : lastProbe (.picked e false t :: r) ep = lastProbe r ep := rfl
@[simp] theorem lastProbe_none : lastProbe (.noEndpoint t :: r) ep = lastProbe r ep := rfl
@[simp] theorem lastProbe_ok : lastProbe (.ok e t :: r) ep = lastProbe r ep := rfl
@[simp] theorem lastProbe_fail : lastProbe (.fail e t :: r) ep = lastProbe r ep := rfl
@[simp] theorem lastProbe_blocked : lastProbe (.blocked e t :: r) ep = lastProbe r ep := rfl
@[simp] theorem lastProbe_grant : lastProbe (.grant e t :: r) ep = lastProbe r ep := rfl
@[simp] theorem lastProbe_reinst : lastProbe (.reinstated e t :: r) ep = lastProbe r ep := rfl

@[simp] theorem prevProbe_probe : prevProbe (.picked e true t :: r) ep = if e = ep then lastProbe r ep else prevProbe r ep := rfl
@[simp] theorem prevProbe_pick : prevProbe (.picked e false t :: r) ep = prevProbe r ep := rfl
@[simp] theorem prevProbe_none : prevProbe (.noEndpoint t :: r) ep = prevProbe r ep := rfl
@[simp] theorem prevProbe_ok : prevProbe (.ok e t :: r) ep = prevProbe r ep := rfl
@[simp] theorem prevProbe_fail : prevProbe (.fail e t :: r) ep = prevProbe r ep := rfl
@[simp] theorem prevProbe_blocked : prevProbe (.blocked e t :: r) ep = prevProbe r ep := rfl
@[simp] theorem prevProbe_grant : prevProbe (.grant e t :: r) ep = prevProbe r ep := rfl
@[simp] theorem prevProbe_reinst : prevProbe (.reinstated e t :: r) ep = prevProbe r ep := rfl

@[simp] theorem grants_picked : grants (.picked e p t :: r) ep = grants r ep := rfl
@[simp] theorem grants_none : grants (.noEndpoint t :: r) ep = grants r ep := rfl
@[simp] theorem grants_ok : grants (.ok e t :: r) ep = grants r ep := rfl
@[simp] theorem grants_fail : grants (.fail e t :: r) ep = grants r ep := rfl
@[simp] theorem grants_blocked : grants (.blocked e t :: r) ep = grants r ep := rfl
@[simp] theorem grants_grant : grants (.grant e t :: r) ep = (if e = ep then 1 else 0) + grants r ep := rfl
@[simp] theorem grants_reinst : grants (.reinstated e t :: r) ep = grants r ep := rfl

@[simp] theorem probes_probe : probes (.picked e true t :: r) ep = (if e = ep then 1 else 0) + probes r ep := rfl
@[simp] theorem probes_pick : probes (.picked e false t :: r) ep = probes r ep := rfl
@[simp] theorem probes_none : probes (.noEndpoint t :: r) ep = probes r ep := rfl
@[simp] theorem probes_ok : probes (.ok e t :: r) ep = probes r ep := rfl
@[simp] theorem probes_fail : probes (.fail e t :: r) ep = probes r ep := rfl
@[simp] theorem probes_blocked : probes (.blocked e t :: r) ep = probes r ep := rfl
@[simp] theorem probes_grant : probes (.grant e t :: r) ep = probes r ep := rfl
@[simp] theorem probes_reinst : probes (.reinstated e t :: r) ep = probes r ep := rfl

@[simp] theorem failsEver_picked : failsEver (.picked e p t :: r) ep = failsEver r ep := rfl
@[simp] theorem failsEver_none : failsEver (.noEndpoint t :: r) ep = failsEver r ep := rfl
@[simp] theorem failsEver_ok : failsEver (.ok e t :: r) ep = failsEver r ep := rfl
@[simp] theorem failsEver_fail : failsEver (.fail e t :: r) ep = (if e = ep then 1 else 0) + failsEver r ep := rfl
@[simp] theorem failsEver_blocked : failsEver (.blocked e t :: r) ep = failsEver r ep := rfl
@[simp] theorem failsEver_grant : failsEver (.grant e t :: r) ep = failsEver r ep := rfl
@[simp] theorem failsEver_reinst : failsEver (.reinstated e t :: r) ep = failsEver r ep := rfl
end logs

theorem failsSince_le_failsEver (log : List Event) (ep : Nat) : failsSince log ep ≤ failsEver log ep := by
  induction log with
  | nil => simp [failsSince, failsEver]
  | cons e r ih =>
    cases e <;> simp <;> (try split) <;> omega

theorem prevProbe_some_lastProbe (log : List Event) (ep : Nat) (t : Int) (h : prevProbe log ep = some t) :
    ∃ p, lastProbe log ep = some p := by
  induction log with
  | nil => simp [prevProbe] at h
  | cons e r ih =>
    cases e with
    | picked e' pr t' =>
      cases pr with
      | true =>
        simp only [prevProbe_probe, lastProbe_probe] at h ⊢
        split
        · exact ⟨_, rfl⟩
        · rename_i hne; simp [hne] at h; exact ih h
      | false => simpa using ih (by simpa using h)
    | _ => simpa using ih (by simpa using h)

end Tars.Health
