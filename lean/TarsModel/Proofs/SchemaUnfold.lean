import TarsModel.Model.Schema

/-!
# Equations of the recursive codec definitions

The loops of `decVar`, its scalar alternative, `decStruct` and `resetDefault`: each equation restates
the corresponding alternative of the definition in `Model/Schema.lean` word for word, so that proofs
can rewrite with it instead of unfolding the whole mutual block.  (The container alternatives of
`decVar` are in `Proofs/MemberRead.lean`, behind `readWith`.)  Two definitions exist to state them:
`Total.isAtom`, the types of the scalar alternative, and `Evolve.resetMember`, one step of
`resetDefault`.  At the end, on the model alone as well: how much `decFuel` is (`decFuel_lb`), and
that an entry `Env.find` returns is counted by `Env.width`.
-/
namespace Tars
open Consts

theorem decVar_fuel0 (env : Env) (tag : Nat) (req : Bool) (ty : Ty) (old : Val) (r : Reader) :
    decVar env 0 tag req ty old r = (.error .fuel, r) := by
  conv => lhs; unfold decVar
  rfl

namespace Total

/-- the types handled by `readBuf.Read<T>` -/
def isAtom : Ty → Bool
  | .vec _ | .arr _ _ | .map _ _ | .struct _ => false
  | _ => true

end Total

theorem decVar_atom (env : Env) (fuel tag : Nat) (req : Bool) (ty : Ty) (old : Val) (r : Reader)
    (h : Total.isAtom ty = true) :
    decVar env (fuel+1) tag req ty old r = readScalar ty old tag req r := by
  conv => lhs; unfold decVar
  cases ty <;> first | rfl | simp [Total.isAtom] at h

theorem decElems_fuel0 (env : Env) (e : Ty) (n : Nat) (acc : List Val) (r : Reader) :
    decElems env 0 e n acc r = (.error .fuel, r) := by
  conv => lhs; unfold decElems
  rfl

theorem decArr_fuel0 (env : Env) (e : Ty) (n i : Nat) (len : Int) (cur : List Val) (r : Reader) :
    decArr env 0 e n i len cur r = (.error .fuel, r) := by
  conv => lhs; unfold decArr
  rfl

theorem decPairs_fuel0 (env : Env) (k v : Ty) (len : Int) (acc : List (Val × Val)) (r : Reader) :
    decPairs env 0 k v len acc r = (.error .fuel, r) := by
  conv => lhs; unfold decPairs
  rfl

theorem decMembers_fuel0 (env : Env) (fs : List Field) (olds : List Val) (r : Reader) :
    decMembers env 0 fs olds r = (.error .fuel, r) := by
  conv => lhs; unfold decMembers
  rfl

theorem decElems_zero (env : Env) (fuel : Nat) (e : Ty) (acc : List Val) (r : Reader) :
    decElems env (fuel+1) e 0 acc r = (.ok (.list acc.reverse), r) := by
  conv => lhs; unfold decElems

theorem decElems_succ (env : Env) (fuel : Nat) (e : Ty) (n : Nat) (acc : List Val) (r : Reader) :
    decElems env (fuel+1) e (n+1) acc r =
      match decVar env fuel 0 true e (zeroOf env e) r with
      | (.error er, r') => (.error er, r')
      | (.ok v, r1) => decElems env fuel e n (v :: acc) r1 := by
  conv => lhs; unfold decElems
  rfl

theorem decArr_succ (env : Env) (fuel : Nat) (e : Ty) (n i : Nat) (len : Int) (cur : List Val)
    (r : Reader) :
    decArr env (fuel+1) e n i len cur r =
      if (i : Int) ≥ len then (.ok (.list cur), r)
      else if i ≥ n then arrOverflow e r
      else
        match decVar env fuel 0 true e (cur.getD i (zeroOf env e)) r with
        | (.error er, r') => (.error er, r')
        | (.ok v, r1) => decArr env fuel e n (i+1) len (listSet cur i v) r1 := by
  conv => lhs; unfold decArr
  rfl

theorem decPairs_succ (env : Env) (fuel : Nat) (k v : Ty) (len : Int) (acc : List (Val × Val))
    (r : Reader) :
    decPairs env (fuel+1) k v len acc r =
      if len ≤ 0 then (.ok (.map acc), r)
      else
        match decVar env fuel 0 true k (zeroOf env k) r with
        | (.error er, r') => (.error er, r')
        | (.ok a, r1) =>
          match decVar env fuel 1 true v (zeroOf env v) r1 with
          | (.error er, r') => (.error er, r')
          | (.ok b, r2) => decPairs env fuel k v (len - 1) (mapInsert acc a b keyEq) r2 := by
  conv => lhs; unfold decPairs
  rfl

theorem decMembers_nil (env : Env) (fuel : Nat) (olds : List Val) (r : Reader) :
    decMembers env (fuel+1) [] olds r = (.ok [], r) := by
  conv => lhs; unfold decMembers

theorem decMembers_cons (env : Env) (fuel : Nat) (f : Field) (fs : List Field) (o : Val)
    (os : List Val) (r : Reader) :
    decMembers env (fuel+1) (f :: fs) (o :: os) r =
      match decVar env fuel f.tag f.req f.ty o r with
      | (.error er, r') => (.error er, r')
      | (.ok v, r1) =>
        match decMembers env fuel fs os r1 with
        | (.error er, r') => (.error er, r')
        | (.ok vs, r2) => (.ok (v :: vs), r2) := by
  conv => lhs; unfold decMembers
  rfl

theorem decMembers_cons_inv {env : Env} {F : Nat} {f : Field} {fs : List Field} {o : Val} {os : List Val}
    {r r' : Reader} {vs : List Val} (h : decMembers env (F+1) (f :: fs) (o :: os) r = (.ok vs, r')) :
    ∃ v r1 vs', decVar env F f.tag f.req f.ty o r = (.ok v, r1) ∧
      decMembers env F fs os r1 = (.ok vs', r') ∧ vs = v :: vs' := by
  rw [decMembers_cons] at h
  rcases hdv : decVar env F f.tag f.req f.ty o r with ⟨e | v, r1⟩ <;> rw [hdv] at h
  · cases h
  · dsimp only at h
    rcases hm : decMembers env F fs os r1 with ⟨e | vs', r2⟩ <;> rw [hm] at h <;> cases h
    exact ⟨v, r1, vs', rfl, hm, rfl⟩

theorem decMembers_append (env : Env) (fs2 : List Field) (os2 : List Val) :
    ∀ (fs1 : List Field) (os1 : List Val) (F : Nat) (r r1 : Reader) (vs1 : List Val),
      os1.length = fs1.length → decMembers env F fs1 os1 r = (.ok vs1, r1) →
      decMembers env F (fs1 ++ fs2) (os1 ++ os2) r =
        match decMembers env (F - fs1.length) fs2 os2 r1 with
        | (.error e, r') => (.error e, r')
        | (.ok vs2, r2) => (.ok (vs1 ++ vs2), r2)
  | _, _, 0, r, _, _, _, h => by rw [decMembers_fuel0] at h; cases h
  | [], [], F+1, r, _, _, _, h => by
    rw [decMembers_nil] at h; cases h
    simp only [List.nil_append, List.length_nil, Nat.sub_zero]
    rcases hm : decMembers env (F+1) fs2 os2 r with ⟨_ | _, _⟩ <;> rfl
  | [], _ :: _, _, _, _, _, hl, _ => by cases hl
  | _ :: _, [], _, _, _, _, hl, _ => by cases hl
  | f :: fs1, o :: os1, F+1, r, r1, _, hl, h => by
    obtain ⟨v, r', vs', hdv, hm, rfl⟩ := decMembers_cons_inv h
    have ih := decMembers_append env fs2 os2 fs1 os1 F r' r1 vs' (by simpa using hl) hm
    rw [List.cons_append, List.cons_append, decMembers_cons, hdv]
    simp only [ih, List.length_cons, Nat.add_sub_add_right]
    rcases hm2 : decMembers env (F - fs1.length) fs2 os2 r1 with ⟨_ | _, _⟩ <;> rfl

/-! ## `ReadFrom` -/

theorem decStruct_eq (env : Env) (name : String) (old : Val) (r : Reader) :
    decStruct env name old r =
      match env.find name, old with
      | some fs, .struct ovs =>
        match decMembers env (decFuel env r) fs (resetDefault env (decFuel env r) fs ovs) r with
        | (.error er, r') => (.error er, r')
        | (.ok vs, r1) => (.ok (.struct vs), r1)
      | _, _ => (.error (.panic "model: ill-typed target"), r) := rfl

theorem decStruct_struct {env : Env} {name : String} {fs : List Field} (hfs : env.find name = some fs)
    (ovs : List Val) (r : Reader) :
    decStruct env name (.struct ovs) r =
      match decMembers env (decFuel env r) fs (resetDefault env (decFuel env r) fs ovs) r with
      | (.error er, r') => (.error er, r')
      | (.ok vs, r1) => (.ok (.struct vs), r1) := by
  rw [decStruct_eq]
  simp only [hfs]

theorem resetDefault_fuel0 (env : Env) (fs : List Field) (os : List Val) :
    resetDefault env 0 fs os = os := by
  rw [resetDefault]

namespace Evolve

/-- what `ResetDefault` leaves in one member -/
def resetMember (env : Env) (fuel : Nat) (f : Field) (v : Val) : Val :=
  match f.dflt with
  | some d => d
  | none =>
    match f.ty with
    | .struct _ =>
      match f.ty, v with
      | .struct name, .struct inner =>
        match env.find name with
        | some ifs => .struct (resetDefault env fuel ifs inner)
        | none => v
      | _, _ => v
    | .arr n (.struct s) =>
      match env.find s with
      | some ifs =>
        Val.list (List.replicate n (Val.struct (resetDefault env fuel ifs (ifs.map fun g => zeroOf env g.ty))))
      | none => zeroOf env f.ty
    | t => zeroOf env t

theorem resetDefault_cons (env : Env) (F : Nat) (f : Field) (fs : List Field) (v : Val) (vs : List Val) :
    resetDefault env (F+1) (f :: fs) (v :: vs) = resetMember env F f v :: resetDefault env (F+1) fs vs := by
  rw [resetDefault.eq_def]
  rfl

theorem resetDefault_nil_left (env : Env) (F : Nat) (vs : List Val) :
    resetDefault env (F+1) [] vs = [] := by
  rw [resetDefault.eq_def]

theorem resetDefault_nil_right (env : Env) (F : Nat) (fs : List Field) :
    resetDefault env (F+1) fs [] = [] := by
  cases fs <;> rw [resetDefault.eq_def]

theorem resetMember_struct (env : Env) (F : Nat) (f : Field) (name : String) (inner : List Val)
    (ifs : List Field) (h : f.dflt = none) (hty : f.ty = .struct name) (hfind : env.find name = some ifs) :
    resetMember env F f (.struct inner) = .struct (resetDefault env F ifs inner) := by
  unfold resetMember
  rw [h, hty]
  simp [hfind]

end Evolve

/-- what `decFuel` is worth on an input of at least `n` bytes, multiplied out: the form in which
    the bounds on `decFuel` are computed (by `omega`, with `n` the bytes a caller knows of) -/
theorem decFuel_lb (env : Env) {r : Reader} {n : Nat} (h : n ≤ r.data.size) :
    (env.width + 3) * n + 2 * env.width + 6 + env.length ≤ decFuel env r := by
  have := Nat.mul_le_mul_left (env.width + 3) h
  unfold decFuel
  rw [Nat.mul_add]
  omega

/-- `decFuel` is positive, in the form that lets the `fuel+1` equations fire on it -/
theorem decFuel_succ (env : Env) (r : Reader) : decFuel env r = (decFuel env r - 1) + 1 := by
  have := decFuel_lb env (Nat.zero_le r.data.size)
  omega

/-! ## the schema table -/

theorem Env.find_mem {env : Env} {name : String} {fs : List Field} (h : env.find name = some fs) :
    (name, fs) ∈ env := by
  induction env with
  | nil => simp [Env.find] at h
  | cons p rest ih =>
    obtain ⟨m, gs⟩ := p
    simp only [Env.find] at h
    split at h
    · rename_i hm
      simp only [Option.some.injEq] at h
      subst hm; subst h; exact List.mem_cons_self
    · exact List.mem_cons_of_mem _ (ih h)

theorem Env.width_ge {env : Env} {name : String} {fs : List Field} (h : (name, fs) ∈ env) :
    fs.length ≤ env.width := by
  induction env with
  | nil => cases h
  | cons p rest ih =>
    simp only [Env.width, List.foldr_cons]
    rcases List.mem_cons.mp h with rfl | h'
    · exact Nat.le_max_left _ _
    · exact Nat.le_trans (ih h') (Nat.le_max_right _ _)

theorem Env.find_width {env : Env} {name : String} {fs : List Field} (h : env.find name = some fs) :
    fs.length ≤ env.width := Env.width_ge (Env.find_mem h)

end Tars
