import TarsModel.Model.ClientConn
import TarsModel.Proofs.Lts
import TarsModel.Proofs.ListAux

/-! The client-connection LTS of C11 rule by rule (`Step`), and the part of every invariant that does
not depend on what the invariant says — requests on their way to a sender only move from one place to
the next (`OnWay`). -/
namespace Tars.ClientConn

theorem findCall_mem {s : State} {id : Nat} {m : Msg} {pc : CallPc} (h : findCall s id = some (m, pc)) :
    (m, pc) ∈ s.calls := List.mem_of_find?_eq_some h

theorem mem_setCall {s : State} {m x : Msg} {pc pc' : CallPc} (h : (x, pc') ∈ (setCall s m pc).calls) :
    (x = m ∧ pc' = pc) ∨ (x, pc') ∈ s.calls := by
  simp only [setCall, List.mem_map] at h
  obtain ⟨y, hy, he⟩ := h
  split at he
  · left; cases he; exact ⟨rfl, rfl⟩
  · right; exact he ▸ hy

theorem mem_dropCall {s : State} {id : Nat} {x : Msg} {pc' : CallPc} (h : (x, pc') ∈ (dropCall s id).calls) :
    (x, pc') ∈ s.calls := (List.mem_filter.mp h).1

@[simp] theorem setCall_isClosed (s : State) (m pc) : (setCall s m pc).isClosed = s.isClosed := rfl
@[simp] theorem setCall_conns (s : State) (m pc) : (setCall s m pc).conns = s.conns := rfl
@[simp] theorem setCall_sendQ (s : State) (m pc) : (setCall s m pc).sendQ = s.sendQ := rfl
@[simp] theorem setCall_failQ (s : State) (m pc) : (setCall s m pc).failQ = s.failQ := rfl
@[simp] theorem setCall_attempts (s : State) (m pc) : (setCall s m pc).attempts = s.attempts := rfl
@[simp] theorem dropCall_isClosed (s : State) (id) : (dropCall s id).isClosed = s.isClosed := rfl
@[simp] theorem dropCall_conns (s : State) (id) : (dropCall s id).conns = s.conns := rfl
@[simp] theorem dropCall_sendQ (s : State) (id) : (dropCall s id).sendQ = s.sendQ := rfl
@[simp] theorem dropCall_failQ (s : State) (id) : (dropCall s id).failQ = s.failQ := rfl
@[simp] theorem dropCall_attempts (s : State) (id) : (dropCall s id).attempts = s.attempts := rfl

theorem knownAt_iff {s : State} {j : Nat} :
    knownAt s j = true ↔ ∃ c, s.conns[j]? = some c ∧ c.known = true := by
  unfold knownAt
  split <;> simp [*]

theorem knownAt_lt {s : State} {j : Nat} (h : knownAt s j = true) : j < s.conns.length :=
  let ⟨_, hc, _⟩ := knownAt_iff.mp h
  lt_of_getElem? hc

theorem isCur_iff {s : State} {k : Nat} : isCur s k = true ↔ k + 1 = s.conns.length := by
  simp [isCur]

theorem old_of_not_isCur {s : State} {k : Nat} {c : Conn} (hc : s.conns[k]? = some c)
    (h : ¬isCur s k = true) : k + 1 < s.conns.length := by
  have := lt_of_getElem? hc
  rw [isCur_iff] at h
  omega

theorem closeConn_isClosed (v : Variant) (s : State) (k : Nat) (c : Conn) :
    (closeConn v s k c).isClosed = (v == .asFound || (isCur s k || s.isClosed)) := by
  cases v <;> cases h : isCur s k <;> simp [closeConn, h]

theorem closeConn_conns (v : Variant) (s : State) (k : Nat) (c : Conn) :
    (closeConn v s k c).conns = s.conns.set k { c with known := true } := rfl

def KnownLe (s s' : State) : Prop := ∀ j, knownAt s j = true → knownAt s' j = true

theorem knownLe_same {s s' : State} (h : s'.conns = s.conns) : KnownLe s s' := by
  intro j; simp only [knownAt, h]; exact id

theorem knownLe_set {s s' : State} {k : Nat} {c c' : Conn} (hc : s.conns[k]? = some c)
    (h : s'.conns = s.conns.set k c') (hk : c.known = true → c'.known = true) : KnownLe s s' := by
  intro j hj
  obtain ⟨d, hd, hdk⟩ := knownAt_iff.mp hj
  rw [knownAt_iff, h, List.getElem?_set]
  split
  · subst j
    rw [hc] at hd; cases hd
    exact ⟨c', by simp [lt_of_getElem? hc], hk hdk⟩
  · exact ⟨d, hd, hdk⟩

theorem knownLe_append {s s' : State} {x : Conn} (h : s'.conns = s.conns ++ [x]) : KnownLe s s' := by
  intro j hj
  obtain ⟨d, hd, hdk⟩ := knownAt_iff.mp hj
  exact knownAt_iff.mpr ⟨d, h ▸ getElem?_append_of_some hd, hdk⟩

def DeadKnown (s : State) (m : Msg) : Prop := ∀ j ∈ m.dead, knownAt s j = true

theorem DeadKnown.mono {s s' : State} {m : Msg} (hk : KnownLe s s') (h : DeadKnown s m) : DeadKnown s' m :=
  fun j hj => hk j (h j hj)

theorem deadKnown_new (s : State) (id : Nat) : DeadKnown s ⟨id, knownList s⟩ :=
  fun _ hj => (List.mem_filter.mp hj).2

/-! ### The LTS rule by rule -/

/-- What the goroutines of connection `k` (record `c`) do, action by action; a guard of `step` is there,
whole, if some invariant reads a part of it, and left out otherwise. -/
inductive ConnStep (v : Variant) (s : State) (k : Nat) (c : Conn) : Action → State → Prop
  | pClose : ConnStep v s k c (.pClose k) (setConn s k { c with alive := false })
  | pReset : ConnStep v s k c (.pReset k) (setConn s k { c with alive := false, reset := true })
  | rEof : c.rpc = .reading ∧ c.alive = false ∧ c.reset = false ∧ c.known = false →
      ConnStep v s k c (.rEof k) (setConn s k { c with rpc := .atClosing })
  | rErr : c.rpc = .reading ∧ (c.reset = true ∨ c.known = true) →
      ConnStep v s k c (.rErr k) (setConn s k { c with rpc := .atClosing })
  | rClose : c.rpc = .closing → ConnStep v s k c (.rClose k) (closeConn v s k { c with rpc := .signalling })
  | rSignal : c.rpc = .signalling →
      ConnStep v s k c (.rSignal k) (setConn s k { c with rpc := .done, connDone := true })
  | markTop : ConnStep v s k c (.mark .top k) (setConn s k { c with spc := .top })
  | markInner : ConnStep v s k c (.mark .inner k) (setConn s k { c with spc := .inner })
  | markGot : c.spc = .atGot m → ConnStep v s k c (.mark .got k) (setConn s k { c with spc := .ready m })
  | markClosing : c.rpc = .atClosing →
      ConnStep v s k c (.mark .closing k) (setConn s k { c with rpc := .closing })
  | sTopDone : c.spc = .top ∧ c.connDone = true →
      ConnStep v s k c (.sTopDone k) (setConn s k { c with spc := .exited, connDone := false })
  | sTopGo : ConnStep v s k c (.sTopGo k) (setConn s k { c with spc := .pickFail })
  | sTakeFail : s.failQ = some m →
      ConnStep v s k c (.sTakeFail k) { setConn s k { c with spc := afterDequeue v m } with failQ := none }
  | sNoFail : ConnStep v s k c (.sNoFail k) (setConn s k { c with spc := .atInner })
  | sTakeQ : s.sendQ = m :: q →
      ConnStep v s k c (.sTakeQ k) { setConn s k { c with spc := afterDequeue v m } with sendQ := q }
  | sTickClosed : c.spc = .inner ∧ s.isClosed = true →
      ConnStep v s k c (.sTickClosed k) (setConn s k { c with spc := .exited })
  | sTickIdle : c.spc = .inner ∧ s.isClosed = false ∧ s.idleOK = true →
      ConnStep v s k c (.sTickIdle k) (setConn s k { c with spc := .idleClosing })
  | sTickCont : ConnStep v s k c (.sTickCont k) (setConn s k { c with spc := .atTop })
  | sIdleClose : c.spc = .idleClosing →
      ConnStep v s k c (.sIdleClose k) (closeConn v s k { c with spc := .exited })
  | sInnerFail : s.failQ = some m →
      ConnStep v s k c (.sInnerFail k) { setConn s k { c with spc := afterDequeue v m } with failQ := none }
  | sInnerDone : c.spc = .inner ∧ c.connDone = true →
      ConnStep v s k c (.sInnerDone k) (setConn s k { c with spc := .exited, connDone := false })
  | sCheckOk : c.spc = .got m → s.isClosed = false ∧ isCur s k = true →
      ConnStep v s k c (.sCheckOk k) (setConn s k { c with spc := .atGot m })
  | sCheckLost : c.spc = .got m → ¬(s.isClosed = false ∧ isCur s k = true) →
      ConnStep v s k c (.sCheckLost k) (setConn s k { c with spc := .handback m })
  | sHandback : c.spc = .handback m →
      ConnStep v s k c (.sHandback k) { setConn s k { c with spc := .exited } with failQ := some m }
  | sWriteOk : c.spc = .ready m →
      ConnStep v s k c (.sWriteOk k) { setConn s k { c with spc := .atTop } with
        attempts := s.attempts ++ [(m, k)], arrived := s.arrived ++ [(m.id, k)] }
  | sWriteLost : c.spc = .ready m →
      ConnStep v s k c (.sWriteLost k) { setConn s k { c with spc := .atTop } with
        attempts := s.attempts ++ [(m, k)], lost := s.lost ++ [(m.id, k)] }
  | sWriteFail : c.spc = .ready m → c.alive = false ∨ c.known = true →
      ConnStep v s k c (.sWriteFail k) { setConn s k { c with spc := .failed m } with
        attempts := s.attempts ++ [(m, k)] }
  | sRequeue : c.spc = .failed m →
      ConnStep v s k c (.sRequeue k) { setConn s k { c with spc := .failClosing } with failQ := some m }
  | sFailClose : c.spc = .failClosing →
      ConnStep v s k c (.sFailClose k) (closeConn v s k { c with spc := .exited })

/-- `step` as a relation, with the part of each guard the invariants rest on, for a client whose
`ReConnect` dials under the lock (`unlockedDial = false`, part of every invariant): the two halves of
an unlocked `ReConnect` are then not enabled. -/
inductive Step (v : Variant) (s : State) : Action → State → Prop
  | callBegin : Step v s (.callBegin n)
      { s with calls := s.calls ++ [(⟨n, knownList s⟩, .begun)], issued := s.issued ++ [n] }
  | dial : findCall s n = some (m, .begun) → s.isClosed = true →
      Step v s (.callReconnect n) { setCall s m .atConnected with conns := s.conns ++ [{}], isClosed := false }
  | noDial : findCall s n = some (m, .begun) → ¬s.isClosed = true →
      Step v s (.callReconnect n) (setCall s m .atConnected)
  | markReconnected : findCall s n = some (m, .atConnected) →
      Step v s (.markReconnected n) (setCall s m .connected)
  | callEnq : findCall s n = some (m, .connected) →
      Step v s (.callEnq n) { setCall s m .queued with sendQ := s.sendQ ++ [m] }
  | callFail : Step v s (.callFail n) (dropCall s n)
  | callRet : Step v s (.callRet n) (dropCall s n)
  | obsAccept : Step v s (.obsAccept k) { s with accepted := s.accepted + 1 }
  | obsRecv : Step v s (.obsRecv k n) { s with seen := s.seen ++ [(n, k)] }
  | conn : s.conns[k]? = some c → ConnStep v s k c a s' → Step v s a s'

theorem Step.of_step {v cap s a s'} (hl : s.unlockedDial = false) (h : step v cap s a = some s') :
    Step v s a s' := by
  cases a <;> simp only [step] at h <;> (repeat' split at h) <;> cases h
  all_goals first
    | (refine .conn ‹_› ?_; constructor <;> first | assumption | rfl)
    | (constructor <;> first | assumption | rfl)
    | (have hu := ‹s.unlockedDial = true›; rw [hl] at hu; cases hu)

theorem ConnStep.set {v s k c a s'} (h : ConnStep v s k c a s') :
    ∃ c', s'.conns = s.conns.set k c' ∧ (c.known = true → c'.known = true) := by
  cases h with
  | rClose | sIdleClose | sFailClose => exact ⟨_, rfl, fun _ => rfl⟩
  | _ => exact ⟨_, rfl, id⟩

theorem ConnStep.attempts {v s k c a s'} {P : Msg → Nat → Prop} (h : ConnStep v s k c a s')
    (hold : ∀ m j, (m, j) ∈ s.attempts → P m j) (hnew : ∀ m, c.spc = .ready m → P m k) :
    ∀ m j, (m, j) ∈ s'.attempts → P m j := by
  cases h with
  | sWriteOk hs | sWriteLost hs | sWriteFail hs =>
    intro m' j h
    rcases List.mem_append.mp h with h | h
    · exact hold m' j h
    · cases List.mem_singleton.mp h; exact hnew _ hs
  | _ => exact hold

theorem Step.grows {v s a s'} (h : Step v s a s') : KnownLe s s' ∧ s.conns.length ≤ s'.conns.length := by
  cases h with
  | callBegin | noDial | markReconnected | callEnq | callFail | callRet | obsAccept | obsRecv =>
    exact ⟨knownLe_same rfl, Nat.le_refl _⟩
  | dial => exact ⟨knownLe_append rfl, List.length_append ▸ Nat.le_add_right ..⟩
  | conn hc h =>
    obtain ⟨_, e, hk⟩ := h.set
    exact ⟨knownLe_set hc e hk, e ▸ Nat.le_of_eq List.length_set.symm⟩

/-! ### Requests on their way to a sender -/

def SPc.hand : SPc → Option Msg
  | .atGot m | .got m | .ready m | .failed m | .handback m => some m
  | _ => none

theorem afterDequeue_hand (v : Variant) (m : Msg) : (afterDequeue v m).hand = some m := by
  cases v <;> rfl

/-- every request that waits for a sender or that a sender holds satisfies `D` -/
structure OnWay (D : Msg → Prop) (s : State) : Prop where
  queued : ∀ m ∈ s.sendQ, D m
  parked : ∀ m, s.failQ = some m → D m
  hand : ∀ (k : Nat) (c : Conn), s.conns[k]? = some c → ∀ m, c.spc.hand = some m → D m

theorem OnWay.at {D : Msg → Prop} {s : State} {k : Nat} {c : Conn} {x : SPc} {m : Msg} (ho : OnWay D s)
    (hc : s.conns[k]? = some c) (hs : c.spc = x) (hx : x.hand = some m := by rfl) : D m :=
  ho.hand k c hc m (hs ▸ hx)

theorem OnWay.mono {D D' : Msg → Prop} {s : State} (h : ∀ m, D m → D' m) (ho : OnWay D s) : OnWay D' s :=
  ⟨fun m hm => h m (ho.queued m hm), fun m hm => h m (ho.parked m hm),
   fun k c hc m hm => h m (ho.hand k c hc m hm)⟩

theorem OnWay.update {D : Msg → Prop} {s s' : State} {k : Nat} {c' : Conn} (ho : OnWay D s)
    (hs : s'.conns = s.conns.set k c') (hh : ∀ m, c'.spc.hand = some m → D m)
    (hq : ∀ m ∈ s'.sendQ, D m) (hp : ∀ m, s'.failQ = some m → D m) : OnWay D s' :=
  ⟨hq, hp, hs ▸ forall_set ho.hand hh⟩

/-- A step only moves requests along `sendQueue` / `sendFailQueue` → sender → `sendFailQueue`; the
one request that enters is the one `Send` enqueues. -/
theorem OnWay.step {D : Msg → Prop} {v s a s'} (ho : OnWay D s) (h : Step v s a s')
    (henq : ∀ n m, findCall s n = some (m, .connected) → D m) : OnWay D s' := by
  cases h with
  | callBegin | noDial | markReconnected | callFail | callRet | obsAccept | obsRecv =>
    exact ⟨ho.queued, ho.parked, ho.hand⟩
  | dial => exact ⟨ho.queued, ho.parked, forall_append ho.hand nofun⟩
  | callEnq hf =>
    exact ⟨List.forall_mem_append.2 ⟨ho.queued, List.forall_mem_singleton.2 (henq _ _ hf)⟩, ho.parked, ho.hand⟩
  | conn hc h =>
    have hold := ho.hand _ _ hc
    cases h with
    | pClose | pReset | rEof | rErr | rClose | rSignal | markClosing =>
      exact ho.update rfl hold ho.queued ho.parked
    | markTop | markInner | sTopDone | sTopGo | sNoFail | sTickClosed | sTickIdle | sTickCont | sIdleClose
    | sInnerDone | sFailClose | sWriteOk | sWriteLost =>
      exact ho.update rfl nofun ho.queued ho.parked
    | markGot hs | sCheckOk hs | sCheckLost hs | sWriteFail hs =>
      exact ho.update rfl (fun _ h => ho.at hc hs h) ho.queued ho.parked
    | sTakeFail hf | sInnerFail hf =>
      refine ho.update rfl (fun _ h => ?_) ho.queued nofun
      rw [afterDequeue_hand] at h; cases h; exact ho.parked _ hf
    | sTakeQ hq =>
      refine ho.update rfl (fun _ h => ?_) (fun x hx => ho.queued x (hq ▸ List.mem_cons_of_mem _ hx)) ho.parked
      rw [afterDequeue_hand] at h; cases h; exact ho.queued _ (hq ▸ List.mem_cons_self)
    | sHandback hs | sRequeue hs =>
      refine ho.update rfl nofun ho.queued (fun _ h => ?_)
      cases h; exact ho.at hc hs

theorem isRun (v : Variant) (cap : Nat) : Lts.IsRun (step v cap) (runFrom v cap) :=
  ⟨fun _ => rfl, fun s a _ => by rw [runFrom]; cases step v cap s a <;> rfl⟩

theorem run_reachable {v cap acts s} (h : run v cap acts = some s) : Reachable v cap s :=
  (isRun v cap).inv (Reachable.step _) .init h

end Tars.ClientConn
