/-
  The routing part of C14: the mod-hash selector's bookkeeping invariant
  (`mapValues` = hosts of `endpoints`, hosts distinct, cache rebuilt after every change), the
  agreement of `endpoints` with the specification list `listAfter`, and what a per-call option does
  to the client context.
-/
import TarsModel.Model.HashRoute
import TarsModel.Proofs.KeyedList

namespace Tars.HashRoute
open Tars.ConHash (Ep Found Op)
open Tars.Keyed

variable {H : Type} [DecidableEq H]

theorem eraseFirstHost_eq (h : H) (l : List (Ep H)) : eraseFirstHost h l = l.eraseP (fun e => e.host == h) :=
  eq_eraseP rfl (fun _ _ => rfl) l

/-! ## The selector's bookkeeping -/

/-- membership and distinctness: what holds inside the `Refresh` loop, before the rebuild -/
structure MInv0 (ew : Bool) (m : ModHash H) : Prop where
  hew : m.enableWeight = ew
  hmap : ∀ h, h ∈ m.mapValues ↔ h ∈ m.endpoints.map (·.host)
  hnd : (m.endpoints.map (·.host)).Nodup

structure MInv (build : List (Ep H) → List Nat) (ew : Bool) (m : ModHash H) : Prop extends MInv0 ew m where
  hcache : m.cache = (if ew then build m.endpoints else [])

omit [DecidableEq H] in
theorem MInv.new (build : List (Ep H) → List Nat) (ew : Bool) (hb : build [] = []) :
    MInv build ew (ModHash.new ew : ModHash H) :=
  ⟨⟨rfl, fun _ => Iff.rfl, List.nodup_nil⟩, by cases ew <;> simp [ModHash.new, hb]⟩

omit [DecidableEq H] in
theorem MInv.reBuild (build : List (Ep H) → List Nat) {ew : Bool} {m : ModHash H} (hi : MInv0 ew m) :
    MInv build ew (ModHash.reBuildLocked build m) :=
  ⟨⟨hi.hew, hi.hmap, hi.hnd⟩, hi.hew ▸ rfl⟩

/-- `addLocked` as the `Refresh` loop uses it (an error leaves the selector as it was) -/
theorem addLocked_spec {ew : Bool} {m : ModHash H} (hi : MInv0 ew m) (ep : Ep H) :
    MInv0 ew (match m.addLocked ep with | some m' => m' | none => m) ∧
    (match m.addLocked ep with | some m' => m' | none => m).endpoints = install (·.host) m.endpoints ep := by
  unfold ModHash.addLocked install
  by_cases hm : ep.host ∈ m.mapValues
  · rw [if_pos hm, if_pos ((hi.hmap _).1 hm)]
    exact ⟨hi, rfl⟩
  · have hm' : ep.host ∉ m.endpoints.map (·.host) := fun x => hm ((hi.hmap _).2 x)
    rw [if_neg hm, if_neg hm']
    refine ⟨⟨hi.hew, fun h => ?_, nodup_append_one hi.hnd hm'⟩, rfl⟩
    show h ∈ m.mapValues ++ [ep.host] ↔ h ∈ (m.endpoints ++ [ep]).map (·.host)
    rw [List.map_append, List.mem_append, List.mem_append, hi.hmap h]; rfl

theorem step_spec (build : List (Ep H) → List Nat) {ew : Bool} {m : ModHash H} (hi : MInv build ew m) (op : Op H) :
    MInv build ew (m.step build op) ∧ (m.step build op).endpoints = listStep m.endpoints op := by
  cases op with
  | refresh eps =>
    obtain ⟨g1, g2⟩ := foldl_sim (I := MInv0 ew) (π := ModHash.endpoints)
      (f := fun m ep => match m.addLocked ep with | some m' => m' | none => m)
      (g := install (·.host)) eps
      addLocked_spec (s := { m with mapValues := [], endpoints := [] })
      ⟨hi.hew, fun _ => Iff.rfl, List.nodup_nil⟩
    exact ⟨MInv.reBuild build g1, g2⟩
  | add ep =>
    obtain ⟨h1, h2⟩ := addLocked_spec hi.toMInv0 ep
    simp only [ModHash.step, ModHash.add, listStep]
    cases ha : m.addLocked ep with
    | none => rw [ha] at h2; exact ⟨hi, h2⟩
    | some m' => rw [ha] at h1 h2; exact ⟨MInv.reBuild build h1, h2⟩
  | remove ep =>
    simp only [ModHash.step, ModHash.remove, listStep]
    rw [eraseFirstHost_eq]
    by_cases hm : ep.host ∈ m.mapValues
    · rw [if_pos hm]
      have hf := eraseP_eq_filter (k := ep.host) hi.hnd
      refine ⟨MInv.reBuild build ⟨hi.hew, fun h => ?_, hf ▸ nodup_filter hi.hnd⟩, rfl⟩
      show h ∈ m.mapValues.filter (fun h => h ≠ ep.host) ↔ h ∈ (m.endpoints.eraseP _).map (·.host)
      rw [hf, mem_keys_filter_ne, List.mem_filter, hi.hmap h, decide_eq_true_eq]
    · rw [if_neg hm]
      exact ⟨hi, (List.eraseP_of_forall_not fun a ha => by
        simpa using fun e : a.host = ep.host => hm ((hi.hmap _).2 (e ▸ List.mem_map_of_mem ha))).symm⟩

theorem run_spec (build : List (Ep H) → List Nat) (ops : List (Op H)) {ew : Bool} {m : ModHash H}
    (hi : MInv build ew m) :
    MInv build ew (m.run build ops) ∧ (m.run build ops).endpoints = listAfter m.endpoints ops :=
  foldl_sim (I := MInv build ew) ops (step_spec build) hi

/-! ## `Select` -/

omit [DecidableEq H] in
theorem select_of_nil {m : ModHash H} {code : Nat} (h : m.endpoints = []) : m.select code = .err := by
  simp [ModHash.select, h]

omit [DecidableEq H] in
theorem select_of_cache_nil {m : ModHash H} {code : Nat} {l : List (Ep H)} (he : m.endpoints = l) (h : l ≠ [])
    (hc : m.cache = []) : m.select code = slot l (code % l.length) := by
  subst he
  have hlen : m.endpoints.length ≠ 0 := fun h0 => h (List.eq_nil_of_length_eq_zero h0)
  unfold ModHash.select slot
  simp only [hc, hlen, ↓reduceDIte, List.length_nil, ne_eq, not_true_eq_false]
  rw [List.getElem?_eq_getElem (Nat.mod_lt _ (by omega))]

omit [DecidableEq H] in
theorem select_of_cache {m : ModHash H} {code : Nat} {l : List (Ep H)} {c : List Nat} (he : m.endpoints = l)
    (hm : m.cache = c) (h : l ≠ []) (hc : c ≠ []) :
    m.select code = slot l (c[code % c.length]'(Nat.mod_lt _ (List.length_pos_iff.2 hc))) := by
  subst he hm
  have hlen : m.endpoints.length ≠ 0 := fun h0 => h (List.eq_nil_of_length_eq_zero h0)
  have hclen : m.cache.length ≠ 0 := fun h0 => hc (List.eq_nil_of_length_eq_zero h0)
  unfold ModHash.select
  simp only [hlen, ↓reduceDIte, ne_eq, hclen, not_false_eq_true]

/-! ## Per-call options -/

theorem applyCtxOp_some (cc : ClientCurrent) (op : CtxOp) :
    ∃ cc', applyCtxOp (some cc) op = some cc' ∧
      getClientHash (some cc') = (match op with | .hash t c => (true, t, c, true) | _ => getClientHash (some cc)) ∧
      getClientTimeout (some cc') =
        (match op with | .timeout ms => (true, ms, true) | _ => getClientTimeout (some cc)) := by
  cases op <;> exact ⟨_, rfl, rfl, rfl⟩

end Tars.HashRoute
