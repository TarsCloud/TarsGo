import TarsModel.Proofs.ServerConnStep

/-!
Invariants of the shutdown LTS (C12), for any configuration and any interleaving. `GInv` adds to the
invariant of each record (`ConnInv`) the `CloseIdles` pass and the pool release. `ginv_reachable` is
the one passage from `Reachable` to these facts.
-/
namespace Tars.ServerConn

def ConnsInv (cfg : Cfg) (l : List Conn) : Prop := ∀ (c : Nat) (k : Conn), l[c]? = some k → ConnInv cfg k
def AllGone (l : List Conn) : Prop := ∀ (c : Nat) (k : Conn), l[c]? = some k → k.gone

structure GInv (cfg : Cfg) (s : State) : Prop where
  conns : ConnsInv cfg s.conns
  /-- only the as-found `CloseIdles` remembers a connection between its load and its `Close()` -/
  noHold : cfg.ci ≠ .asFound → ∀ p, s.pass = some p → p.holding = none
  /-- the snapshot of a `CloseIdles` call holds table entries: their goroutines are past `t.conns.Store`
  (so one that the call finds deleted has been closed by its goroutine) -/
  lastStarted : ∀ c ∈ s.lastPass, StartedAt s.conns c
  /-- a `CloseIdles` call that still says "all closed" has closed what it has visited -/
  passInv : ∀ p, s.pass = some p → s.spc = .polling ∧
    (p.all = true → ∀ c ∈ s.lastPass, c ∈ p.todo ∨ p.holding = some c ∨ ClosedAt s.conns c)
  /-- `Shutdown` returned through `CloseIdles`: the last call's snapshot is closed -/
  retInv : s.spc = .returned true → ∀ c ∈ s.lastPass, ClosedAt s.conns c
  /-- with the wait before `Release()`: once `Release` is called every connection goroutine is gone -/
  poolInv : cfg.releaseAfterDrain = true → s.pst ≠ .live → s.apc ≠ .accepting ∧ AllGone s.conns

theorem mem_registeredIds {s : State} {c : Cid} :
    c ∈ registeredIds s ↔ ∃ k, s.conns[c]? = some k ∧ k.registered = true := by
  unfold registeredIds
  rw [List.mem_filter, List.mem_range]
  constructor
  · intro ⟨_, h⟩
    split at h
    · exact ⟨_, ‹_›, h⟩
    · cases h
  · intro ⟨k, hk, hr⟩
    exact ⟨lt_of_getElem? hk, by rw [hk]; exact hr⟩

theorem allGone_of_check {s : State} (h : allConnGoroutinesDone s = true) : AllGone s.conns := by
  intro c k hk
  have := List.all_eq_true.mp h k (List.mem_of_getElem? hk)
  simpa [Conn.gone] using this

/-- What concerns the table alone (each record's invariant, the safety clause, monotonicity, the
goroutines that are gone) is settled for all shapes of step at once; the cases are about the
`CloseIdles` pass, `Shutdown`'s caller and the pool release. -/
theorem ginv_step {cfg : Cfg} {s s' : State} {a : Action} (hI : GInv cfg s) (h : GStep cfg s a s') :
    GInv cfg s' := by
  have hm := h.mono
  have hconns : ConnsInv cfg s'.conns :=
    h.forall_conns connInv_new CStep.inv connInv_cNotify
      (fun c k hg hk => connInv_cCloseByIdles hk (hg.elim .inr fun ⟨p, hp, hh⟩ =>
        .inl (Decidable.byContradiction fun hci => by rw [hI.noHold hci p hp] at hh; cases hh))) hI.conns
  have hlast : ∀ c ∈ s.lastPass, StartedAt s'.conns c := fun c hc => (hI.lastStarted c hc).mono hm
  have hpass : ∀ p, s.pass = some p → p.all = true →
      ∀ c ∈ s.lastPass, c ∈ p.todo ∨ p.holding = some c ∨ ClosedAt s'.conns c :=
    fun p hp ha c hc => ((hI.passInv p hp).2 ha c hc).imp_right (Or.imp_right (ClosedAt.mono hm))
  have hret : s.spc = .returned true → ∀ c ∈ s.lastPass, ClosedAt s'.conns c :=
    fun hr c hc => (hI.retInv hr c hc).mono hm
  have hpool : cfg.releaseAfterDrain = true → s.pst ≠ .live → s.apc ≠ .accepting ∧ AllGone s'.conns := by
    intro hra hne
    obtain ⟨ha, hg⟩ := hI.poolInv hra hne
    exact ⟨ha, h.forall_conns (P := Conn.gone) (.inr rfl)
      (·.gone ha) (·.cNotify) (fun _ _ _ hk => hk) hg⟩
  -- the invariant of the new table under the old control state; each case changes the control fields it touches
  have hbase : GInv cfg { s with conns := s'.conns } :=
    ⟨hconns, hI.noHold, hlast, fun p hp => ⟨(hI.passInv p hp).1, hpass p hp⟩, hret, hpool⟩
  have hnr : ∀ p, s.pass = some p → s.spc ≠ .returned true :=
    fun p hp hr => by rw [(hI.passInv p hp).1] at hr; cases hr
  -- `CloseIdles` looks at `c` while it holds nothing: the other connections of the snapshot stay where the
  -- pass invariant has them; if the pass still says "all closed", `c` is now held or closed
  have hvisit : ∀ {p : Pass} (c : Cid) (all' : Bool) (holding' : Option Cid), s.pass = some p → p.holding = none →
      (cfg.ci ≠ .asFound → holding' = none) →
      (all' = true → p.all = true ∧ (c ∈ s.lastPass → holding' = some c ∨ ClosedAt s'.conns c)) →
      GInv cfg { s with conns := s'.conns,
                        pass := some { p with todo := p.todo.erase c, all := all', holding := holding' } } := by
    intro p c all' holding' hp hh hno hc
    refine { hbase with
      noHold := fun hci p' hp' => by cases hp'; exact hno hci
      retInv := fun hr => absurd hr (hnr p hp)
      passInv := fun p' hp' => ?_ }
    cases hp'
    refine ⟨(hI.passInv p hp).1, fun ha c' hc' => ?_⟩
    obtain ⟨hpa, hcc⟩ := hc ha
    by_cases hne : c' = c
    · subst hne; exact .inr (hcc hc')
    · rcases hpass p hp hpa c' hc' with h | h | h
      · exact .inl ((List.mem_erase_of_ne hne).mpr h)
      · rw [hh] at h; cases h
      · exact .inr (.inr h)
  cases h with
  | connect | conn | pTake | closeMsg => exact { hbase with }
  | shutdownCall hs | setClosed hs | onShutdownRet hs =>
    exact { hbase with passInv := fun p hp => (by rw [(hI.passInv p hp).1] at hs; cases hs), retInv := nofun }
  | ctxExpire _ hp => exact { hbase with passInv := fun p hp' => (by rw [hp] at hp'; cases hp'), retInv := nofun }
  | acceptExit ha => exact { hbase with poolInv := fun hra hne => absurd ha (hpool hra hne).1 }
  | relCall _ hg => exact { hbase with poolInv := fun hra _ => ⟨nofun, allGone_of_check (hg hra)⟩ }
  | pStop hs => exact { hbase with poolInv := fun hra _ => hpool hra (by rw [hs]; nofun) }
  | relRet hs => exact { hbase with poolInv := fun hra _ => ⟨nofun, (hpool hra (by rw [hs]; nofun)).2⟩ }
  | ciNotify hs | ciBegin hs =>
    refine { hbase with
      noHold := fun _ p hp => by cases hp; rfl
      lastStarted := fun c hc => ?_
      passInv := fun p hp => by cases hp; exact ⟨hs, fun _ c hc => .inl hc⟩
      retInv := fun (hr : s.spc = .returned true) => by rw [hs] at hr; cases hr }
    obtain ⟨k, hk, hr⟩ := mem_registeredIds.mp hc
    exact ⟨k, hk, (hconns c k hk).started_of_registered hr⟩
  | ciGone c p k hp hh hk hr =>
    refine hvisit c p.all p.holding hp hh (fun _ => hh) fun ha => ⟨ha, fun hc => .inr ?_⟩
    -- deleted from the map: its goroutine has closed it
    obtain ⟨k2, hk2, hst⟩ := hI.lastStarted c hc
    cases hk.symm.trans hk2
    exact ⟨k, hk, (hI.conns c k hk).closed_of_unregistered hr hst⟩
  | ciBusy c p hp hh => exact hvisit c false p.holding hp hh (fun _ => hh) nofun
  | ciHold c p k hp hh _ _ hci =>
    exact hvisit c p.all (some c) hp hh (fun hne => absurd hci hne) fun ha => ⟨ha, fun _ => .inl rfl⟩
  | ciCloseNow c p k hp hh hk =>
    exact hvisit c p.all p.holding hp hh (fun _ => hh) fun ha =>
      ⟨ha, fun _ => .inr ⟨_, getElem?_set_of_some hk, rfl⟩⟩
  | ciClose c p k hp hh hk =>
    refine { hbase with
      noHold := fun _ p' hp' => by cases hp'; rfl
      retInv := fun hr => absurd hr (hnr p hp)
      passInv := fun p' hp' => ?_ }
    cases hp'
    refine ⟨(hI.passInv p hp).1, fun ha c' hc' => ?_⟩
    rcases hpass p hp ha c' hc' with h | h | h
    · exact .inl h
    · cases hh.symm.trans h
      exact .inr (.inr ⟨_, getElem?_set_of_some hk, rfl⟩)
    · exact .inr (.inr h)
  | ciEnd p _ hp ht hh =>
    refine { hbase with
      noHold := fun _ _ hp' => by cases hp'
      passInv := fun _ hp' => by cases hp'
      retInv := fun (hr : (if p.all then SPc.returned true else SPc.polling) = .returned true) c hc => ?_ }
    have ha : p.all = true := by
      cases hpa : p.all with
      | true => rfl
      | false => rw [hpa] at hr; cases hr
    rcases hpass p hp ha c hc with h | h | h
    · rw [ht] at h; cases h
    · rw [hh] at h; cases h
    · exact h

theorem ginv_reachable {cfg : Cfg} {s : State} (h : Reachable cfg s) : GInv cfg s := by
  induction h with
  | init => constructor <;> simp [init, ConnsInv]
  | step a _ hs ih => exact ginv_step ih (GStep.of_step hs)

/-- Induction along a continuation of a reachable state: reachability travels with `P`, so that every
step has the invariants of its source at hand. -/
theorem runFrom_ginv {cfg : Cfg} {P : State → Prop}
    (hstep : ∀ {s a s'}, GInv cfg s → P s → GStep cfg s a s' → P s') {acts : List Action} {s s' : State}
    (hr : Reachable cfg s) (hp : P s) (h : runFrom cfg s acts = some s') : P s' :=
  ((isRun cfg).inv (P := fun t => Reachable cfg t ∧ P t)
    (fun hP hs => ⟨.step _ hP.1 hs, hstep (ginv_reachable hP.1) hP.2 (GStep.of_step hs)⟩) ⟨hr, hp⟩ h).2

theorem never_early (cfg : Cfg) (he : cfg.decEarly = false) {s : State} (hr : Reachable cfg s)
    (c : Nat) (k : Conn) (hk : s.conns[c]? = some k) (q : Req) (hq : q ∈ k.reqs) (hst : q.st.early = true) :
    False := by
  have := (((ginv_reachable hr).conns c k hk).reqs q hq).possible
  cases h : q.st <;> simp_all [HSt.possible, HSt.early]

def NoHand (k : Conn) : Prop := ∀ q ∈ k.reqs, q.st ≠ .handed
def NoHandF (f : Conn → Option Conn) : Prop := ∀ k k', f k = some k' → NoHand k → NoHand k'

theorem nhf_cEnqueued' : NoHandF cEnqueued' := by
  intro k k' h hn
  unfold cEnqueued' at h
  cases he : cEnqueued k with
  | none => rw [he] at h; cases h
  | some x =>
    rw [he] at h; cases h
    unfold cEnqueued at he; split at he <;> cases he
    exact hn

theorem answered_before_close {cfg : Cfg} (hci : cfg.ci = .kickOnly) (hde : cfg.decEarly = false) {s : State}
    (hr : Reachable cfg s) {c : Nat} {k : Conn} (hk : s.conns[c]? = some k) (hcl : k.srvClosed = true) :
    k.buf = [] ∧ ∀ q ∈ k.reqs, q.st = .done true := by
  have hki := (ginv_reachable hr).conns c k hk
  refine ⟨hki.bufNil (by rw [hki.ownClose hci hcl]; rfl), fun q hq => ?_⟩
  have hq' := hki.reqs q hq
  exact hq'.safe (by rw [hci]; nofun) hde hcl (hq'.allOpen hci)

end Tars.ServerConn
