import TarsModel.Model.SkipIter
import TarsModel.Proofs.WireSkip

/-!
  The recursive skip family of `Model/Wire.lean` with a fuel that is "large" for the input (`Big`):
  same-fuel unfolding equations for the calls that recurse (the equations of
  `Proofs/WireSkip.lean` and its fuel independence), and the recursive meaning `unwind` of the
  explicit stack of the iterative skip (`Model/SkipIter.lean`).
-/
namespace Tars
namespace SkipIter
open Consts

/-- the fuel `K + 1` is large for every reader over this input -/
def Big (K : Nat) (r : Reader) : Prop := 2 * r.data.size + 2 ≤ K

theorem Big.of_le {K : Nat} {r r' : Reader} (h : Big K r) (hle : r.Le r') : Big K r' := by
  unfold Big at *; rw [hle.1]; exact h

theorem Big.shift {K : Nat} {r r1 : Reader} (hK : Big K r) (hle : r.Le r1) :
    (∀ ty, skipField K ty r1 = skipField (K+1) ty r1) ∧
    (∀ n, skipElems K n r1 = skipElems (K+1) n r1) ∧
    skipToStructEnd K r1 = skipToStructEnd (K+1) r1 := by
  have := r1.remaining_le_size
  have := hK.of_le hle
  unfold Big at this
  exact ⟨fun ty => (skipFieldD_ok K ty r1).fuel (K+1) (by omega) (by omega),
    fun n => (skipElemsD_ok K n r1).fuel (K+1) (by omega) (by omega),
    (skipToStructEndD_ok K r1).fuel (K+1) (by omega) (by omega)⟩

/-! ### the equations `Skip.…` of `Proofs/WireSkip.lean` for the calls that recurse, with the same
    (big) fuel on both sides -/

section
variable {K : Nat} {r : Reader} (hK : Big K r)
include hK

theorem Big.skipToStructEnd_field_err {ty tg : Nat} {r1 r2 : Reader} {e : Err} (h : readHead r = (.ok (ty, tg), r1))
    (h2 : skipField (K+1) ty r1 = (.error e, r2)) : skipToStructEnd (K+1) r = (.error e, r2) := by
  rw [← (hK.shift ((readHead_step r).ok h).le).1 ty] at h2
  exact Skip.skipToStructEnd_field_err K h h2

theorem Big.skipToStructEnd_step {ty tg : Nat} {r1 r2 : Reader} (h : readHead r = (.ok (ty, tg), r1))
    (h2 : skipField (K+1) ty r1 = (.ok (), r2)) :
    skipToStructEnd (K+1) r = if ty = tyStructEnd then (.ok (), r2) else skipToStructEnd (K+1) r2 := by
  have hd := ((readHead_step r).ok h).le
  have hd2 := skipField_le (K+1) ty r1; rw [h2] at hd2
  rw [← (hK.shift hd).1 ty] at h2
  rw [Skip.skipToStructEnd_step K h h2, (hK.shift (hd.trans hd2)).2.2]

theorem Big.skipElems_step {n : Int} {ty tg : Nat} {r1 : Reader} (hn : 0 < n)
    (h : readHead r = (.ok (ty, tg), r1)) :
    skipElems (K+1) n r = skipElems (K+1) (n - 1) (skipField (K+1) ty r1).2 := by
  have hd := ((readHead_step r).ok h).le
  have hd2 := skipField_le (K+1) ty r1
  rw [Skip.skipElems_step K hn h, (hK.shift hd).1 ty, (hK.shift (hd.trans hd2)).2.1]

theorem Big.skipField_structBegin : skipField (K+1) tyStructBegin r = skipToStructEnd (K+1) r := by
  rw [Skip.skipField_structBegin, (hK.shift (.refl r)).2.2]

theorem Big.skipField_list {len : Int} {r1 : Reader} (h : readLen r = (.ok len, r1)) :
    skipField (K+1) tyLIST r = skipElems (K+1) len r1 := by
  rw [Skip.skipField_list K h, (hK.shift (readLen_le h)).2.1]

theorem Big.skipField_map {len : Int} {r1 : Reader} (h : readLen r = (.ok len, r1)) :
    skipField (K+1) tyMAP r = skipElems (K+1) (wrapS 32 (len * 2)) r1 := by
  rw [Skip.skipField_map K h, (hK.shift (readLen_le h)).2.1]

end

/-! ### the recursive meaning of the explicit stack -/

def errOf : Except Err Unit → Option Err
  | .ok _ => none
  | .error e => some e

/-- What remains to be done for a stack (head = top) in the recursive reading, given whether the
    field just skipped ended in an error:
    * a `skipPending` frame is an open struct: an error ends it and propagates outwards; otherwise
      the rest of the struct is `SkipToStructEnd`, whose error again propagates outwards;
    * a count frame `n` is the element loop of an enclosing LIST/MAP with `n` elements to go: the
      loop ignores the error of the element just skipped (`_ = b.skipField(tyCur)`) and goes on
      with `skipElems n`; the error of the loop itself (a head that cannot be read) propagates
      outwards. -/
def unwindFrame (K : Nat) (top : Int) (k : Option Err → RM Unit) : Option Err → RM Unit :=
  fun err r =>
    if top = skipPending then
      match err with
      | some e => k (some e) r
      | none =>
        match skipToStructEnd K r with
        | (.error e, r') => k (some e) r'
        | (.ok (), r') => k none r'
    else
      match skipElems K top r with
      | (.error e, r') => k (some e) r'
      | (.ok (), r') => k none r'

/-- the empty stack: the outcome of the whole skip -/
def unwindBase : Option Err → RM Unit
  | none => fun r => (.ok (), r)
  | some e => fun r => (.error e, r)

def unwind (K : Nat) (err : Option Err) (stack : List Int) : RM Unit :=
  stack.foldr (unwindFrame K) unwindBase err

theorem unwind_nil (K : Nat) (err : Option Err) : unwind K err [] = unwindBase err := rfl
theorem unwind_cons (K : Nat) (err : Option Err) (top : Int) (rest : List Int) :
    unwind K err (top :: rest) = unwindFrame K top (fun e => unwind K e rest) err := rfl

/-- continue with the stack after a recursive skip returned `x` -/
def after (K : Nat) (x : Res Unit) (stack : List Int) : Res Unit := unwind K (errOf x.1) stack x.2

theorem after_ok (K : Nat) (r' : Reader) (stack : List Int) :
    after K (.ok (), r') stack = unwind K none stack r' := by simp only [after, errOf]
theorem after_err (K : Nat) (e : Err) (r' : Reader) (stack : List Int) :
    after K (.error e, r') stack = unwind K (some e) stack r' := by simp only [after, errOf]

theorem after_nil (K : Nat) (x : Res Unit) : after K x [] = x := by
  obtain ⟨res, r'⟩ := x
  cases res <;> simp only [after, errOf, unwind_nil, unwindBase]

theorem unwind_pending_err (K : Nat) (e : Err) (rest : List Int) (r : Reader) :
    unwind K (some e) (skipPending :: rest) r = unwind K (some e) rest r := by
  simp only [unwind_cons, unwindFrame, if_true]

theorem unwind_pending (K : Nat) (rest : List Int) (r : Reader) :
    unwind K none (skipPending :: rest) r = after K (skipToStructEnd K r) rest := by
  simp only [unwind_cons, unwindFrame, if_true, after]
  rcases skipToStructEnd K r with ⟨_ | _, r'⟩ <;> simp only [errOf]

theorem unwind_count (K : Nat) (err : Option Err) (top : Int) (rest : List Int) (r : Reader)
    (h : top ≠ skipPending) :
    unwind K err (top :: rest) r = after K (skipElems K top r) rest := by
  cases err <;> simp only [unwind_cons, unwindFrame, if_neg h, after] <;>
    rcases skipElems K top r with ⟨_ | _, r'⟩ <;> simp only [errOf]

/-- an error ends the open structs on top of the stack and is swallowed by the first count frame -/
theorem unwind_some (K : Nat) (e : Err) (stack : List Int) (r : Reader) :
    unwind K (some e) stack r =
      if stack.dropWhile (· = skipPending) = [] then (.error e, r)
      else unwind K none (stack.dropWhile (· = skipPending)) r := by
  induction stack with
  | nil => simp [unwind_nil, unwindBase]
  | cons top rest ih =>
    by_cases h : top = skipPending
    · subst h
      rw [unwind_pending_err, ih]
      simp [List.dropWhile]
    · have hd : (top :: rest).dropWhile (· = skipPending) = top :: rest := by
        simp [List.dropWhile, h]
      rw [hd, if_neg (by simp), unwind_count K _ top rest r h, unwind_count K _ top rest r h]

end SkipIter
end Tars
