/-
  The ring of the code as found under its operations.

  * `InvK`   (every history): `sortedKeys` is sorted and has exactly the keys of `hashRing`.
  * `OwnOK`  (histories over a universe without collisions): `hashRing[p] = e` iff `e` is a current
             member and `p` is one of its points (`Claim`).
  * `mapValues` after a history is the specification-level set `setAfter`.

  `Sound` = `InvK ∧ OwnOK` is kept by every call (`Sound.run`); a sound ring tracks `Claim` on its
  current set (`Sound.tracks`), and the lookup theory of `Proofs/ConHash.lean` applies.
-/
import TarsModel.Proofs.ConHash
import TarsModel.Proofs.KeyedList

namespace Tars.ConHash

variable {H : Type} [DecidableEq H]

/-! ## The calls as field updates -/

section
variable (pts : H → Nat → List Nat) (r : Ring H)

/-- the ring after a successful `addLocked` -/
def grown (ep : Ep H) : Ring H :=
  { r with
    hashRing := (ptsOf r.cfg pts ep).foldl (fun m p => mset m p ep) r.hashRing
    sortedKeys := r.sortedKeys ++ (ptsOf r.cfg pts ep).toArray
    mapValues := r.mapValues ++ [ep.host] }

/-- the ring after a successful `Remove`, before `reBuildHashRingLocked` -/
def shrunk (ep : Ep H) : Ring H :=
  { r with
    mapValues := r.mapValues.filter (fun h => h ≠ ep.host)
    hashRing := (ptsOf r.cfg pts ep).foldl mdel r.hashRing }

def cleared : Ring H := { r with mapValues := [], hashRing := [], sortedKeys := #[] }

def resorted : Ring H := { r with sortedKeys := sortKeys r.sortedKeys }

/-- the loop body of `Refresh` -/
def refreshBody (ep : Ep H) : Ring H :=
  match addLocked pts r ep with | some r' => r' | none => r

theorem addLocked_eq (ep : Ep H) :
    addLocked pts r ep = if ep.host ∈ r.mapValues then none else some (grown pts r ep) := rfl

theorem refreshBody_eq (ep : Ep H) :
    refreshBody pts r ep = if ep.host ∈ r.mapValues then r else grown pts r ep := by
  rw [refreshBody, addLocked_eq]; by_cases h : ep.host ∈ r.mapValues <;> simp only [h, ↓reduceIte]

/-- induction over the loop of `Refresh`: only a successful `addLocked` changes the ring -/
theorem refresh_induct {P : Ring H → Prop} {eps : List (Ep H)} {r0 : Ring H} (h0 : P r0)
    (hg : ∀ s e, e ∈ eps → e.host ∉ s.mapValues → P s → P (grown pts s e)) :
    P (eps.foldl (refreshBody pts) r0) :=
  List.foldlRecOn eps _ h0 fun s hs e he => by
    rw [refreshBody_eq]; split
    · exact hs
    · next hn => exact hg s e he hn hs

theorem step_refresh (eps : List (Ep H)) :
    step pts r (.refresh eps) = resorted (eps.foldl (refreshBody pts) (cleared r)) := rfl

theorem step_add (ep : Ep H) :
    step pts r (.add ep) = if ep.host ∈ r.mapValues then r else resorted (grown pts r ep) := by
  rw [step, add, addLocked_eq]; by_cases h : ep.host ∈ r.mapValues <;> simp only [h, ↓reduceIte] <;> rfl

theorem step_remove (ep : Ep H) :
    step pts r (.remove ep) =
      if ep.host ∈ r.mapValues then reBuildHashRingLocked (shrunk pts r ep) else r := by
  rw [step, remove]; split <;> rfl

omit [DecidableEq H] in
theorem mget_grown (ep : Ep H) (p : Nat) :
    mget (grown pts r ep).hashRing p = if p ∈ ptsOf r.cfg pts ep then some ep else mget r.hashRing p :=
  mget_foldl_mset ..

theorem mget_shrunk (ep : Ep H) (p : Nat) :
    mget (shrunk pts r ep).hashRing p = if p ∈ ptsOf r.cfg pts ep then none else mget r.hashRing p :=
  mget_foldl_mdel ..

/-! ## `cfg` never changes -/

theorem cfg_step (op : Op H) : (step pts r op).cfg = r.cfg := by
  cases op with
  | refresh eps =>
    rw [step_refresh]
    exact refresh_induct pts (P := fun x => x.cfg = r.cfg) rfl fun _ _ _ _ hs => hs
  | add ep => rw [step_add]; split <;> rfl
  | remove ep => rw [step_remove]; split <;> rfl

end

theorem cfg_run (pts : H → Nat → List Nat) (ops : List (Op H)) (r : Ring H) : (run pts r ops).cfg = r.cfg :=
  List.foldlRecOn (motive := fun x : Ring H => x.cfg = r.cfg) ops _ rfl fun s hs op _ => (cfg_step pts s op).trans hs

section
variable (pts : H → Nat → List Nat)

/-! ## `mapValues` is the specification-level set -/

theorem mapValues_step (r : Ring H) (op : Op H) : (step pts r op).mapValues = setStep r.mapValues op := by
  cases op with
  | refresh eps =>
    rw [step_refresh]
    refine (List.foldl_hom Ring.mapValues (g₁ := refreshBody pts) (fun s e => ?_)).symm
    rw [refreshBody_eq, apply_ite Ring.mapValues]; rfl
  | add ep => rw [step_add, apply_ite Ring.mapValues]; rfl
  | remove ep =>
    rw [step_remove]; split
    · rfl
    · next hn => exact (List.filter_eq_self.2 fun a ha => by simpa using fun heq : a = ep.host => hn (heq ▸ ha)).symm

theorem mapValues_run (ops : List (Op H)) (r : Ring H) : (run pts r ops).mapValues = setAfter r.mapValues ops :=
  (List.foldl_hom Ring.mapValues (fun s op => (mapValues_step pts s op).symm)).symm

/-! ## Membership in the specification-level set -/

theorem setStep_add (s : List H) (ep : Ep H) : setStep s (.add ep) = Keyed.install id s ep.host := by
  simp [setStep, Keyed.install]

theorem setStep_refresh (s : List H) (eps : List (Ep H)) :
    setStep s (.refresh eps) = (eps.map (·.host)).foldl (Keyed.install id) [] := by
  simp [setStep, Keyed.install, List.foldl_map]

theorem mem_setAfter_refresh (eps : List (Ep H)) (h : H) :
    h ∈ setAfter [] [.refresh eps] ↔ h ∈ eps.map (·.host) := by
  show h ∈ setStep [] (.refresh eps) ↔ _
  rw [setStep_refresh]
  simpa using Keyed.mem_keys_foldl_install (key := id) (s := []) (l := eps.map (·.host)) (k := h)

omit [DecidableEq H] in
theorem overU_refresh {U eps : List (Ep H)} (h : ∀ e, e ∈ eps → e ∈ U) : OverU U [.refresh eps] :=
  fun _ hop => List.mem_singleton.1 hop ▸ h

theorem mem_setStep_add (s : List H) (ep : Ep H) (h : H) : h ∈ setStep s (.add ep) ↔ h ∈ s ∨ h = ep.host := by
  rw [setStep_add]
  simpa using Keyed.mem_keys_install (key := id) (s := s) (a := ep.host) (k := h)

theorem mem_setStep_remove (s : List H) (ep : Ep H) (h : H) : h ∈ setStep s (.remove ep) ↔ h ∈ s ∧ h ≠ ep.host := by
  rw [setStep, List.mem_filter, decide_eq_true_eq]

/-! ## `InvK`: every history -/

variable {r : Ring H}

omit [DecidableEq H] in
theorem KeysOK_grown (ep : Ep H) (hk : KeysOK r) : KeysOK (grown pts r ep) := by
  intro p
  show p ∈ r.sortedKeys ++ _ ↔ _
  rw [mget_grown, Array.mem_append, hk p, List.mem_toArray]
  split <;> simp [*]

theorem InvK.refresh (r : Ring H) (eps : List (Ep H)) : InvK (refresh pts r eps) :=
  InvK.sort (refresh_induct pts (P := KeysOK) (r0 := cleared r) (fun p => by simp [cleared, mget])
    fun _ e _ _ hs => KeysOK_grown pts e hs)

theorem InvK.step (hi : InvK r) (op : Op H) : InvK (step pts r op) := by
  cases op with
  | refresh eps => exact InvK.refresh pts r eps
  | add ep =>
    rw [step_add]; split
    · exact hi
    · exact InvK.sort (KeysOK_grown pts ep hi.2)
  | remove ep =>
    rw [step_remove]; split
    · exact ⟨sortedArr_sortKeys _, fun p => (mem_sortKeys _ p).trans (List.mem_toArray.trans (mem_mkeys _ p))⟩
    · exact hi

theorem InvK_run_new (ew : Bool) (ops : List (Op H)) : InvK (run pts (Ring.new ew) ops) :=
  List.foldlRecOn (motive := InvK) ops _ (InvK.new ew) fun _ hs op _ => InvK.step pts hs op

end

/-! ## `OwnOK`: universes without collisions -/

def Claim (cfg : Cfg) (pts : H → Nat → List Nat) (U : List (Ep H)) (S : List H) (e : Ep H) (p : Nat) : Prop :=
  e ∈ U ∧ e.host ∈ S ∧ p ∈ ptsOf cfg pts e

structure OwnOK (cfg : Cfg) (pts : H → Nat → List Nat) (U : List (Ep H)) (r : Ring H) : Prop where
  hcfg : r.cfg = cfg
  sound : ∀ p e, mget r.hashRing p = some e → Claim cfg pts U r.mapValues e p
  complete : ∀ p, IsPoint cfg pts U r.mapValues p → (mget r.hashRing p).isSome = true

structure Sound (cfg : Cfg) (pts : H → Nat → List Nat) (U : List (Ep H)) (r : Ring H) : Prop where
  keys : InvK r
  own : OwnOK cfg pts U r

omit [DecidableEq H] in
theorem Sound.new (ew : Bool) (pts : H → Nat → List Nat) (U : List (Ep H)) :
    Sound (Ring.new ew : Ring H).cfg pts U (Ring.new ew) :=
  ⟨InvK.new ew, rfl, fun p e => by simp [Ring.new, mget], fun p ⟨_, _, h, _⟩ => nomatch h⟩

section
variable {cfg : Cfg} {pts : H → Nat → List Nat} {U : List (Ep H)} {r : Ring H}

omit [DecidableEq H] in
theorem OwnOK_sortedKeys (ho : OwnOK cfg pts U r) (a : Array Nat) : OwnOK cfg pts U { r with sortedKeys := a } :=
  ⟨ho.hcfg, ho.sound, ho.complete⟩

variable (hU : HostsInj U)
include hU

omit [DecidableEq H] in
/-- `NoCollision` is what makes a point's claimant unique (without it: `C14_collision_history_dependent`) -/
theorem Sound.tracks (hnc : NoCollision cfg pts U) (h : Sound cfg pts U r) :
    Tracks r (IsPoint cfg pts U r.mapValues) (Claim cfg pts U r.mapValues) :=
  ⟨h.keys, h.own.sound _ _, h.own.complete _, fun he => ⟨_, he⟩, fun ⟨a, _, c⟩ ⟨a', _, c'⟩ =>
    hU _ a _ a' (Classical.byContradiction fun hne => hnc _ a _ a' hne _ c c')⟩

omit [DecidableEq H] in
theorem OwnOK_grown {ep : Ep H} (hep : ep ∈ U) (ho : OwnOK cfg pts U r) : OwnOK cfg pts U (grown pts r ep) := by
  obtain ⟨hcfg, hs, hc⟩ := ho
  refine ⟨hcfg, fun p e h => ?_, fun p ⟨e, heU, hm, hpe⟩ => ?_⟩
  · rw [mget_grown, hcfg] at h
    split at h
    · next hp => cases h; exact ⟨hep, List.mem_append_right _ (List.mem_singleton.2 rfl), hp⟩
    · exact (hs p e h).imp_right (And.imp_left (List.mem_append_left _))
  · rw [mget_grown, hcfg]
    split
    · rfl
    · next hp =>
      -- the other member of `U` with `ep`'s host is `ep` itself
      exact hc p ⟨e, heU, (List.mem_append.1 hm).resolve_right fun hh =>
        hp (hU e heU ep hep (List.mem_singleton.1 hh) ▸ hpe), hpe⟩

/-- `NoCollision` is what keeps `Remove(ep)` from deleting a point another member claims (without it:
    `C14_collision_remove_loses_point`) -/
theorem OwnOK_shrunk (hnc : NoCollision cfg pts U) {ep : Ep H} (hep : ep ∈ U) (ho : OwnOK cfg pts U r) :
    OwnOK cfg pts U (shrunk pts r ep) := by
  obtain ⟨hcfg, hs, hc⟩ := ho
  refine ⟨hcfg, fun p e h => ?_, fun p ⟨e, heU, hm, hpe⟩ => ?_⟩
  · rw [mget_shrunk, hcfg] at h
    split at h
    · cases h
    · next hp =>
      obtain ⟨a, b, c⟩ := hs p e h
      exact ⟨a, List.mem_filter.2 ⟨b, decide_eq_true fun hh => hp (hU e a ep hep hh ▸ c)⟩, c⟩
  · obtain ⟨hm, hne⟩ := List.mem_filter.1 hm
    rw [mget_shrunk, hcfg, if_neg (hnc e heU ep hep (of_decide_eq_true hne) p hpe)]
    exact hc p ⟨e, heU, hm, hpe⟩

variable (hnc : NoCollision cfg pts U)
include hnc

theorem OwnOK_step (op : Op H) (hop : ∀ e, e ∈ op.eps → e ∈ U) (ho : OwnOK cfg pts U r) :
    OwnOK cfg pts U (step pts r op) := by
  cases op with
  | refresh eps =>
    rw [step_refresh]
    exact OwnOK_sortedKeys (refresh_induct pts (P := OwnOK cfg pts U) (r0 := cleared r)
      ⟨ho.hcfg, fun p e => by simp [cleared, mget], fun p ⟨_, _, h, _⟩ => nomatch h⟩
      fun _ e he _ hs => OwnOK_grown hU (hop e he) hs) _
  | add ep =>
    rw [step_add]
    by_cases h : ep.host ∈ r.mapValues
    · rwa [if_pos h]
    · rw [if_neg h]; exact OwnOK_sortedKeys (OwnOK_grown hU (hop ep List.mem_cons_self) ho) _
  | remove ep =>
    rw [step_remove]
    by_cases h : ep.host ∈ r.mapValues
    · rw [if_pos h]; exact OwnOK_sortedKeys (OwnOK_shrunk hU hnc (hop ep List.mem_cons_self) ho) _
    · rwa [if_neg h]

theorem Sound.step (h : Sound cfg pts U r) (op : Op H) (hop : ∀ e, e ∈ op.eps → e ∈ U) :
    Sound cfg pts U (step pts r op) :=
  ⟨InvK.step pts h.keys op, OwnOK_step hU hnc op hop h.own⟩

theorem Sound.tracks_step (h : Sound cfg pts U r) (op : Op H) (hop : ∀ e, e ∈ op.eps → e ∈ U) :
    Tracks (ConHash.step pts r op) (IsPoint cfg pts U (setStep r.mapValues op))
      (Claim cfg pts U (setStep r.mapValues op)) :=
  mapValues_step pts r op ▸ (h.step hU hnc op hop).tracks hU hnc

theorem Sound.run (h : Sound cfg pts U r) (ops : List (Op H)) (hops : OverU U ops) : Sound cfg pts U (run pts r ops) :=
  List.foldlRecOn (motive := Sound cfg pts U) ops _ h fun _ hs op hop => hs.step hU hnc op (hops op hop)

end

theorem sound_run_new {ew : Bool} {pts : H → Nat → List Nat} {U : List (Ep H)} (hU : HostsInj U)
    (hnc : NoCollision (Ring.new ew : Ring H).cfg pts U) (ops : List (Op H)) (hops : OverU U ops) :
    Sound (Ring.new ew : Ring H).cfg pts U (run pts (Ring.new ew) ops) :=
  (Sound.new ew pts U).run hU hnc ops hops

theorem tracks_run_new {ew : Bool} {pts : H → Nat → List Nat} {U : List (Ep H)} (hU : HostsInj U)
    (hnc : NoCollision (Ring.new ew : Ring H).cfg pts U) (ops : List (Op H)) (hops : OverU U ops) :
    Tracks (run pts (Ring.new ew) ops) (IsPoint (Ring.new ew : Ring H).cfg pts U (setAfter [] ops))
      (Claim (Ring.new ew : Ring H).cfg pts U (setAfter [] ops)) :=
  mapValues_run pts ops (Ring.new ew) ▸ (sound_run_new hU hnc ops hops).tracks hU hnc

/-! ## Collisions -/

/-- after `Refresh(eps ++ [e])` every point of the last listed endpoint belongs to it, also one that an
    earlier endpoint claims too: the later `addLocked` overwrites -/
theorem refresh_last_owner (pts : H → Nat → List Nat) (r : Ring H) (eps : List (Ep H)) (e : Ep H)
    (hn : e.host ∉ eps.map (·.host)) {p : Nat} (hp : p ∈ ptsOf r.cfg pts e) :
    mget (refresh pts r (eps ++ [e])).hashRing p = some e := by
  have hm : e.host ∉ (eps.foldl (refreshBody pts) (cleared r)).mapValues := by
    show e.host ∉ (step pts r (.refresh eps)).mapValues
    rw [mapValues_step]; exact mt (mem_setAfter_refresh eps e.host).1 hn
  show mget ((eps ++ [e]).foldl (refreshBody pts) (cleared r)).hashRing p = some e
  rw [List.foldl_append, List.foldl_cons, List.foldl_nil, refreshBody_eq, if_neg hm, mget_grown]
  exact if_pos ((cfg_step pts r (.refresh eps)).symm ▸ hp)

end Tars.ConHash
