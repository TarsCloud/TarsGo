/-
  Lemmas about Model/ServerInvoke.lean (property C10): the equations of `invoke`, `rsp2Byte`,
  `invokeTimeout`, `branches` on each form of input, and what an admissible outcome is: the `reply`
  with one response packet — `Invoke`'s when that branch of the race is the only one
  (`serveOne_invoke`), `Invoke`'s or `InvokeTimeout`'s with the D10 repair (`serveOne_reply`).

  Defined here, next to their lemmas: `Echoes` and `Wire.isTup`, which the statements of
  Props/C10.lean use, and `timeoutRsp`, the packet `InvokeTimeout` answers with.
-/
import TarsModel.Model.ServerInvoke

namespace Tars.ServerInvoke

/-! ### constants -/

theorem normal_ne_oneway : TARSNORMAL ≠ TARSONEWAY := by decide
theorem ne_oneway_of_normal {t : Int} (h : t = TARSNORMAL) : t ≠ TARSONEWAY := h ▸ normal_ne_oneway
theorem zero_ne_oneway : (0 : Int) ≠ TARSONEWAY := by decide
theorem queueTimeout_ne_zero : QUEUETIMEOUT ≠ 0 := by decide
theorem invokeTimeoutRet_ne_zero : invokeTimeoutRet ≠ 0 := by decide
theorem success_eq_zero : SUCCESS = 0 := by decide
theorem noHandleTimeout_eq : Consts.srvNoHandleTimeout = 0 := by decide

/-! ### maps -/

theorem lookup_setKey_same (k v : String) (m : SMap) : lookup k (setKey k v m) = some v := by
  simp [setKey, lookup]

theorem lookup_filter_ne (k k' : String) (h : k' ≠ k) (m : SMap) :
    lookup k (m.filter (fun e => !decide (e.1 = k'))) = lookup k m := by
  induction m with
  | nil => rfl
  | cons e m ih =>
    by_cases he : e.1 = k'
    · simp [lookup, he, h, ih]
    · simp [lookup, he, ih]

theorem lookup_setKey_other (k k' v : String) (h : k' ≠ k) (m : SMap) :
    lookup k (setKey k' v m) = lookup k m := by
  rw [setKey, lookup, if_neg h, lookup_filter_ne k k' h]

theorem statusKeys_ne : statusResultDesc ≠ statusResultCode := by
  simp [statusResultDesc, statusResultCode]

/-! ### Invoke -/

@[simp] theorem invoke_ctxType (req : RequestPacket) (sub : Int) (d : Disp) :
    (invoke req sub d).ctxType = req.cPacketType := rfl

@[simp] theorem invoke_rsp_packetType (req : RequestPacket) (sub : Int) (d : Disp) :
    (invoke req sub d).rsp.cPacketType = req.cPacketType := rfl

theorem invoke_expired (req : RequestPacket) (sub : Int) (d : Disp) (h : queueExpired req sub = true) :
    invoke req sub d =
      ⟨{ preset req with iRet := QUEUETIMEOUT, sResultDesc := timeoutDesc, cPacketType := req.cPacketType },
       false, req.cPacketType, 0⟩ := by
  simp [invoke, h]

theorem invoke_ping (req : RequestPacket) (sub : Int) (d : Disp) (h : queueExpired req sub = false)
    (hp : req.sFuncName = pingName) :
    invoke req sub d = ⟨{ preset req with cPacketType := req.cPacketType }, false, req.cPacketType, 0⟩ := by
  simp [invoke, h, hp]

theorem invoke_ok (req : RequestPacket) (sub : Int) (d : Disp) (h : queueExpired req sub = false)
    (hp : req.sFuncName ≠ pingName) (he : (d.run req (preset req)).err = none) :
    invoke req sub d =
      ⟨{ (d.run req (preset req)).rsp with cPacketType := req.cPacketType }, true, req.cPacketType, d.dur⟩ := by
  simp [invoke, h, hp, he]

theorem invoke_err (req : RequestPacket) (sub : Int) (d : Disp) (h : queueExpired req sub = false)
    (hp : req.sFuncName ≠ pingName) (e : Err) (he : (d.run req (preset req)).err = some e) :
    invoke req sub d =
      ⟨{ (d.run req (preset req)).rsp with iRet := e.ret, sResultDesc := e.msg, cPacketType := req.cPacketType },
       true, req.cPacketType, d.dur⟩ := by
  simp [invoke, h, hp, he]

theorem invoke_invoked (req : RequestPacket) (sub : Int) (d : Disp) :
    (invoke req sub d).invoked = true ↔ queueExpired req sub = false ∧ req.sFuncName ≠ pingName := by
  unfold invoke
  by_cases h : queueExpired req sub = true
  · simp [h]
  · have h' : queueExpired req sub = false := by simpa using h
    by_cases hp : req.sFuncName = pingName
    · simp [h', hp]
    · cases he : (d.run req (preset req)).err <;> simp [h', hp, he]

theorem invoke_dur (req : RequestPacket) (sub : Int) (d : Disp) :
    (invoke req sub d).dur = if (invoke req sub d).invoked then d.dur else 0 := rfl

/-- the dispatcher leaves version and request id as `Invoke` preset them (generated code assigns
    them from `tarsReq`, or returns an error without touching `*tarsResp`) -/
def Echoes (d : Disp) (req : RequestPacket) : Prop :=
  (d.run req (preset req)).rsp.iVersion = req.iVersion ∧
  (d.run req (preset req)).rsp.iRequestId = req.iRequestId

theorem invoke_rsp_identity (req : RequestPacket) (sub : Int) (d : Disp) (h : Echoes d req) :
    (invoke req sub d).rsp.iRequestId = req.iRequestId ∧ (invoke req sub d).rsp.iVersion = req.iVersion ∧
      (invoke req sub d).rsp.cPacketType = req.cPacketType := by
  unfold invoke
  by_cases hq : queueExpired req sub = true
  · simp [hq, preset]
  · have h' : queueExpired req sub = false := by simpa using hq
    by_cases hp : req.sFuncName = pingName
    · simp [h', hp, preset]
    · cases he : (d.run req (preset req)).err <;> simp [h', hp, he, h.1, h.2]

/-! ### rsp2Byte -/

theorem rsp2Byte_id (v : Variant) (r : ResponsePacket) : (rsp2Byte v r).id = r.iRequestId := by
  unfold rsp2Byte; split <;> simp [Wire.id, req2Byte]

theorem rsp2Byte_version (v : Variant) (r : ResponsePacket) : (rsp2Byte v r).version = r.iVersion := by
  unfold rsp2Byte; split <;> simp [Wire.version, req2Byte]

theorem rsp2Byte_packetType (v : Variant) (r : ResponsePacket) : (rsp2Byte v r).packetType = r.cPacketType := by
  unfold rsp2Byte; split <;> simp [Wire.packetType, req2Byte]

theorem rsp2Byte_buffer (v : Variant) (r : ResponsePacket) : (rsp2Byte v r).buffer = r.sBuffer := by
  unfold rsp2Byte; split <;> simp [Wire.buffer, req2Byte]

/-- the answer is in the TUP encoding -/
def Wire.isTup : Wire → Bool
  | .rsp _ => false
  | .req _ => true

theorem rsp2Byte_isTup (v : Variant) (r : ResponsePacket) :
    (rsp2Byte v r).isTup = true ↔ r.iVersion = TUPVERSION := by
  unfold rsp2Byte; split <;> simp [Wire.isTup, *]

/-- a `ResponsePacket` answer always carries its return code; the TUP encoding does when the status
    rewrite is in place (or the code is 0 and the status map does not claim otherwise) -/
theorem rsp2Byte_carries (v : Variant) (r : ResponsePacket)
    (h : r.iVersion = TUPVERSION → (v.tupStatus = true ∧ r.iRet ≠ 0) ∨ (r.iRet = 0 ∧ lookup statusResultCode r.status = none)) :
    (rsp2Byte v r).Carries r.iRet r.sResultDesc := by
  unfold rsp2Byte
  split
  · rename_i ht
    rcases h ht with ⟨hv, hr⟩ | ⟨hr, hl⟩
    · simp only [Wire.Carries, req2Byte, hv, hr, ne_eq, not_false_eq_true, decide_true, Bool.and_self, if_true, if_false]
      refine ⟨?_, lookup_setKey_same _ _ _⟩
      rw [lookup_setKey_other _ _ _ statusKeys_ne, lookup_setKey_same]
    · simp [Wire.Carries, req2Byte, hr, hl]
  · simp [Wire.Carries]

/-! ### branches -/

theorem branches_noTimeout (cfg : Config) (dur : Nat) (h : cfg.handleTimeout = 0) :
    branches cfg dur = [.invokeWon] := by
  simp [branches, h, noHandleTimeout_eq]

theorem branches_fast (cfg : Config) (dur : Nat) (h : dur < cfg.handleTimeout) :
    branches cfg dur = [.invokeWon] := by
  rw [branches, if_pos h, ite_self]

theorem branches_slow (cfg : Config) (dur : Nat) (h0 : cfg.handleTimeout ≠ 0) (h : dur > cfg.handleTimeout) :
    branches cfg dur = [.timeoutWon false] := by
  unfold branches
  have h1 : ¬ cfg.handleTimeout = Consts.srvNoHandleTimeout := by rw [noHandleTimeout_eq]; exact h0
  have h2 : ¬ dur < cfg.handleTimeout := by omega
  have h3 : ¬ dur = cfg.handleTimeout := by omega
  simp [h1, h2, h3]

theorem branches_zero_dur (cfg : Config) : branches cfg 0 = [.invokeWon] := by
  by_cases h : cfg.handleTimeout = 0
  · exact branches_noTimeout cfg 0 h
  · exact branches_fast cfg 0 (by omega)

theorem serveOne_branch {v : Variant} {cfg : Config} {req : RequestPacket} {sub : Int} {d : Disp}
    {o : Outcome} (ho : o ∈ serveOne v cfg req sub d) :
    ∃ b, o = outcomeOf v req (invoke req sub d) b := by
  obtain ⟨b, _, rfl⟩ := List.mem_map.mp ho
  exact ⟨b, rfl⟩

theorem serveOne_timeoutWon {v : Variant} {cfg : Config} {req : RequestPacket} {sub : Int} {d : Disp}
    {o : Outcome} (hq : queueExpired req sub = false) (hp : req.sFuncName ≠ pingName)
    (h0 : cfg.handleTimeout ≠ 0) (h : d.dur > cfg.handleTimeout)
    (ho : o ∈ serveOne v cfg req sub d) :
    (invoke req sub d).invoked = true ∧ o = outcomeOf v req (invoke req sub d) (.timeoutWon false) := by
  have hinv := (invoke_invoked req sub d).mpr ⟨hq, hp⟩
  have hd : (invoke req sub d).dur = d.dur := by rw [invoke_dur, hinv]; rfl
  exact ⟨hinv, by simpa [serveOne, hd, branches_slow cfg d.dur h0 h] using ho⟩

/-! ### the handler -/

theorem handlerWrite_some (v : Variant) (w : Wire) (t : Int) :
    handlerWrite v (some w) t = if t = TARSONEWAY then [] else [some w] := by
  unfold handlerWrite; split <;> simp

/-- the `ResponsePacket` of the repaired `InvokeTimeout` -/
def timeoutRsp (req : RequestPacket) : ResponsePacket :=
  { ResponsePacket.zero with
    iVersion := req.iVersion, cPacketType := req.cPacketType, iRequestId := req.iRequestId,
    iRet := invokeTimeoutRet, sResultDesc := timeoutDesc }

def reply (v : Variant) (req : RequestPacket) (r : ResponsePacket) : List (Option Wire) :=
  if req.cPacketType = TARSONEWAY then [] else [some (rsp2Byte v r)]

theorem reply_twoWay {v : Variant} {req : RequestPacket} {r : ResponsePacket}
    (h2 : req.cPacketType = TARSNORMAL) : reply v req r = [some (rsp2Byte v r)] :=
  if_neg (ne_oneway_of_normal h2)

theorem reply_oneWay {v : Variant} {req : RequestPacket} {r : ResponsePacket}
    (h1 : req.cPacketType = TARSONEWAY) : reply v req r = [] := if_pos h1

theorem mem_packets_reply {v : Variant} {req : RequestPacket} {r : ResponsePacket} {i : Bool} {w : Wire}
    (h : w ∈ (Outcome.mk (reply v req r) i).packets) : w = rsp2Byte v r := by
  simp only [Outcome.packets, reply] at h
  split at h
  · simp at h
  · simpa using h

theorem outcomeOf_invokeWon (v : Variant) (req : RequestPacket) (sub : Int) (d : Disp) :
    outcomeOf v req (invoke req sub d) .invokeWon
      = ⟨reply v req (invoke req sub d).rsp, (invoke req sub d).invoked⟩ := by
  simp only [outcomeOf, handlerWrite_some, invoke_ctxType, reply]

/-- when the dispatcher is not called (no model time passes), or there is no handle timeout, or the
    dispatcher is faster, `Invoke`'s answer `r` (`invoke_expired`, `invoke_ping`, `invoke_ok`, `invoke_err`
    say what it is) is the only outcome -/
theorem serveOne_invoke {v : Variant} {cfg : Config} {req : RequestPacket} {sub : Int} {d : Disp}
    {o : Outcome} {r : InvokeResult} (hi : invoke req sub d = r)
    (h : r.invoked = false ∨ cfg.handleTimeout = 0 ∨ d.dur < cfg.handleTimeout)
    (ho : o ∈ serveOne v cfg req sub d) : o = ⟨reply v req r.rsp, r.invoked⟩ := by
  subst hi
  have hb : branches cfg (invoke req sub d).dur = [.invokeWon] := by
    rw [invoke_dur]
    rcases h with h | h | h
    · rw [h]; exact branches_zero_dur cfg
    · exact branches_noTimeout cfg _ h
    · split
      · exact branches_fast cfg _ h
      · exact branches_zero_dur cfg
  rw [← outcomeOf_invokeWon]
  simpa [serveOne, hb] using ho

theorem invokeTimeout_repaired {v : Variant} (hv : v.timeoutIdentity = true) (req : RequestPacket) :
    invokeTimeout v req
      = if req.cPacketType = TARSONEWAY then none else some (rsp2Byte v (timeoutRsp req)) := by
  rw [invokeTimeout, if_pos hv, timeoutRsp]

/-- with both parts of the D10 repair the handle-timeout branch answers the same way, with
    `timeoutRsp`: `InvokeTimeout` returns nothing for a one-way request and the handler skips the
    empty write, whether or not `Invoke` has stored the packet type yet -/
theorem outcomeOf_timeoutWon {v : Variant} (hv : v.timeoutIdentity = true ∧ v.skipEmpty = true)
    (req : RequestPacket) (sub : Int) (d : Disp) (c : Bool) :
    outcomeOf v req (invoke req sub d) (.timeoutWon c)
      = ⟨reply v req (timeoutRsp req), (invoke req sub d).invoked⟩ := by
  rw [outcomeOf, invokeTimeout_repaired hv.1, reply]
  by_cases h1 : req.cPacketType = TARSONEWAY
  · simp only [if_pos h1, handlerWrite, hv.2, Option.isNone_none, Bool.and_self, if_true, ite_self]
  · rw [if_neg h1, if_neg h1, handlerWrite_some, invoke_ctxType]
    cases c
    · exact congrArg (Outcome.mk · _) (if_neg zero_ne_oneway)
    · exact congrArg (Outcome.mk · _) (if_neg h1)

theorem outcome_sent_twoWay (v : Variant) (req : RequestPacket) (sub : Int) (d : Disp) (b : Branch)
    (h2 : req.cPacketType = TARSNORMAL) :
    ∃ w, (outcomeOf v req (invoke req sub d) b).sent = [some w] := by
  have hne := ne_oneway_of_normal h2
  cases b with
  | invokeWon => exact ⟨rsp2Byte v (invoke req sub d).rsp, by simp [outcomeOf, handlerWrite_some, hne]⟩
  | timeoutWon c =>
    obtain ⟨w, hw⟩ : ∃ w, invokeTimeout v req = some w := by
      unfold invokeTimeout
      by_cases hv : v.timeoutIdentity = true <;> simp [hv, hne]
    exact ⟨w, by cases c <;> simp [outcomeOf, hw, handlerWrite_some, hne, zero_ne_oneway]⟩

theorem serveOne_reply {v : Variant} (hv : v.timeoutIdentity = true ∧ v.skipEmpty = true)
    {cfg : Config} {req : RequestPacket} {sub : Int} {d : Disp} {o : Outcome}
    (ho : o ∈ serveOne v cfg req sub d) :
    ∃ r : ResponsePacket, o = ⟨reply v req r, (invoke req sub d).invoked⟩ ∧
      (Echoes d req → r.iRequestId = req.iRequestId ∧ r.iVersion = req.iVersion ∧
        r.cPacketType = req.cPacketType) := by
  obtain ⟨b, rfl⟩ := serveOne_branch ho
  cases b with
  | invokeWon => exact ⟨_, outcomeOf_invokeWon v req sub d, invoke_rsp_identity req sub d⟩
  | timeoutWon c => exact ⟨_, outcomeOf_timeoutWon hv req sub d c, fun _ => ⟨rfl, rfl, rfl⟩⟩

theorem written_cons (o : Outcome) (os : List Outcome) : written (o :: os) = o.packets ++ written os := by
  simp [written]

end Tars.ServerInvoke
