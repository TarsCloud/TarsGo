/-
  The recursive meaning `semItems` of a grammar document as operations on an `elem`, what it leaves
  alone, and the invariant "a child is stored under its own name".
-/
import TarsModel.Proofs.ConfLine

namespace Tars.Conf
open Tars

/-- what one line of the grammar does to the current node -/
def semLine (cur : Elem) (l : Line) : Elem :=
  match l.listed, l.entry with
  | some ln, some (k, v) => (cur.addLine ln).addChild k (newLeaf k v)
  | _, _ => cur

mutual
/-- what an item does to the current node: a text applies its lines; a domain applies its body to
    the existing child of that name (or a fresh node) and stores the result under the name -/
def semItem : Item → Elem → Elem
  | .text t, cur => t.lines.foldl semLine cur
  | .dom n body, cur =>
    cur.addChild n (semItems body (match cur.findChild n with | some c => c | none => newElem .node n))
def semItems : List Item → Elem → Elem
  | [], cur => cur
  | i :: is, cur => semItems is (semItem i cur)
end

/-- the node a domain `n` continues, i.e. the `match` in `semItem` (`semItem_dom`) -/
def baseOf (cur : Elem) (n : Txt) : Elem :=
  match cur.findChild n with | some c => c | none => newElem .node n

theorem semItems_nil (cur : Elem) : semItems [] cur = cur := by rw [semItems]

theorem semItems_cons (i : Item) (is : List Item) (cur : Elem) : semItems (i :: is) cur = semItems is (semItem i cur) := by
  rw [semItems]

theorem semItem_text (t : Text) (cur : Elem) : semItem (.text t) cur = t.lines.foldl semLine cur := by
  rw [semItem]

theorem semItem_dom (n : Txt) (body : List Item) (cur : Elem) :
    semItem (.dom n body) cur = cur.addChild n (semItems body (baseOf cur n)) := by
  rw [semItem, baseOf]

theorem semItems_append (a b : List Item) (cur : Elem) : semItems (a ++ b) cur = semItems b (semItems a cur) := by
  induction a generalizing cur with
  | nil => rw [List.nil_append, semItems_nil]
  | cons i a ih => rw [List.cons_append, semItems_cons, semItems_cons, ih]

theorem semLine_cases (cur : Elem) (l : Line) :
    (l.listed = none ∧ l.entry = none ∧ semLine cur l = cur) ∨
    (∃ ln k v, l.listed = some ln ∧ l.entry = some (k, v) ∧ semLine cur l = (cur.addLine ln).addChild k (newLeaf k v)) := by
  cases l with
  | kv pre key mid val post => exact .inr ⟨_, _, _, rfl, rfl, rfl⟩
  | comment pre t => exact .inl ⟨rfl, rfl, rfl⟩
  | blank ws => exact .inl ⟨rfl, rfl, rfl⟩

/-! ## lines of the grammar -/

theorem notin_of_lineBreak {c : Byte} (hc : c = nlCh ∨ c = crCh) {t : Txt} (hn : nlCh ∉ t) (hr : crCh ∉ t) : c ∉ t := by
  rcases hc with rfl | rfl
  · exact hn
  · exact hr

theorem Line.wf_kv {pre key mid : Txt} {val : Option (Txt × Txt)} {post : Txt}
    (h : (Line.kv pre key mid val post).wf = true) :
    (isWs pre = true ∧ isWs mid = true ∧ isWs post = true) ∧
    (key ≠ [] ∧ eqCh ∉ key ∧ noEdge trimSet key = true ∧ key.head? ≠ some hashCh) ∧ (nlCh ∉ key ∧ crCh ∉ key) ∧
    ∀ w v, val = some (w, v) → isWs w = true ∧ noEdge trimSet v = true ∧ nlCh ∉ v ∧ crCh ∉ v := by
  unfold Line.wf at h
  simp only [Bool.and_eq_true] at h
  obtain ⟨⟨⟨⟨⟨⟨⟨⟨⟨hpre, hmid⟩, hpost⟩, hkne⟩, hkeq⟩, hknl⟩, hkcr⟩, hke⟩, hkh⟩, hval⟩ := h
  refine ⟨⟨hpre, hmid, hpost⟩, ⟨?_, not_contains hkeq, hke, ?_⟩, ⟨not_contains hknl, not_contains hkcr⟩, ?_⟩
  · rintro rfl; cases hkne
  · cases key with
    | nil => cases hkne
    | cons c t => exact fun e => bne_iff_ne.mp hkh (Option.some.inj e)
  · rintro w v rfl
    simp only [Bool.and_eq_true] at hval
    exact ⟨hval.1.1.1, hval.2, not_contains hval.1.1.2, not_contains hval.1.2⟩

theorem Line.wf_text_clean (l : Line) (h : l.wf = true) (c : Byte) (hc : c = nlCh ∨ c = crCh) : c ∉ l.text := by
  have hb : inSet blankSet c = false := by rcases hc with rfl | rfl <;> decide
  cases l with
  | kv pre key mid val post =>
    obtain ⟨⟨hpre, hmid, hpost⟩, _, hk, hval⟩ := Line.wf_kv h
    have hk := notin_of_lineBreak hc hk.1 hk.2
    cases val with
    | none =>
      simp only [Line.text, List.mem_append, not_or, List.not_mem_nil, not_false_eq_true, and_true]
      exact ⟨⟨⟨isWs_no hpre hb, hk⟩, isWs_no hmid hb⟩, isWs_no hpost hb⟩
    | some wv =>
      obtain ⟨hw, _, hv⟩ := hval wv.1 wv.2 rfl
      have he : c ≠ eqCh := by rcases hc with rfl | rfl <;> decide
      simp only [Line.text, List.mem_append, List.mem_cons, not_or]
      exact ⟨⟨⟨⟨isWs_no hpre hb, hk⟩, isWs_no hmid hb⟩, he, isWs_no hw hb, notin_of_lineBreak hc hv.1 hv.2⟩,
        isWs_no hpost hb⟩
  | comment pre t =>
    simp only [Line.wf, Bool.and_eq_true] at h
    have hh : c ≠ hashCh := by rcases hc with rfl | rfl <;> decide
    simp only [Line.text, List.mem_append, List.mem_cons, not_or]
    exact ⟨isWs_no h.1.1 hb, hh, notin_of_lineBreak hc (not_contains h.1.2) (not_contains h.2)⟩
  | blank ws => exact isWs_no h hb

theorem procLine_wf (l : Line) (cur : Elem) (h : l.wf = true) : procLine l.text cur = semLine cur l := by
  cases l with
  | kv pre key mid val post =>
    obtain ⟨⟨hpre, hmid, hpost⟩, ⟨hkne, hkeq, hke, hkh⟩, _, hval⟩ := Line.wf_kv h
    cases val with
    | none =>
      have := procLine_kv_noval pre key mid post cur hpre hmid hpost hkne hkeq hke hkh
      simpa only [Line.text, semLine, Line.listed, Line.entry, List.append_nil] using this
    | some wv =>
      obtain ⟨w, v⟩ := wv
      obtain ⟨hw, hve, _⟩ := hval w v rfl
      have := procLine_kv_val pre key mid w v post cur hpre hmid hw hpost hkne hkeq hke hkh hve
      simpa only [Line.text, semLine, Line.listed, Line.entry, List.append_assoc] using this
  | comment pre t =>
    simp only [Line.wf, Bool.and_eq_true] at h
    exact procLine_comment pre t cur h.1.1
  | blank ws => exact procLine_blank ws cur h

theorem foldl_procLine_wf (ls : List Line) (cur : Elem) (h : ∀ l ∈ ls, l.wf = true) :
    (ls.map Line.text).foldl (fun c t => procLine t c) cur = ls.foldl semLine cur := by
  induction ls generalizing cur with
  | nil => rfl
  | cons l ls ih =>
    rw [List.map_cons, List.foldl_cons, List.foldl_cons, procLine_wf l cur (h l List.mem_cons_self),
      ih _ fun x hx => h x (List.mem_cons_of_mem _ hx)]

/-! ## the fields of `elem`: of a new leaf, under `addLine` and `addChild` -/

theorem kind_newLeaf (k v : Txt) : (newLeaf k v).kind = .leaf := rfl
theorem value_newLeaf (k v : Txt) : (newLeaf k v).value = v := rfl
theorem children_newLeaf (k v : Txt) : (newLeaf k v).children = [] := rfl
theorem line_newLeaf (k v : Txt) : (newLeaf k v).line = [] := rfl
theorem name_addLine (e : Elem) (l : Txt) : (e.addLine l).name = e.name := by cases e; rfl
theorem kind_addLine (e : Elem) (l : Txt) : (e.addLine l).kind = e.kind := by cases e; rfl
theorem value_addLine (e : Elem) (l : Txt) : (e.addLine l).value = e.value := by cases e; rfl
theorem children_addLine (e : Elem) (l : Txt) : (e.addLine l).children = e.children := by cases e; rfl
theorem line_addLine (e : Elem) (l : Txt) : (e.addLine l).line = e.line ++ [l] := by cases e; rfl
theorem name_addChild (e : Elem) (n : Txt) (c : Elem) : (e.addChild n c).name = e.name := by cases e; rfl
theorem kind_addChild (e : Elem) (n : Txt) (c : Elem) : (e.addChild n c).kind = e.kind := by cases e; rfl
theorem value_addChild (e : Elem) (n : Txt) (c : Elem) : (e.addChild n c).value = e.value := by cases e; rfl
theorem line_addChild (e : Elem) (n : Txt) (c : Elem) : (e.addChild n c).line = e.line := by cases e; rfl
theorem children_addChild (e : Elem) (n : Txt) (c : Elem) :
    (e.addChild n c).children = assocSet e.children n c := by cases e; rfl

theorem addChild_addChild (e : Elem) (n : Txt) (c c' : Elem) :
    (e.addChild n c).addChild n c' = e.addChild n c' := by
  cases e; simp only [Elem.addChild, assocSet_set]

theorem findChild_addChild_same (e : Elem) (n : Txt) (c : Elem) : (e.addChild n c).findChild n = some c := by
  rw [Elem.findChild, children_addChild]; exact assocFind_set_same _ _ _

theorem findChild_addChild_other (e : Elem) (n n' : Txt) (c : Elem) (h : n ≠ n') :
    (e.addChild n c).findChild n' = e.findChild n' := by
  rw [Elem.findChild, children_addChild]; exact assocFind_set_other _ _ _ _ h

theorem findChild_addLine (e : Elem) (l n : Txt) : (e.addLine l).findChild n = e.findChild n := by
  rw [Elem.findChild, children_addLine]; rfl

/-! ## what `addLine` and `addChild` preserve, the lines and items of a document preserve -/

theorem semLines_pres (P : Elem → Prop) (hl : ∀ e l, P e → P (e.addLine l))
    (hc : ∀ e k v, P e → P (e.addChild k (newLeaf k v))) (ls : List Line) (cur : Elem) (h : P cur) :
    P (ls.foldl semLine cur) := by
  induction ls generalizing cur with
  | nil => exact h
  | cons l ls ih =>
    apply ih
    rcases semLine_cases cur l with ⟨_, _, hs⟩ | ⟨ln, k, v, _, _, hs⟩
    · rwa [hs]
    · rw [hs]; exact hc _ _ _ (hl _ _ h)

theorem semItems_pres (P : Elem → Prop) (hl : ∀ e l, P e → P (e.addLine l))
    (hc : ∀ e n c, P e → P (e.addChild n c)) (d : List Item) (cur : Elem) (h : P cur) : P (semItems d cur) := by
  induction d generalizing cur with
  | nil => rwa [semItems_nil]
  | cons i is ih =>
    rw [semItems_cons]
    apply ih
    cases i with
    | text t => rw [semItem_text]; exact semLines_pres P hl (fun e k v => hc e k _) _ _ h
    | dom n body => rw [semItem_dom]; exact hc _ _ _ h

theorem semItems_name (d : List Item) (cur : Elem) : (semItems d cur).name = cur.name :=
  semItems_pres (·.name = cur.name) (fun e l h => (name_addLine e l).trans h)
    (fun e n c h => (name_addChild e n c).trans h) d cur rfl

theorem semItems_kind (d : List Item) (cur : Elem) : (semItems d cur).kind = cur.kind :=
  semItems_pres (·.kind = cur.kind) (fun e l h => (kind_addLine e l).trans h)
    (fun e n c h => (kind_addChild e n c).trans h) d cur rfl

theorem semItems_value (d : List Item) (cur : Elem) : (semItems d cur).value = cur.value :=
  semItems_pres (·.value = cur.value) (fun e l h => (value_addLine e l).trans h)
    (fun e n c h => (value_addChild e n c).trans h) d cur rfl

/-! ## the invariant "a child is stored under its own name", everywhere in the tree -/

mutual
def Elem.ok : Elem → Bool
  | .mk _ _ _ cs _ => okL cs
def okL : List (Txt × Elem) → Bool
  | [] => true
  | (k, e) :: r => (e.name == k) && e.ok && okL r
end

theorem Elem.ok_eq (e : Elem) : e.ok = okL e.children := by
  cases e; rw [Elem.ok]; rfl

theorem okL_cons (k : Txt) (e : Elem) (r : List (Txt × Elem)) :
    okL ((k, e) :: r) = true ↔ (e.name = k ∧ e.ok = true) ∧ okL r = true := by
  rw [okL, Bool.and_eq_true, Bool.and_eq_true, beq_iff_eq]

theorem Elem.ok_mem {e : Elem} (h : e.ok = true) {k : Txt} {c : Elem} (hm : (k, c) ∈ e.children) :
    c.name = k ∧ c.ok = true := by
  rw [Elem.ok_eq] at h
  generalize e.children = cs at h hm
  induction cs with
  | nil => cases hm
  | cons x cs ih =>
    obtain ⟨k', y⟩ := x
    rw [okL_cons] at h
    rcases List.mem_cons.mp hm with hx | hx
    · cases hx; exact h.1
    · exact ih h.2 hx

theorem okL_set (cs : List (Txt × Elem)) (n : Txt) (e : Elem) (h : okL cs = true)
    (hn : e.name = n) (he : e.ok = true) : okL (assocSet cs n e) = true := by
  induction cs with
  | nil => exact (okL_cons n e []).mpr ⟨⟨hn, he⟩, rfl⟩
  | cons x cs ih =>
    obtain ⟨k, y⟩ := x
    rw [okL_cons] at h
    rw [assocSet]
    split
    · exact (okL_cons _ _ _).mpr ⟨⟨hn, he⟩, h.2⟩
    · exact (okL_cons _ _ _).mpr ⟨h.1, ih h.2⟩

theorem ok_newElem (k : Kind) (n : Txt) : (newElem k n).ok = true := rfl

theorem ok_addLine (e : Elem) (l : Txt) : (e.addLine l).ok = e.ok := by cases e; rfl

theorem ok_addChild (e : Elem) (n : Txt) (c : Elem) (h : e.ok = true) (hn : c.name = n) (hc : c.ok = true) :
    (e.addChild n c).ok = true := by
  rw [Elem.ok_eq, children_addChild]; rw [Elem.ok_eq] at h; exact okL_set _ _ _ h hn hc

theorem baseOf_ok (cur : Elem) (n : Txt) (h : cur.ok = true) : (baseOf cur n).name = n ∧ (baseOf cur n).ok = true := by
  unfold baseOf
  cases hf : cur.findChild n with
  | none => exact ⟨rfl, rfl⟩
  | some c => exact Elem.ok_mem h (assocFind_some_mem _ _ _ hf)

theorem sem_ok :
    (∀ (i : Item) (cur : Elem), cur.ok = true → (semItem i cur).ok = true) ∧
    ∀ (is : List Item) (cur : Elem), cur.ok = true → (semItems is cur).ok = true := by
  refine Item.induct (fun t cur h => ?_) (fun n body ih cur h => ?_) (fun cur h => ?_) (fun i is ihi ihs cur h => ?_)
  · rw [semItem_text]
    exact semLines_pres (·.ok = true) (fun e l h => (ok_addLine e l).trans h)
      (fun e k v h => ok_addChild e k _ h rfl rfl) _ _ h
  · rw [semItem_dom]
    have hb := baseOf_ok cur n h
    exact ok_addChild _ _ _ h ((semItems_name _ _).trans hb.1) (ih _ hb.2)
  · rwa [semItems_nil]
  · rw [semItems_cons]; exact ihs _ (ihi cur h)

theorem semItem_ok (i : Item) (cur : Elem) (h : cur.ok = true) : (semItem i cur).ok = true := sem_ok.1 i cur h
theorem semItems_ok (is : List Item) (cur : Elem) (h : cur.ok = true) : (semItems is cur).ok = true := sem_ok.2 is cur h

end Tars.Conf
