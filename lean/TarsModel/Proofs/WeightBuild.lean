/-
  `BuildStaticWeightList` as a whole: its scan loop, its scaling loop, the list it returns.
-/
import TarsModel.Proofs.Weight

namespace Tars.Sel
open Consts

/-! ### first loop -/

def sumWeights : List Ep → Int
  | [] => 0
  | e :: es => e.weight + sumWeights es

theorem sumWeights_eq (eps : List Ep) : sumWeights eps = (eps.map Ep.weight).sum := by
  induction eps with
  | nil => rfl
  | cons e es ih => simp [sumWeights, ih]

theorem sumWeights_nonneg (eps : List Ep) (h : ∀ e ∈ eps, 0 < e.weight) : 0 ≤ sumWeights eps :=
  sumWeights_eq eps ▸ sum_map_nonneg fun e he => Int.le_of_lt (h e he)

/-- every endpoint carries `WeightType == EStaticWeight`; the model compares with
`Consts.epEStaticWeight`, whose value is the `1` written here (`scan_cons` connects the two) -/
def AllStatic (eps : List Ep) : Prop := ∀ e ∈ eps, e.weightType = 1

def IsMaxWeight (eps : List Ep) (M : Int) : Prop := (∀ e ∈ eps, e.weight ≤ M) ∧ ∃ e ∈ eps, e.weight = M

def IsMinWeight (eps : List Ep) (m : Int) : Prop := (∀ e ∈ eps, m ≤ e.weight) ∧ ∃ e ∈ eps, e.weight = m

/-- `maxWeight` after the first loop -/
def maxW (eps : List Ep) : Int := (eps.map Ep.weight).foldl max minInt32

/-- `minWeight` after the first loop -/
def minW (eps : List Ep) : Int := (eps.map Ep.weight).foldl min maxInt32

theorem scan_cons (e : Ep) (es : List Ep) (mx mn tc : Int) :
    scan (e :: es) mx mn tc =
      if e.weightType = 1 then scan es (max mx e.weight) (min mn e.weight) (tc + e.weight) else none := by
  have h1 : (if mx < e.weight then e.weight else mx) = max mx e.weight := by omega
  have h2 : (if mn > e.weight then e.weight else mn) = min mn e.weight := by omega
  simp only [scan, epEStaticWeight, h1, h2, Nat.cast_one, ne_eq, ite_not]

theorem scan_nonstatic {eps : List Ep} (h : ¬ AllStatic eps) (mx mn tc : Int) : scan eps mx mn tc = none := by
  induction eps generalizing mx mn tc with
  | nil => exact absurd (fun _ h => nomatch h) h
  | cons e es ih =>
    rw [scan_cons]
    split
    · next he => exact ih (fun hes => h (List.forall_mem_cons.2 ⟨he, hes⟩)) ..
    · rfl

theorem scan_static {eps : List Ep} (h : AllStatic eps) (mx mn tc : Int) :
    scan eps mx mn tc = some ((eps.map Ep.weight).foldl max mx, (eps.map Ep.weight).foldl min mn,
      tc + sumWeights eps) := by
  induction eps generalizing mx mn tc with
  | nil => simp [scan, sumWeights]
  | cons e es ih =>
    obtain ⟨he, hes⟩ := List.forall_mem_cons.1 h
    rw [scan_cons, if_pos he, ih hes]
    simp only [List.map_cons, List.foldl_cons, sumWeights, Int.add_assoc]

theorem maxW_spec (eps : List Ep) :
    (maxW eps = minInt32 ∨ ∃ e ∈ eps, e.weight = maxW eps) ∧ ∀ e ∈ eps, e.weight ≤ maxW eps := by
  -- `foldl max a l` is `(a :: l).max?`
  have h : (minInt32 :: eps.map Ep.weight).max? = some (maxW eps) := List.max?_cons'
  obtain ⟨h1, h2⟩ := List.max?_eq_some_iff.1 h
  rw [List.mem_cons, List.mem_map] at h1
  rw [List.forall_mem_cons, List.forall_mem_map] at h2
  exact ⟨h1, h2.2⟩

theorem minW_spec (eps : List Ep) :
    (minW eps = maxInt32 ∨ ∃ e ∈ eps, e.weight = minW eps) ∧ ∀ e ∈ eps, minW eps ≤ e.weight := by
  have h : (maxInt32 :: eps.map Ep.weight).min? = some (minW eps) := List.min?_cons'
  obtain ⟨h1, h2⟩ := List.min?_eq_some_iff.1 h
  rw [List.mem_cons, List.mem_map] at h1
  rw [List.forall_mem_cons, List.forall_mem_map] at h2
  exact ⟨h1, h2.2⟩

theorem maxW_eq_iff {eps : List Ep} {M : Int} (hlo : minInt32 < M) : maxW eps = M ↔ IsMaxWeight eps M := by
  obtain ⟨h1, h2⟩ := maxW_spec eps
  constructor
  · rintro rfl
    exact ⟨h2, h1.resolve_left (Int.ne_of_gt hlo)⟩
  · rintro ⟨hM1, e, he, heM⟩
    have := h2 e he
    rcases h1 with h | ⟨x, hx, h⟩
    · omega
    · have := hM1 x hx; omega

theorem minW_eq {eps : List Ep} {m : Int} (hm : IsMinWeight eps m) (hhi : m ≤ maxInt32) : minW eps = m := by
  obtain ⟨h1, h2⟩ := minW_spec eps
  obtain ⟨hm1, e, he, hem⟩ := hm
  have := h2 e he
  rcases h1 with h | ⟨x, hx, h⟩
  · omega
  · have := hm1 x hx; omega

/-! ### the range -/

def specRange (M m : Int) : Int := min 100 (max 10 (M / m))

theorem rangeOf_eq (M m : Int) :
    rangeOf M m = if 0 < m then (min 100 (max 10 (M.tdiv m)), 0) else (1, 1) := by
  simp only [rangeOf, selMinWeightPositiveBound, selMinStaticWeightLimit, selMaxStaticWeightLimit,
    selDegenerateRange, selDegenerateTotal, gt_iff_lt, Nat.cast_ofNat, Nat.cast_zero, Nat.cast_one]
  generalize M.tdiv m = q
  split
  · simp only [Prod.mk.injEq, and_true]
    split <;> split <;> omega
  · rfl

theorem rangeOf_pos {M m : Int} (hm : 0 < m) (hM : 0 ≤ M) : rangeOf M m = (specRange M m, 0) := by
  rw [rangeOf_eq, if_pos hm, Int.tdiv_eq_ediv_of_nonneg hM, specRange]

theorem rangeOf_bounds (M m : Int) :
    1 ≤ (rangeOf M m).1 ∧ (rangeOf M m).1 ≤ 100 ∧ 0 ≤ (rangeOf M m).2 ∧ (rangeOf M m).2 ≤ 1 := by
  rw [rangeOf_eq]
  split <;> simp only <;> omega

/-! ### second loop -/

/-- the slot the second loop makes for endpoint `e` at index `i` -/
def slotOf (r mx : Int) (e : Ep) (i : Nat) : Slot := ⟨scaled r mx e.weight, i, scaled r mx e.weight, e.str⟩

def hasSlot (r mx : Int) (p : Ep × Nat) : Bool := decide (0 < scaled r mx p.1.weight)

theorem split_eq (r mx : Int) : ∀ (es : List Ep) (b : Nat), split r mx es b =
    (((es.zipIdx b).filter (fun p => !hasSlot r mx p)).map (·.2),
      ((es.zipIdx b).filter (hasSlot r mx)).map fun p => slotOf r mx p.1 p.2)
  | [], _ => rfl
  | e :: es, b => by
    by_cases h : 0 < scaled r mx e.weight <;>
      simp [split, split_eq r mx es (b + 1), selScaledWeightBound, h, hasSlot, slotOf, List.zipIdx_cons]

theorem mem_split_zeros {r mx : Int} {es : List Ep} {b x : Nat} :
    x ∈ (split r mx es b).1 ↔ ∃ e, (e, x) ∈ es.zipIdx b ∧ ¬ 0 < scaled r mx e.weight := by
  simp only [split_eq, hasSlot, List.mem_map, List.mem_filter, Bool.not_eq_eq_eq_not, Bool.not_true,
    decide_eq_false_iff_not, Prod.exists, exists_eq_right]

theorem mem_split_slots {r mx : Int} {es : List Ep} {b : Nat} {s : Slot} :
    s ∈ (split r mx es b).2 ↔
      ∃ e i, (e, i) ∈ es.zipIdx b ∧ 0 < scaled r mx e.weight ∧ slotOf r mx e i = s := by
  simp only [split_eq, hasSlot, List.mem_map, List.mem_filter, decide_eq_true_eq, and_assoc, Prod.exists]

theorem split_perm (r mx : Int) (es : List Ep) (b : Nat) :
    ((split r mx es b).1 ++ (split r mx es b).2.map (·.idx)).Perm (List.range' b es.length) := by
  rw [split_eq, List.map_map, ← List.zipIdx_map_snd b es]
  show (List.map Prod.snd _ ++ List.map Prod.snd _).Perm _
  rw [← List.map_append]
  exact ((List.perm_append_comm).trans (List.filter_append_perm _ _)).map _

/-- how often the index of an endpoint is appended to the list -/
def mult (r mx : Int) (e : Ep) : Int := if 0 < scaled r mx e.weight then scaled r mx e.weight else 1

theorem split_sum (r mx : Int) : ∀ (es : List Ep) (b : Nat),
    (es.map (mult r mx)).sum = ((split r mx es b).1.length : Int) + sumW (split r mx es b).2
  | [], _ => rfl
  | e :: es, b => by
    have ih := split_sum r mx es (b + 1)
    by_cases h : 0 < scaled r mx e.weight <;>
      simp only [split, selScaledWeightBound, Nat.cast_zero, gt_iff_lt, h, if_true, if_false, sumW,
        List.length_cons, List.map_cons, List.sum_cons, mult, Nat.cast_add, Nat.cast_one] <;> omega

/-! ### the list that is built -/

/-- the list returned for range `r`, greatest weight `mx` and initial total weight `tw0` -/
def weightList (r mx tw0 : Int) (eps : List Ep) : List Nat :=
  (split r mx eps 0).1 ++
    (rounds (tw0 + sumW (split r mx eps 0).2) (tw0 + sumW (split r mx eps 0).2).toNat
      (split r mx eps 0).2 []).reverse

theorem split_slot_cur (r mx : Int) (es : List Ep) (b : Nat) : ∀ s ∈ (split r mx es b).2, s.cur = s.w := by
  intro s hs
  obtain ⟨e, i, _, _, rfl⟩ := mem_split_slots.1 hs
  rfl

theorem split_slot_pos (r mx : Int) (es : List Ep) (b : Nat) : ∀ s ∈ (split r mx es b).2, 0 < s.w := by
  intro s hs
  obtain ⟨e, i, _, h, rfl⟩ := mem_split_slots.1 hs
  exact h

theorem weightList_mem (r mx tw0 : Int) (eps : List Ep) : ∀ i ∈ weightList r mx tw0 eps, i < eps.length := by
  intro i hi
  have hp := (split_perm r mx eps 0).mem_iff (a := i)
  rw [List.mem_range'_1, List.mem_append] at hp
  rw [weightList, List.mem_append, List.mem_reverse] at hi
  exact (hp.1 (hi.imp_right (rounds_mem _ _ _ i))).2.trans_eq (Nat.zero_add _)

theorem weightList_length_le (r mx : Int) {tw0 : Int} (h0 : 0 ≤ tw0) (eps : List Ep) :
    ((weightList r mx tw0 eps).length : Int) ≤ tw0 + (eps.map (mult r mx)).sum := by
  have hr := rounds_length_le (tw0 + sumW (split r mx eps 0).2) (tw0 + sumW (split r mx eps 0).2).toNat
    (split r mx eps 0).2
  have := sumW_nonneg (split_slot_pos r mx eps 0)
  rw [split_sum r mx eps 0, weightList, List.length_append, List.length_reverse]
  omega

theorem weightList_count (r mx : Int) (eps : List Ep) :
    (∀ i (hi : i < eps.length), ((weightList r mx 0 eps).count i : Int) = mult r mx eps[i]) ∧
      ((weightList r mx 0 eps).length : Int) = (eps.map (mult r mx)).sum := by
  -- the indices sent to the front and the slot indices partition `range N` (`split_perm`): index `i` is
  -- counted once in exactly one of the two parts, and a slot index then `w` times in the rounds
  have hperm := split_perm r mx eps 0
  have hnd : ((split r mx eps 0).2.map (·.idx)).Nodup :=
    (List.nodup_append.1 (hperm.nodup_iff.2 List.nodup_range')).2.1
  obtain ⟨c1, c2⟩ := rounds_count (split_slot_cur r mx eps 0) (split_slot_pos r mx eps 0) hnd
  simp only [weightList, Int.zero_add]
  refine ⟨fun i hi => ?_, ?_⟩
  · have hmem : (eps[i], i) ∈ eps.zipIdx 0 := List.mem_zipIdx_iff_getElem?.2 (List.getElem?_eq_getElem hi)
    have h1 := hperm.count_eq i
    rw [List.count_append, List.Nodup.count List.nodup_range', if_pos (List.mem_range'_1.2 ⟨Nat.zero_le _, by omega⟩)] at h1
    rw [List.count_append, List.count_reverse, mult]
    split
    · next h =>
      have := c1 _ (mem_split_slots.2 ⟨_, _, hmem, h, rfl⟩)
      have hz : i ∈ (split r mx eps 0).2.map (·.idx) :=
        List.mem_map.2 ⟨_, mem_split_slots.2 ⟨_, _, hmem, h, rfl⟩, rfl⟩
      rw [hnd.count, if_pos hz] at h1
      simp only [slotOf] at this
      omega
    · next h =>
      have hz : i ∈ (split r mx eps 0).1 := mem_split_zeros.2 ⟨_, hmem, h⟩
      have hno : i ∉ (split r mx eps 0).2.map (·.idx) := fun hin => by
        have := List.count_pos_iff.2 hz
        have := List.count_pos_iff.2 hin
        omega
      rw [List.count_eq_zero.2 fun hin => hno (rounds_mem _ _ _ i hin)]
      have := List.count_pos_iff.2 hz
      have := List.count_eq_zero.2 hno
      omega
  · rw [split_sum r mx eps 0, List.length_append, List.length_reverse]
    omega

/-! ### the function as a whole -/

theorem build_static {v : Variant} {eps : List Ep} (h : AllStatic eps) :
    buildStaticWeightList v eps =
      if v = .repaired ∧ maxW eps ≤ 0 then .nil
      else if capOf v eps.length (rangeOf (maxW eps) (minW eps)).1 (sumWeights eps) < 0 then
        .panic "makeslice: cap out of range"
      else if eps ≠ [] ∧ maxW eps = 0 then .panic "integer divide by zero"
      else .ok (capOf v eps.length (rangeOf (maxW eps) (minW eps)).1 (sumWeights eps))
        (weightList (rangeOf (maxW eps) (minW eps)).1 (maxW eps) (rangeOf (maxW eps) (minW eps)).2 eps) := by
  simp only [buildStaticWeightList, scan_static h, Int.zero_add]
  rfl

theorem build_nonstatic {v : Variant} {eps : List Ep} (h : ¬ AllStatic eps) :
    buildStaticWeightList v eps = .nil := by
  simp only [buildStaticWeightList, scan_nonstatic h]

theorem build_ok_iff {v : Variant} {eps : List Ep} {cap : Int} {l : List Nat} :
    buildStaticWeightList v eps = .ok cap l ↔
      AllStatic eps ∧ ¬ (v = .repaired ∧ maxW eps ≤ 0) ∧ 0 ≤ cap ∧ ¬ (eps ≠ [] ∧ maxW eps = 0) ∧
        cap = capOf v eps.length (rangeOf (maxW eps) (minW eps)).1 (sumWeights eps) ∧
        l = weightList (rangeOf (maxW eps) (minW eps)).1 (maxW eps) (rangeOf (maxW eps) (minW eps)).2 eps := by
  by_cases hst : AllStatic eps
  · rw [build_static hst]
    split
    · simp [*]
    · split
      · simp only [reduceCtorEq, false_iff]; rintro ⟨_, _, _, _, rfl, _⟩; omega
      · split
        · simp [*]
        · simp only [Out.ok.injEq, true_and, not_false_eq_true, *]
          constructor
          · rintro ⟨rfl, rfl⟩; exact ⟨by omega, rfl, rfl⟩
          · rintro ⟨_, rfl, rfl⟩; exact ⟨rfl, rfl⟩
  · simp [build_nonstatic hst, hst]

theorem build_panic_iff {v : Variant} {eps : List Ep} :
    (∃ site, buildStaticWeightList v eps = .panic site) ↔
      AllStatic eps ∧ ¬ (v = .repaired ∧ maxW eps ≤ 0) ∧
        (capOf v eps.length (rangeOf (maxW eps) (minW eps)).1 (sumWeights eps) < 0 ∨
          eps ≠ [] ∧ maxW eps = 0) := by
  by_cases hst : AllStatic eps
  · rw [build_static hst]
    split
    · next hg => simp [hg]
    · next hg =>
      split
      · next hc => exact ⟨fun _ => ⟨hst, hg, Or.inl hc⟩, fun _ => ⟨_, rfl⟩⟩
      · next hc =>
        split
        · next hz => exact ⟨fun _ => ⟨hst, hg, Or.inr hz⟩, fun _ => ⟨_, rfl⟩⟩
        · next hz => simp [hc, hz]
  · simp [build_nonstatic hst, hst]

theorem build_ok_mem {v : Variant} {eps : List Ep} {cap : Int} {l : List Nat}
    (h : buildStaticWeightList v eps = .ok cap l) : ∀ i ∈ l, i < eps.length := by
  obtain ⟨-, -, -, -, -, rfl⟩ := build_ok_iff.1 h
  exact weightList_mem _ _ _ _

theorem capOf_repaired_bounds (n : Nat) (mx mn tc : Int) :
    0 < capOf .repaired n (rangeOf mx mn).1 tc ∧ capOf .repaired n (rangeOf mx mn).1 tc ≤ 100 * n + 1 := by
  have hb := rangeOf_bounds mx mn
  simp only [capOf]
  have h1 : 0 ≤ (n : Int) * (rangeOf mx mn).1 := Int.mul_nonneg (by omega) (by omega)
  have h2 : (n : Int) * (rangeOf mx mn).1 ≤ (n : Int) * 100 :=
    Int.mul_le_mul_of_nonneg_left hb.2.1 (by omega)
  omega

theorem build_repaired_no_panic (eps : List Ep) (site : String) :
    buildStaticWeightList .repaired eps ≠ .panic site := by
  intro h
  obtain ⟨-, hg, hc | ⟨-, hz⟩⟩ := build_panic_iff.1 ⟨site, h⟩
  · have := capOf_repaired_bounds eps.length (maxW eps) (minW eps) (sumWeights eps); omega
  · exact hg ⟨rfl, by omega⟩

theorem build_asFound_panic_iff (eps : List Ep) :
    (∃ site, buildStaticWeightList .asFound eps = .panic site) ↔
      AllStatic eps ∧ (sumWeights eps + 100 < 0 ∨
        (eps ≠ [] ∧ (∀ e ∈ eps, e.weight ≤ 0) ∧ ∃ e ∈ eps, e.weight = 0)) := by
  rw [build_panic_iff, maxW_eq_iff (by decide)]
  simp [capOf, IsMaxWeight]

/-! ### the list never outgrows the capacity requested by the repaired function -/

theorem scaled_le {r mx w : Int} (hmx : 0 < mx) (hw : w ≤ mx) (hr : 0 ≤ r) : scaled r mx w ≤ r := by
  unfold scaled
  by_cases h : 0 ≤ w * r
  · rw [Int.tdiv_eq_ediv_of_nonneg h]
    have h1 : w * r ≤ mx * r := Int.mul_le_mul_of_nonneg_right hw hr
    have h2 := Int.ediv_le_ediv hmx h1
    rwa [Int.mul_ediv_cancel_left r (by omega : mx ≠ 0)] at h2
  · have h1 : (-(w * r)).tdiv mx = -((w * r).tdiv mx) := Int.neg_tdiv ..
    have h2 := Int.tdiv_nonneg (a := -(w * r)) (b := mx) (by omega) (by omega)
    omega

theorem build_repaired_bounds {eps : List Ep} {cap : Int} {l : List Nat}
    (h : buildStaticWeightList .repaired eps = .ok cap l) :
    0 < cap ∧ cap ≤ 100 * eps.length + 1 ∧ (l.length : Int) ≤ cap := by
  obtain ⟨-, hg, -, -, rfl, rfl⟩ := build_ok_iff.1 h
  refine ⟨(capOf_repaired_bounds ..).1, (capOf_repaired_bounds ..).2, ?_⟩
  have hmx : 0 < maxW eps := by
    by_contra hc
    exact hg ⟨rfl, by omega⟩
  have hb := rangeOf_bounds (maxW eps) (minW eps)
  generalize (rangeOf (maxW eps) (minW eps)).1 = r at *
  generalize (rangeOf (maxW eps) (minW eps)).2 = tw0 at *
  have h1 := weightList_length_le r (maxW eps) hb.2.2.1 eps
  -- every endpoint contributes at most `r` entries
  have h2 : (eps.map (mult r (maxW eps))).sum ≤ r * eps.length := by
    rw [← sum_map_const]
    refine sum_map_le fun e he => ?_
    have := scaled_le hmx ((maxW_spec eps).2 e he) (by omega : 0 ≤ r)
    unfold mult; split <;> omega
  rw [capOf, Int.mul_comm]
  omega

/-! ### positive static weights -/

/-- for positive weights `tdiv` is the floor -/
theorem scaled_pos_eq {r mx w : Int} (hr : 0 ≤ r) (hw : 0 ≤ w) : scaled r mx w = w * r / mx := by
  unfold scaled
  exact Int.tdiv_eq_ediv_of_nonneg (Int.mul_nonneg hw hr)

theorem build_positive_eq (v : Variant) {eps : List Ep} {M m : Int} (hst : AllStatic eps)
    (hM : IsMaxWeight eps M) (hm : IsMinWeight eps m) (hmpos : 0 < m) (h32 : ∀ e ∈ eps, e.weight ≤ maxInt32) :
    buildStaticWeightList v eps =
      .ok (capOf v eps.length (specRange M m) (sumWeights eps)) (weightList (specRange M m) M 0 eps) := by
  obtain ⟨em, hem, hem'⟩ := hm.2
  have hMpos : 0 < M := by have := hM.1 em hem; omega
  have hsum := sumWeights_nonneg eps fun e he => by have := hm.1 e he; omega
  have hR : 10 ≤ specRange M m := by unfold specRange; omega
  have hcap : 0 ≤ capOf v eps.length (specRange M m) (sumWeights eps) := by
    have : 0 ≤ (eps.length : Int) * specRange M m := Int.mul_nonneg (by omega) (by omega)
    cases v <;> simp only [capOf] <;> omega
  have eM : maxW eps = M := (maxW_eq_iff (by simp only [minInt32]; omega)).2 hM
  have e1 : rangeOf M (minW eps) = (specRange M m, 0) := by
    rw [minW_eq hm (by have := h32 em hem; omega), rangeOf_pos hmpos (by omega)]
  refine build_ok_iff.2 ⟨hst, ?_, hcap, ?_, ?_, ?_⟩ <;> rw [eM]
  · omega
  · omega
  · rw [e1]
  · rw [e1]

/-- one positive weight `W` throughout: it is the greatest and the least, the range is 10 -/
theorem build_const_eq (v : Variant) {eps : List Ep} {W : Int} (hne : eps ≠ []) (hst : AllStatic eps)
    (hW : ∀ e ∈ eps, e.weight = W) (hpos : 0 < W) (h32 : W ≤ maxInt32) :
    buildStaticWeightList v eps = .ok (capOf v eps.length 10 (sumWeights eps)) (weightList 10 W 0 eps) := by
  obtain ⟨e0, he0⟩ := List.exists_mem_of_ne_nil eps hne
  have hb := build_positive_eq v hst (M := W) (m := W) ⟨fun e he => by rw [hW e he], e0, he0, hW e0 he0⟩
    ⟨fun e he => by rw [hW e he], e0, he0, hW e0 he0⟩ hpos (fun e he => hW e he ▸ h32)
  have hR : specRange W W = 10 := by
    unfold specRange
    rw [Int.ediv_self (by omega)]
    decide
  rwa [hR] at hb

theorem build_positive_count (v : Variant) {eps : List Ep} {M m : Int} (hst : AllStatic eps)
    (hM : IsMaxWeight eps M) (hm : IsMinWeight eps m) (hmpos : 0 < m)
    (h32 : ∀ e ∈ eps, e.weight ≤ maxInt32) :
    ∃ cap l, buildStaticWeightList v eps = .ok cap l ∧
      (∀ i (hi : i < eps.length), (l.count i : Int) = max 1 (eps[i].weight * specRange M m / M)) ∧
      (l.length : Int) = (eps.map fun e => max 1 (e.weight * specRange M m / M)).sum := by
  obtain ⟨em, hem, hem'⟩ := hm.2
  have hMpos : 0 < M := by have := hM.1 em hem; omega
  have hR : 10 ≤ specRange M m := by unfold specRange; omega
  have hmult : ∀ e ∈ eps, mult (specRange M m) M e = max 1 (e.weight * specRange M m / M) := by
    intro e he
    have hw : 0 < e.weight := by have := hm.1 e he; omega
    have := Int.ediv_nonneg (Int.mul_nonneg (Int.le_of_lt hw) (by omega : 0 ≤ specRange M m)) (Int.le_of_lt hMpos)
    rw [mult, scaled_pos_eq (by omega) (by omega)]
    omega
  obtain ⟨hcnt, hlen⟩ := weightList_count (specRange M m) M eps
  refine ⟨_, _, build_positive_eq v hst hM hm hmpos h32, fun i hi => ?_, ?_⟩
  · rw [hcnt i hi, hmult _ (List.getElem_mem hi)]
  · rw [hlen, List.map_congr_left hmult]

end Tars.Sel
