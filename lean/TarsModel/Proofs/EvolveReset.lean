import TarsModel.Proofs.Evolve

/-! C04 beside the unknown fields: what `ResetDefault` assigns member by member (`defaultOf`) and that it
    does not depend on the model's fuel (`resetDefault_fuel`, `resetDefault_acyclic`); the reader
    when a member's turn comes in `ReadFrom` (`readerAt`, `readerBefore`) and a member absent at
    that point; fresh targets. -/
namespace Tars
namespace Evolve
open Consts WFField Skip

/-! ### what `ResetDefault` assigns to one member, and what an absent member is left with -/

def isStructTy : Ty → Bool
  | .struct _ => true
  | _ => false

def isArrStructTy : Ty → Bool
  | .arr _ (.struct _) => true
  | _ => false

/-- the value `ResetDefault` assigns to a member that is not a struct, whatever it held: the
    explicit IDL default if there is one; otherwise, for a fixed-size array of structs, `n` copies
    of the struct after its own `ResetDefault` (`st.X = [N]S{}; for i := range st.X {
    st.X[i].ResetDefault() }`); otherwise the Go zero value of the type -/
def defaultOf (env : Env) (fuel : Nat) (f : Field) : Val :=
  match f.dflt with
  | some d => d
  | none =>
    match f.ty with
    | .arr n (.struct s) =>
      match env.find s with
      | some ifs =>
        Val.list (List.replicate n (Val.struct (resetDefault env fuel ifs (ifs.map fun g => zeroOf env g.ty))))
      | none => zeroOf env f.ty
    | t => zeroOf env t

theorem resetMember_dflt (env : Env) (F : Nat) (f : Field) (v d : Val) (h : f.dflt = some d) :
    resetMember env F f v = d := by simp [resetMember, h]

theorem resetMember_nonstruct (env : Env) (F : Nat) (f : Field) (v : Val)
    (hty : isStructTy f.ty = false) : resetMember env F f v = defaultOf env F f := by
  obtain ⟨tag, req, ty, dflt⟩ := f
  unfold resetMember defaultOf
  cases dflt with
  | some d => rfl
  | none =>
    cases ty with
    | struct name => simp [isStructTy] at hty
    | arr n e => cases e <;> rfl
    | _ => rfl

theorem defaultOf_dflt (env : Env) (F : Nat) (f : Field) (d : Val) (h : f.dflt = some d) :
    defaultOf env F f = d := by simp [defaultOf, h]

theorem defaultOf_plain (env : Env) (F : Nat) (f : Field) (h : f.dflt = none)
    (hty : isArrStructTy f.ty = false) : defaultOf env F f = zeroOf env f.ty := by
  unfold defaultOf
  rw [h]
  simp only
  split
  · simp_all [isArrStructTy]
  · rfl

theorem resetMember_getD (env : Env) (F : Nat) (g : Field) (x : Val)
    (h : (isStructTy g.ty = false ∧ isArrStructTy g.ty = false) ∨ g.dflt.isSome) :
    resetMember env F g x = g.dflt.getD (zeroOf env g.ty) := by
  cases hgd : g.dflt with
  | some d => rw [resetMember_dflt env F g x d hgd]; rfl
  | none =>
    rcases h with hns | hsome
    · rw [resetMember_nonstruct env F g x hns.1, defaultOf_plain env F g hgd hns.2]; rfl
    · rw [hgd] at hsome; cases hsome

theorem defaultOf_arr (env : Env) (F : Nat) (f : Field) (n : Nat) (s : String) (ifs : List Field)
    (h : f.dflt = none) (hty : f.ty = .arr n (.struct s)) (hfind : env.find s = some ifs) :
    defaultOf env F f = .list (List.replicate n
      (.struct (resetDefault env F ifs (ifs.map fun g => zeroOf env g.ty)))) := by
  unfold defaultOf
  rw [h, hty]
  simp [hfind]

theorem absentVal_plain (env : Env) (F : Nat) (ty : Ty) (v : Val) (hty : isStructTy ty = false) :
    absentVal env F ty v = v := by
  unfold absentVal
  split
  · simp [isStructTy] at hty
  · rfl

theorem absentVal_struct (env : Env) (F : Nat) (name : String) (inner : List Val) (ifs : List Field)
    (hfind : env.find name = some ifs) :
    absentVal env F (.struct name) (.struct inner) = .struct (resetDefault env F ifs inner) := by
  simp [absentVal, hfind]

/-! ### `ResetDefault` member by member -/

theorem resetDefault_eq_zipWith (env : Env) (F : Nat) (fs : List Field) (vs : List Val) :
    resetDefault env (F+1) fs vs = List.zipWith (resetMember env F) fs vs := by
  induction fs generalizing vs with
  | nil => rw [resetDefault_nil_left]; rfl
  | cons f fs ih =>
    cases vs with
    | nil => rw [resetDefault_nil_right]; rfl
    | cons v vs => rw [resetDefault_cons, ih]; rfl

theorem resetDefault_getElem? (env : Env) (F : Nat) (fs : List Field) (vs : List Val) (i : Nat)
    (f : Field) (v : Val) (hf : fs[i]? = some f) (hv : vs[i]? = some v) :
    (resetDefault env (F+1) fs vs)[i]? = some (resetMember env F f v) := by
  rw [resetDefault_eq_zipWith, List.getElem?_zipWith, hf, hv]

theorem resetDefault_length (env : Env) (F : Nat) (fs : List Field) (vs : List Val)
    (h : vs.length = fs.length) : (resetDefault env (F+1) fs vs).length = fs.length := by
  rw [resetDefault_eq_zipWith, List.length_zipWith, h, Nat.min_self]

theorem zipWith_congr_mem {α β γ : Type} {f g : α → β → γ} :
    ∀ (as : List α) (bs : List β), (∀ a ∈ as, ∀ b ∈ bs, f a b = g a b) →
      List.zipWith f as bs = List.zipWith g as bs
  | [], _, _ => by simp
  | _ :: _, [], _ => by simp
  | a :: as, b :: bs, h => by
    rw [List.zipWith_cons_cons, List.zipWith_cons_cons, h a (by simp) b (by simp),
      zipWith_congr_mem as bs (fun a ha b hb => h a (by simp [ha]) b (by simp [hb]))]

theorem resetDefault_congr (env : Env) (F G : Nat) (fs : List Field) (vs : List Val)
    (h : ∀ f ∈ fs, ∀ v ∈ vs, resetMember env F f v = resetMember env G f v) :
    resetDefault env (F+1) fs vs = resetDefault env (G+1) fs vs := by
  rw [resetDefault_eq_zipWith, resetDefault_eq_zipWith]
  exact zipWith_congr_mem fs vs h

/-! ### `ResetDefault` does not depend on the model's fuel once it exceeds the struct nesting of the target -/

mutual
/-- nesting depth of struct values directly inside struct values (what `ResetDefault` descends) -/
def valDepth : Val → Nat
  | .struct vs => 1 + listDepth vs
  | _ => 0
def listDepth : List Val → Nat
  | [] => 0
  | v :: vs => max (valDepth v) (listDepth vs)
end

/-- no struct of the schema has a fixed-size array of structs as a member (for such members the
    value `ResetDefault` assigns involves a nested `ResetDefault` on zero values, whose model fuel
    is not bounded by the nesting of the target) -/
def NoStructArrays (env : Env) : Prop :=
  ∀ s ifs, env.find s = some ifs → ∀ g ∈ ifs, isArrStructTy g.ty = false

theorem resetMember_fuel (env : Env) (F G : Nat) (f : Field) (v : Val)
    (ih : ∀ name ifs inner, f.ty = .struct name → env.find name = some ifs → v = .struct inner →
      resetDefault env F ifs inner = resetDefault env G ifs inner)
    (iha : ∀ n s ifs, f.ty = .arr n (.struct s) → env.find s = some ifs →
      resetDefault env F ifs (ifs.map fun g => zeroOf env g.ty)
        = resetDefault env G ifs (ifs.map fun g => zeroOf env g.ty)) :
    resetMember env F f v = resetMember env G f v := by
  unfold resetMember
  cases f.dflt with
  | some d => rfl
  | none =>
    simp only
    split
    · split
      · next _ name inner hn =>
        cases hfind : env.find name with
        | none => rfl
        | some ifs => simp only; rw [ih name ifs inner hn hfind rfl]
      · rfl
    · next n s hty =>
      cases hfind : env.find s with
      | none => rfl
      | some ifs => simp only; rw [iha n s ifs hty hfind]
    · rfl

theorem valDepth_le_listDepth {v : Val} : ∀ {vs : List Val}, v ∈ vs → valDepth v ≤ listDepth vs
  | w :: ws, h => by
    rw [listDepth]
    rcases List.mem_cons.mp h with rfl | h
    · exact Nat.le_max_left ..
    · exact Nat.le_trans (valDepth_le_listDepth h) (Nat.le_max_right ..)

theorem resetDefault_fuel (env : Env) (hna : NoStructArrays env) (F : Nat) :
    ∀ (F' : Nat) (fs : List Field) (vs : List Val), (∀ g ∈ fs, isArrStructTy g.ty = false) →
      listDepth vs < F → listDepth vs < F' →
      resetDefault env F fs vs = resetDefault env F' fs vs := by
  induction F with
  | zero => intro F' fs vs _ h; omega
  | succ F ihF =>
    intro F' fs vs hfs h h'
    obtain ⟨G, rfl⟩ := Nat.exists_eq_add_one.mpr (show 0 < F' by omega)
    refine resetDefault_congr env F G fs vs fun f hf v hv => resetMember_fuel env F G f v ?_ ?_
    · intro name ifs inner _ hfind hv'
      have hd := valDepth_le_listDepth hv
      rw [hv', valDepth] at hd
      exact ihF G ifs inner (hna name ifs hfind) (by omega) (by omega)
    · intro n s ifs hty _
      have := hfs f hf
      rw [hty] at this; cases this

/-! ### … and, for every acyclic schema, once it exceeds the rank of the struct -/

def StructRef (ty : Ty) (s : String) : Prop := ty = .struct s ∨ ∃ n, ty = .arr n (.struct s)

/-- By-value struct nesting is acyclic: `rk` ranks the struct names (ranks `≤ env.length`) so that
    a struct holds by value — as a member or as the element of a fixed-size array — only structs
    of smaller rank.  (Vectors and maps of structs are not restricted: recursion through them is
    fine.)  Go rejects every schema excluded here at compile time (`invalid recursive type`): the
    struct tars2go emits for it would contain itself. -/
def EnvAcyclic (env : Env) (rk : String → Nat) : Prop :=
  ∀ s ifs, env.find s = some ifs → rk s ≤ env.length ∧
    ∀ g ∈ ifs, ∀ s' ifs', StructRef g.ty s' → env.find s' = some ifs' → rk s' < rk s

/-- the hypothesis is a finite check on a concrete schema -/
theorem flat_schema {env : Env}
    (h : ∀ p ∈ env, ∀ g ∈ p.2, isStructTy g.ty = false ∧ isArrStructTy g.ty = false) :
    EnvAcyclic env (fun _ => 0) ∧ NoStructArrays env := by
  refine ⟨fun s ifs hs => ⟨Nat.zero_le _, fun g hg s' ifs' href _ => ?_⟩,
    fun s ifs hs g hg => (h _ (Env.find_mem hs) g hg).2⟩
  have := h _ (Env.find_mem hs) g hg
  rcases href with e | ⟨n, e⟩ <;> rw [e] at this <;> simp [isStructTy, isArrStructTy] at this

theorem resetDefault_acyclic (env : Env) (rk : String → Nat) (hac : EnvAcyclic env rk) (F : Nat) :
    ∀ (k F' : Nat) (fs : List Field) (vs : List Val),
      (∀ g ∈ fs, ∀ s' ifs', StructRef g.ty s' → env.find s' = some ifs' → rk s' < k) →
      k + 1 ≤ F → k + 1 ≤ F' → resetDefault env F fs vs = resetDefault env F' fs vs := by
  induction F with
  | zero => intro k F' fs vs _ h; omega
  | succ F ihF =>
    intro k F' fs vs hfs h h'
    obtain ⟨G, rfl⟩ := Nat.exists_eq_add_one.mpr (show 0 < F' by omega)
    refine resetDefault_congr env F G fs vs fun f hf v _ => resetMember_fuel env F G f v ?_ ?_
    · intro name ifs inner hty hfind _
      have hlt := hfs f hf name ifs (.inl hty) hfind
      exact ihF (rk name) G ifs inner (hac name ifs hfind).2 (by omega) (by omega)
    · intro n s ifs hty hfind
      have hlt := hfs f hf s ifs (.inr ⟨n, hty⟩) hfind
      exact ihF (rk s) G ifs _ (hac s ifs hfind).2 (by omega) (by omega)

theorem rank_lt_decFuel (env : Env) (rk : String → Nat) (hac : EnvAcyclic env rk) (S : String)
    (fs : List Field) (hfind : env.find S = some fs) (r : Reader) : rk S < decFuel env r := by
  have h1 := (hac S fs hfind).1
  have := decFuel_lb env (Nat.zero_le r.data.size)
  omega

/-! ### the reader state at each member -/

/-- the reader when member `i`'s turn comes in the member sequence of `ReadFrom`: the state after
    the reads of the first `i` members -/
def readerAt (env : Env) (fuel : Nat) (fs : List Field) (olds : List Val) (r : Reader) (i : Nat) :
    Reader := (decMembers env fuel (fs.take i) (olds.take i) r).2

theorem readerAt_zero (env : Env) (fuel : Nat) (fs : List Field) (olds : List Val) (r : Reader) :
    readerAt env fuel fs olds r 0 = r := by
  cases fuel with
  | zero => simp [readerAt, decMembers_fuel0]
  | succ F => simp [readerAt, decMembers_nil]

theorem readerAt_succ {env : Env} {F : Nat} {f : Field} {o v : Val} {r r1 : Reader}
    (hdv : decVar env F f.tag f.req f.ty o r = (.ok v, r1)) (fs : List Field) (os : List Val) (i : Nat) :
    readerAt env (F+1) (f :: fs) (o :: os) r (i+1) = readerAt env F fs os r1 i := by
  rcases hm : decMembers env F (fs.take i) (os.take i) r1 with ⟨_ | _, _⟩ <;>
    simp [readerAt, Tars.decMembers_cons, hdv, hm]

theorem decMembers_member (env : Env) (fs : List Field) :
    ∀ (i fuel : Nat) (olds : List Val) (r r' : Reader) (vs : List Val),
    decMembers env fuel fs olds r = (.ok vs, r') →
    ∀ (f : Field) (o : Val), fs[i]? = some f → olds[i]? = some o →
    ∃ F v r'', fuel - 1 - i = F + 1 ∧
      decVar env (F+1) f.tag f.req f.ty o (readerAt env fuel fs olds r i) = (.ok v, r'') ∧ vs[i]? = some v := by
  induction fs with
  | nil => intro i fuel olds r r' vs _ f o hf; cases hf
  | cons f0 fs ih =>
    intro i fuel olds r r' vs h f o hf ho
    cases olds with
    | nil => cases ho
    | cons o0 os =>
      cases fuel with
      | zero => rw [decMembers_fuel0] at h; cases h
      | succ F =>
        obtain ⟨v0, r1, vs', hdv, hm, rfl⟩ := decMembers_cons_inv h
        cases i with
        | zero =>
          cases hf; cases ho
          cases F with
          | zero => rw [decVar_fuel0] at hdv; cases hdv
          | succ G => exact ⟨G, v0, r1, rfl, by rw [readerAt_zero]; exact hdv, rfl⟩
        | succ i =>
          obtain ⟨G, v, r'', hG, h1, h2⟩ := ih i F os r1 r' vs' hm f o hf ho
          exact ⟨G, v, r'', by omega, by rw [readerAt_succ hdv]; exact h1, h2⟩

theorem decMembers_absent_opt (env : Env) (fuel : Nat) (fs : List Field) (olds : List Val)
    (r r' : Reader) (vs : List Val) (h : decMembers env fuel fs olds r = (.ok vs, r'))
    (i : Nat) (f : Field) (o : Val) (hf : fs[i]? = some f) (ho : olds[i]? = some o)
    (hopt : f.req = false) (hok : targetOk env f.ty o = true)
    (habs : After f.tag (readerAt env fuel fs olds r i).rest) :
    vs[i]? = some (absentVal env (fuel - 1 - i - 1) f.ty o) := by
  obtain ⟨F, v, r'', hF, h1, h2⟩ := decMembers_member env fs i fuel olds r r' vs h f o hf ho
  rw [hopt, decVar_absent_opt env F f.ty o hok _ f.tag habs.nextTagGt] at h1
  cases h1
  rw [h2, hF]; rfl

theorem decMembers_missing_req (env : Env) (fuel : Nat) (fs : List Field) (olds : List Val)
    (r : Reader) (i : Nat) (f : Field) (o : Val) (hf : fs[i]? = some f) (ho : olds[i]? = some o)
    (hreq : f.req = true) (hok : targetOk env f.ty o = true)
    (habs : After f.tag (readerAt env fuel fs olds r i).rest) :
    ∀ vs r', decMembers env fuel fs olds r ≠ (.ok vs, r') := by
  intro vs r' h
  obtain ⟨F, v, r'', _, h1, _⟩ := decMembers_member env fs i fuel olds r r' vs h f o hf ho
  obtain ⟨_, this⟩ := decVar_missing_req env F f.ty o hok _ f.tag habs.nextTagGt
  rw [← hreq, h1] at this; cases this

/-! ### `ReadFrom` on a whole struct -/

/-- the reader when member `i`'s turn comes in `st.ReadFrom(readBuf)` -/
def readerBefore (env : Env) (S : String) (old : Val) (r : Reader) (i : Nat) : Reader :=
  match env.find S, old with
  | some fs, .struct ovs =>
    readerAt env (decFuel env r) fs (resetDefault env (decFuel env r) fs ovs) r i
  | _, _ => r

theorem readerBefore_eq (env : Env) (S : String) (fs : List Field) (ovs : List Val) (r : Reader)
    (i : Nat) (hS : env.find S = some fs) :
    readerBefore env S (.struct ovs) r i
      = readerAt env (decFuel env r) fs (resetDefault env (decFuel env r) fs ovs) r i := by
  simp only [readerBefore, hS]

theorem resetDefault_decFuel_getElem? (env : Env) (r : Reader) (fs : List Field) (ovs : List Val)
    (i : Nat) (f : Field) (o : Val) (hf : fs[i]? = some f) (ho : ovs[i]? = some o) :
    (resetDefault env (decFuel env r) fs ovs)[i]? = some (resetMember env (decFuel env r - 1) f o) := by
  rw [decFuel_succ]
  exact resetDefault_getElem? env _ fs ovs i f o hf ho

theorem resetDefault_decFuel_length (env : Env) (r : Reader) (fs : List Field) (ovs : List Val)
    (h : ovs.length = fs.length) : (resetDefault env (decFuel env r) fs ovs).length = fs.length := by
  rw [decFuel_succ]; exact resetDefault_length env _ fs ovs h

theorem decStruct_ok_members {env : Env} {S : String} {fs : List Field} {ovs vs : List Val}
    {r r' : Reader} (hS : env.find S = some fs)
    (h : decStruct env S (.struct ovs) r = (.ok (.struct vs), r')) :
    decMembers env (decFuel env r) fs (resetDefault env (decFuel env r) fs ovs) r = (.ok vs, r') := by
  rw [decStruct_struct hS] at h
  rcases hm : decMembers env (decFuel env r) fs (resetDefault env (decFuel env r) fs ovs) r
    with ⟨e | vs', r1⟩ <;> rw [hm] at h <;> cases h
  rfl

theorem decStruct_absent_opt (env : Env) (S : String) (fs : List Field) (ovs vs : List Val)
    (r r' : Reader) (hS : env.find S = some fs)
    (h : decStruct env S (.struct ovs) r = (.ok (.struct vs), r'))
    (i : Nat) (f : Field) (o : Val) (hf : fs[i]? = some f) (ho : ovs[i]? = some o)
    (hopt : f.req = false) {w : Val} (hw : resetMember env (decFuel env r - 1) f o = w)
    (hok : targetOk env f.ty w = true)
    (habs : After f.tag (readerBefore env S (.struct ovs) r i).rest) :
    vs[i]? = some (absentVal env (decFuel env r - 1 - i - 1) f.ty w) := by
  subst hw
  rw [readerBefore_eq env S fs ovs r i hS] at habs
  exact decMembers_absent_opt env _ fs _ r r' vs (decStruct_ok_members hS h) i f _ hf
    (resetDefault_decFuel_getElem? env r fs ovs i f o hf ho) hopt hok habs

/-! ### fresh targets (Go zero values) -/

theorem freshStruct_eq (env : Env) (S : String) (fs : List Field) (h : env.find S = some fs) :
    freshStruct env S = .struct (fs.map fun f => zeroVal env env.length f.ty) := by
  unfold freshStruct zeroOf
  rw [zeroVal.eq_def]
  simp [h]

theorem targetOk_zeroVal (env : Env) (n : Nat) (ty : Ty) (h : isStructTy ty = false) :
    targetOk env ty (zeroVal env n ty) = true := by
  cases ty <;> first
    | (simp [isStructTy] at h; done)
    | (rw [zeroVal.eq_def]; simp [targetOk, scalarZero])

theorem targetOk_defaultOf (env : Env) (F : Nat) (f : Field) (hty : isStructTy f.ty = false)
    (hd : ∀ d, f.dflt = some d → targetOk env f.ty d = true) :
    targetOk env f.ty (defaultOf env F f) = true := by
  cases hdf : f.dflt with
  | some d => rw [defaultOf_dflt env F f d hdf]; exact hd d hdf
  | none =>
    cases harr : isArrStructTy f.ty with
    | false => rw [defaultOf_plain env F f hdf harr]; exact targetOk_zeroVal env _ _ hty
    | true =>
      cases hft : f.ty <;> rw [hft] at harr <;> simp [isArrStructTy] at harr
      simp [targetOk]

end Evolve
end Tars
