import TarsModel.Proofs.SkipIterSpec

/-!
  The iterative skip (`Model/SkipIter.lean`) computes what the recursive family computes: one
  `switch` step (`skipOne`) against `skipField`, then the simulation of the two loops against
  `unwind`, with a potential that bounds the number of loop steps.
-/
namespace Tars
namespace SkipIter
open Consts

/-! ### unfolding the two loops -/

theorem fields_succ (F ty : Nat) (stack : List Int) (r : Reader) :
    skipFieldsF (F+1) ty stack r
      = skipNextF F (skipOne ty stack r).1.1 (skipOne ty stack r).1.2 (skipOne ty stack r).2 := by
  rw [skipFieldsF]

theorem next_nil (F : Nat) (r : Reader) : skipNextF (F+1) none [] r = (.ok (), r) := by
  rw [skipNextF]

theorem next_some (F : Nat) (e : Err) (stack : List Int) (r : Reader) :
    skipNextF (F+1) (some e) stack r =
      if stack.dropWhile (· = skipPending) = [] then (.error e, r)
      else skipNextF F none (stack.dropWhile (· = skipPending)) r := by
  rw [skipNextF]

theorem next_pending_err (F : Nat) {rest : List Int} {r r' : Reader} {e : Err}
    (h : readHead r = (.error e, r')) :
    skipNextF (F+1) none (skipPending :: rest) r = skipNextF F (some e) (skipPending :: rest) r' := by
  rw [skipNextF]; simp [h]

theorem next_pending_end (F : Nat) {rest : List Int} {r r1 : Reader} {tg : Nat}
    (h : readHead r = (.ok (tyStructEnd, tg), r1)) :
    skipNextF (F+1) none (skipPending :: rest) r = skipNextF F none rest r1 := by
  rw [skipNextF]; simp [h]

theorem next_pending_field (F : Nat) {rest : List Int} {r r1 : Reader} {ty tg : Nat}
    (h : readHead r = (.ok (ty, tg), r1)) (hne : ty ≠ tyStructEnd) :
    skipNextF (F+1) none (skipPending :: rest) r = skipFieldsF F ty (skipPending :: rest) r1 := by
  rw [skipNextF]; simp [h, hne]

theorem next_count_done (F : Nat) {top : Int} (rest : List Int) (r : Reader)
    (hp : top ≠ skipPending) (h0 : top ≤ 0) :
    skipNextF (F+1) none (top :: rest) r = skipNextF F none rest r := by
  rw [skipNextF]; simp [hp, h0]

theorem next_count_err (F : Nat) {top : Int} {rest : List Int} {r r' : Reader} {e : Err}
    (hp : top ≠ skipPending) (h0 : 0 < top) (h : readHead r = (.error e, r')) :
    skipNextF (F+1) none (top :: rest) r = skipNextF F (some e) rest r' := by
  have : ¬ top ≤ 0 := by omega
  rw [skipNextF]; simp [hp, this, h]

theorem next_count_field (F : Nat) {top : Int} {rest : List Int} {r r1 : Reader} {ty tg : Nat}
    (hp : top ≠ skipPending) (h0 : 0 < top) (h : readHead r = (.ok (ty, tg), r1)) :
    skipNextF (F+1) none (top :: rest) r = skipFieldsF F ty ((top - 1) :: rest) r1 := by
  have : ¬ top ≤ 0 := by omega
  rw [skipNextF]; simp [hp, this, h]

/-! ### one step of the `switch` -/

theorem skipOne_leaf (ty : Nat) (stack : List Int) (r : Reader)
    (h1 : ty ≠ tyMAP) (h2 : ty ≠ tyLIST) (h3 : ty ≠ tyStructBegin) :
    skipOne ty stack r = ((errOf (skipField 1 ty r).1, stack), (skipField 1 ty r).2) := by
  by_cases c0 : ty = tyBYTE
  · subst c0; simp +decide [skipOne, skipField, errOf, skip_fst]
  by_cases c1 : ty = tySHORT
  · subst c1; simp +decide [skipOne, skipField, errOf, skip_fst]
  by_cases c2 : ty = tyINT
  · subst c2; simp +decide [skipOne, skipField, errOf, skip_fst]
  by_cases c3 : ty = tyLONG
  · subst c3; simp +decide [skipOne, skipField, errOf, skip_fst]
  by_cases c4 : ty = tyFLOAT
  · subst c4; simp +decide [skipOne, skipField, errOf, skip_fst]
  by_cases c5 : ty = tyDOUBLE
  · subst c5; simp +decide [skipOne, skipField, errOf, skip_fst]
  by_cases c6 : ty = tySTRING1
  · subst c6
    rcases h : readByte r with ⟨_ | d, r1⟩ <;> simp +decide [skipOne, skipField, h, errOf, skip_fst]
  by_cases c7 : ty = tySTRING4
  · subst c7
    rcases h : bReadU 4 r with ⟨_ | d, r1⟩ <;> simp +decide [skipOne, skipField, h, errOf, skip_fst]
  by_cases c8 : ty = tySimpleList
  · subst c8
    rcases h : readHead r with ⟨e | ⟨tyCur, tg⟩, r1⟩
    · -- Go tests `tyCur != BYTE` before `err`: which error it is depends on the byte that was there
      cases hd : r.data[r.pos]? with
      | none => simp +decide [skipOne, skipField, skipSimpleListM, h, hd, errOf]
      | some d =>
        by_cases hb : d.val % 16 = tyBYTE <;>
          simp +decide [skipOne, skipField, skipSimpleListM, h, hd, hb, errOf]
    · by_cases hb : tyCur = tyBYTE
      · rcases hl : readLen r1 with ⟨_ | len, r2⟩
        · simp +decide [skipOne, skipField, skipSimpleListM, h, hb, hl, errOf]
        · simp +decide [skipOne, skipField, skipSimpleListM, h, hb, hl, errOf]
          rw [skip_eq]
      · simp +decide [skipOne, skipField, skipSimpleListM, h, hb, errOf]
  by_cases c9 : ty = tyStructEnd
  · subst c9; simp +decide [skipOne, skipField, errOf]
  by_cases c10 : ty = tyZeroTag
  · subst c10; simp +decide [skipOne, skipField, errOf]
  simp [skipOne, skipField, errOf, c0, c1, c2, c3, c4, c5, c6, c7, c8, c9, c10, h1, h2, h3]

theorem skipOne_list_err (stack : List Int) {r r' : Reader} {e : Err} (h : readLen r = (.error e, r')) :
    skipOne tyLIST stack r = ((some e, stack), r') := by simp +decide [skipOne, h]
theorem skipOne_list_ok (stack : List Int) {r r1 : Reader} {len : Int} (h : readLen r = (.ok len, r1)) :
    skipOne tyLIST stack r = ((none, if len > 0 then len :: stack else stack), r1) := by
  simp +decide [skipOne, h]
theorem skipOne_map_err (stack : List Int) {r r' : Reader} {e : Err} (h : readLen r = (.error e, r')) :
    skipOne tyMAP stack r = ((some e, stack), r') := by simp +decide [skipOne, h]
theorem skipOne_map_ok (stack : List Int) {r r1 : Reader} {len : Int} (h : readLen r = (.ok len, r1)) :
    skipOne tyMAP stack r
      = ((none, if wrapS 32 (len * 2) > 0 then wrapS 32 (len * 2) :: stack else stack), r1) := by
  simp +decide [skipOne, h]
theorem skipOne_struct (stack : List Int) (r : Reader) :
    skipOne tyStructBegin stack r = ((none, skipPending :: stack), r) := by simp +decide [skipOne]

theorem ne_pending_of_nonneg {n : Int} (h : 0 ≤ n) : n ≠ skipPending := by
  simp only [skipPending, skipPendingMarker]; omega

theorem skipOne_basic (ty : Nat) (stack : List Int) (r : Reader) :
    r.Le (skipOne ty stack r).2 ∧ (skipOne ty stack r).1.2.length ≤ stack.length + 1 ∧
    (∀ e, (skipOne ty stack r).1.1 = some e → (skipOne ty stack r).1.2 = stack) := by
  by_cases hM : ty = tyMAP
  · subst hM
    rcases h : readLen r with ⟨e | len, r1⟩
    · rw [skipOne_map_err stack h]; exact ⟨readLen_le h, by simp, fun _ _ => rfl⟩
    · rw [skipOne_map_ok stack h]
      refine ⟨readLen_le h, ?_, fun e he => by cases he⟩
      simp only; split <;> simp
  by_cases hL : ty = tyLIST
  · subst hL
    rcases h : readLen r with ⟨e | len, r1⟩
    · rw [skipOne_list_err stack h]; exact ⟨readLen_le h, by simp, fun _ _ => rfl⟩
    · rw [skipOne_list_ok stack h]
      refine ⟨readLen_le h, ?_, fun e he => by cases he⟩
      simp only; split <;> simp
  by_cases hS : ty = tyStructBegin
  · subst hS; rw [skipOne_struct]; exact ⟨Reader.Le.refl r, by simp, fun e he => by cases he⟩
  rw [skipOne_leaf ty stack r hM hL hS]
  exact ⟨skipField_le 1 ty r, by simp, fun _ _ => rfl⟩

theorem skipOne_spec (K ty : Nat) (stack : List Int) (r : Reader) (hK : Big K r) :
    unwind (K+1) (skipOne ty stack r).1.1 (skipOne ty stack r).1.2 (skipOne ty stack r).2
      = after (K+1) (skipField (K+1) ty r) stack := by
  by_cases hM : ty = tyMAP
  · subst hM
    rcases h : readLen r with ⟨e | len, r1⟩
    · rw [skipOne_map_err stack h, Skip.skipField_map_err K h, after_err]
    · rw [skipOne_map_ok stack h, hK.skipField_map h]
      simp only
      by_cases hn : wrapS 32 (len * 2) > 0
      · rw [if_pos hn, unwind_count (K+1) none _ stack r1 (ne_pending_of_nonneg (by omega))]
      · rw [if_neg hn, Skip.skipElems_done K r1 (by omega), after_ok]
  by_cases hL : ty = tyLIST
  · subst hL
    rcases h : readLen r with ⟨e | len, r1⟩
    · rw [skipOne_list_err stack h, Skip.skipField_list_err K h, after_err]
    · rw [skipOne_list_ok stack h, hK.skipField_list h]
      simp only
      by_cases hn : len > 0
      · rw [if_pos hn, unwind_count (K+1) none _ stack r1 (ne_pending_of_nonneg (by omega))]
      · rw [if_neg hn, Skip.skipElems_done K r1 (by omega), after_ok]
  by_cases hS : ty = tyStructBegin
  · subst hS; rw [skipOne_struct, hK.skipField_structBegin, unwind_pending]
  rw [skipOne_leaf ty stack r hM hL hS, Skip.skipField_leaf K r hM hL hS]
  rfl

/-! ### the simulation -/

/-- potential of the outer loop: an upper bound on the loop steps still to come.  Every step of
    either loop lowers the potential by at least 1: an input byte is worth 4 (`readHead` or
    `readLen` took it: re-entering the outer loop costs 3 in the constant, the entry `skipOne`
    may push costs 2 — a pushed StructBegin is paid by the constant), a stack entry 2 (its pop,
    and the step that drops it after an error); the constants order the states at one position:
    outer loop 4 > inner loop after an error 2 > inner loop 1.  The inequalities `sim` needs:
    * `phiN e st' r' < phiF st r` where `skipOne` gave `(e, st', r')` (at most one push, none with
      an error; a StructBegin pushes without reading);
    * `phiN none (dropWhile … st) r < phiN (some e) st r`;
    * `phiN none rest r' < phiN none (top :: rest) r` for a pop (count used up, StructEnd read);
    * `phiF (top' :: rest) r1 < phiN none (top :: rest) r` where `readHead` took a byte (`r.Lt r1`);
    * `phiN (some e) st r' < phiN none (top :: rest) r` where it failed, `st` being `top :: rest`
      for an open struct and `rest` for a count. -/
def phiF (stack : List Int) (r : Reader) : Nat := 4 * r.remaining + 2 * stack.length + 4

def phiN : Option Err → List Int → Reader → Nat
  | none, stack, r => 4 * r.remaining + 2 * stack.length + 1
  | some _, stack, r => 4 * r.remaining + 2 * (stack.dropWhile (· = skipPending)).length + 2

theorem dropWhile_len (stack : List Int) :
    (stack.dropWhile (· = skipPending)).length ≤ stack.length :=
  (List.dropWhile_sublist _).length_le

theorem sim (K : Nat) : ∀ F : Nat,
    (∀ ty stack r, Big K r → phiF stack r ≤ F →
      skipFieldsF F ty stack r = after (K+1) (skipField (K+1) ty r) stack) ∧
    (∀ err stack r, Big K r → phiN err stack r ≤ F →
      skipNextF F err stack r = unwind (K+1) err stack r) := by
  intro F
  induction F with
  | zero =>
    refine ⟨fun ty stack r _ h => by unfold phiF at h; omega, fun err stack r _ h => ?_⟩
    cases err <;> simp only [phiN] at h <;> omega
  | succ F ih =>
    obtain ⟨ihF, ihN⟩ := ih
    refine ⟨fun ty stack r hK h => ?_, fun err stack r hK h => ?_⟩
    · obtain ⟨hle, hlen, hsame⟩ := skipOne_basic ty stack r
      have hrem := hle.remaining
      rw [fields_succ, ihN _ _ _ (hK.of_le hle), skipOne_spec K ty stack r hK]
      unfold phiF at h
      cases herr : (skipOne ty stack r).1.1 with
      | none => simp only [phiN]; omega
      | some e =>
        simp only [phiN]
        rw [hsame e herr]
        have := dropWhile_len stack
        omega
    · cases err with
      | some e =>
        simp only [phiN] at h
        rw [next_some, unwind_some]
        by_cases hd : stack.dropWhile (· = skipPending) = []
        · rw [if_pos hd, if_pos hd]
        · rw [if_neg hd, if_neg hd, ihN none _ r hK (by simp only [phiN]; omega)]
      | none =>
        cases stack with
        | nil => rw [next_nil]; rfl
        | cons top rest =>
          simp only [phiN, List.length_cons] at h
          by_cases hp : top = skipPending
          · subst hp
            rw [unwind_pending]
            rcases hh : readHead r with ⟨e | ⟨ty, tg⟩, r1⟩
            · have hle := ((readHead_step r).err hh).1
              have hrem := hle.remaining
              rw [next_pending_err F hh, ihN _ _ _ (hK.of_le hle), unwind_pending_err,
                Skip.skipToStructEnd_err K hh, after_err]
              simp only [phiN, List.dropWhile, decide_true]
              have := dropWhile_len rest
              omega
            · have hlt := (readHead_step r).ok hh
              have hrem := hlt.remaining
              by_cases hend : ty = tyStructEnd
              · subst hend
                have hse := Skip.skipField_structEnd K r1
                rw [next_pending_end F hh, ihN _ _ _ (hK.of_le hlt.le),
                  hK.skipToStructEnd_step hh hse, if_pos rfl, after_ok]
                simp only [phiN]; omega
              · rw [next_pending_field F hh hend, ihF _ _ _ (hK.of_le hlt.le)]
                · rcases hsf : skipField (K+1) ty r1 with ⟨e | _, r2⟩
                  · rw [hK.skipToStructEnd_field_err hh hsf, after_err, after_err, unwind_pending_err]
                  · rw [hK.skipToStructEnd_step hh hsf, if_neg hend, after_ok, unwind_pending]
                · unfold phiF; simp only [List.length_cons]; omega
          · rw [unwind_count (K+1) none top rest r hp]
            by_cases h0 : top ≤ 0
            · rw [next_count_done F rest r hp h0, ihN _ _ _ hK, Skip.skipElems_done K r h0, after_ok]
              simp only [phiN]; omega
            · have h0' : 0 < top := by omega
              rcases hh : readHead r with ⟨e | ⟨ty, tg⟩, r1⟩
              · have hle := ((readHead_step r).err hh).1
                have hrem := hle.remaining
                rw [next_count_err F hp h0' hh, ihN _ _ _ (hK.of_le hle),
                  Skip.skipElems_err K h0' hh, after_err]
                simp only [phiN]
                have := dropWhile_len rest
                omega
              · have hlt := (readHead_step r).ok hh
                have hrem := hlt.remaining
                rw [next_count_field F hp h0' hh, ihF _ _ _ (hK.of_le hlt.le),
                  hK.skipElems_step h0' hh]
                · unfold after
                  rw [unwind_count (K+1) _ (top - 1) rest _ (ne_pending_of_nonneg (by omega))]
                  rfl
                · unfold phiF; simp only [List.length_cons]; omega

/-! ### the two entry points -/

/-- `2·size + 7` is `r.fuel - 1` (`Reader.fuel_succ`): `Big K` speaks of the fuel `K + 1` -/
theorem big_fuel (r : Reader) : Big (2 * r.data.size + 7) r := by unfold Big; omega

/-- `4·remaining + 4 = phiF [] r` loop steps always suffice; `Reader.iterFuel = 6·size + 16` is more -/
theorem iterFuel_ge (r : Reader) : 4 * r.remaining + 4 ≤ r.iterFuel := by
  have := r.remaining_le_size
  unfold Reader.iterFuel; omega

theorem skipFieldsF_eq (F ty : Nat) (r : Reader) (hF : 4 * r.remaining + 4 ≤ F) :
    skipFieldsF F ty [] r = skipField r.fuel ty r := by
  rw [((sim _ F).1 ty [] r (big_fuel r) hF), after_nil]; rfl

theorem skipFieldIter_eq (ty : Nat) (r : Reader) : skipFieldIter ty r = skipField r.fuel ty r :=
  skipFieldsF_eq _ ty r (iterFuel_ge r)

theorem skipToStructEndIter_eq (r : Reader) : skipToStructEndIter r = skipToStructEnd r.fuel r :=
  (skipFieldsF_eq _ tyStructBegin r (iterFuel_ge r)).trans ((big_fuel r).skipField_structBegin)

/-! ### the explicit stack stays small -/

/-- the stack never holds more entries than it held plus the bytes still unread (plus one in the
    outer loop: `StructBegin` pushes without reading) — for every amount of fuel -/
theorem stack_bound : ∀ F : Nat,
    (∀ ty stack r, maxStackFields F ty stack r ≤ stack.length + r.remaining + 1) ∧
    (∀ err stack r, maxStackNext F err stack r ≤ stack.length + r.remaining) := by
  intro F
  induction F with
  | zero =>
    refine ⟨fun ty stack r => ?_, fun err stack r => ?_⟩
    · rw [maxStackFields]; omega
    · rw [maxStackNext]; omega
  | succ F ih =>
    obtain ⟨ihF, ihN⟩ := ih
    refine ⟨fun ty stack r => ?_, fun err stack r => ?_⟩
    · obtain ⟨hle, hlen, _⟩ := skipOne_basic ty stack r
      have hrem := hle.remaining
      rw [maxStackFields]
      rcases hs : skipOne ty stack r with ⟨⟨err, st⟩, r1⟩
      rw [hs] at hlen hrem
      have := ihN err st r1
      simp only at hlen hrem ⊢
      omega
    · cases err with
      | some e =>
        rw [maxStackNext]
        have := ihN none (stack.dropWhile (· = skipPending)) r
        have := dropWhile_len stack
        split <;> omega
      | none =>
        cases stack with
        | nil => rw [maxStackNext]; omega
        | cons top rest =>
          rw [maxStackNext]
          simp only [List.length_cons]
          by_cases hp : top = skipPending
          · rw [if_pos hp]
            rcases hh : readHead r with ⟨e | ⟨ty, tg⟩, r1⟩
            · have hrem := ((readHead_step r).err hh).1.remaining
              have := ihN (some e) (top :: rest) r1
              simp only [List.length_cons] at this ⊢
              omega
            · have hrem := ((readHead_step r).ok hh).remaining
              simp only
              split
              · have := ihN none rest r1; omega
              · have := ihF ty (top :: rest) r1
                simp only [List.length_cons] at this
                omega
          · rw [if_neg hp]
            by_cases h0 : top ≤ 0
            · rw [if_pos h0]; have := ihN none rest r; omega
            · rw [if_neg h0]
              rcases hh : readHead r with ⟨e | ⟨ty, tg⟩, r1⟩
              · have hrem := ((readHead_step r).err hh).1.remaining
                have := ihN (some e) rest r1
                simp only
                omega
              · have hrem := ((readHead_step r).ok hh).remaining
                have := ihF ty ((top - 1) :: rest) r1
                simp only [List.length_cons] at this ⊢
                omega

theorem stack_bound_nil (F ty : Nat) (r : Reader) : maxStackFields F ty [] r ≤ r.remaining + 1 := by
  simpa using (stack_bound F).1 ty [] r

end SkipIter
end Tars
