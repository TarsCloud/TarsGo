import TarsModel.Model.AdapterPush
import TarsModel.Proofs.Lts

/-! The invariant of the adapter-level model of C11 (close notification). -/
namespace Tars.AdapterPush

/-- every generation whose notification was processed is older than the current one, every pending
packet comes from a generation that exists, and every request went to a generation whose
notification had not been processed when it was sent -/
structure Inv (s : State) : Prop where
  noticedOld : ∀ g ∈ s.noticed, g < s.gen
  inboxLe : ∀ x ∈ s.inbox, x.1 ≤ s.gen
  sendsFresh : ∀ x ∈ s.sends, x.gen ∉ x.noticed

theorem inv_init : Inv init := by
  constructor <;> simp [init]

theorem inv_step {s s' : State} {a : Action} (hi : Inv s) (h : step .reconnectFirst s a = some s') :
    Inv s' := by
  cases a with
  | setCallback =>
    simp only [step, Option.some.injEq] at h; subst h
    exact ⟨hi.noticedOld, hi.inboxLe, hi.sendsFresh⟩
  | pNotify g | pPush g d =>
    simp only [step] at h
    split at h
    · rename_i hg
      cases h
      exact ⟨hi.noticedOld, List.forall_mem_append.2 ⟨hi.inboxLe, List.forall_mem_singleton.2 hg.1⟩,
        hi.sendsFresh⟩
    · cases h
  | recv i =>
    simp only [step] at h
    split at h
    · rename_i g p hget
      cases h
      have hmem : (g, p) ∈ s.inbox := List.mem_of_getElem? hget
      have hg : g ≤ s.gen := hi.inboxLe _ hmem
      have hsub : ∀ x ∈ s.inbox.eraseIdx i, x.1 ≤ s.gen :=
        fun x hx => hi.inboxLe x (List.mem_of_mem_eraseIdx hx)
      cases p with
      | reconnect =>
        refine ⟨?_, ?_, hi.sendsFresh⟩
        · intro x hx
          simp only [onPush, List.mem_append, List.mem_singleton] at hx ⊢
          rcases hx with hx | rfl
          · have := hi.noticedOld x hx; omega
          · omega
        · intro x hx
          simp only [onPush] at hx ⊢
          have := hsub x hx; omega
      | data d =>
        simp only [onPush]
        split <;> exact ⟨hi.noticedOld, hsub, hi.sendsFresh⟩
    · cases h
  | graceDone j =>
    simp only [step] at h
    split at h
    · cases h
      exact ⟨hi.noticedOld, hi.inboxLe, hi.sendsFresh⟩
    · cases h
  | send id =>
    simp only [step, Option.some.injEq] at h; subst h
    exact ⟨hi.noticedOld, hi.inboxLe, List.forall_mem_append.2 ⟨hi.sendsFresh,
      List.forall_mem_singleton.2 fun hmem => Nat.lt_irrefl _ (hi.noticedOld _ hmem)⟩⟩

theorem isRun (v : Variant) : Lts.IsRun (step v) (runFrom v) :=
  ⟨fun _ => rfl, fun s a _ => by rw [runFrom]; cases step v s a <;> rfl⟩

theorem inv_run {acts : List Action} {s : State} (h : run .reconnectFirst acts = some s) : Inv s :=
  (isRun _).inv inv_step inv_init h

end Tars.AdapterPush
