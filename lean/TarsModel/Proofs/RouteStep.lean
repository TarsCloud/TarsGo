/-
  The primitives of the call-path LTS `Tars.Route.step` (C08, C09): what each action requires and which
  components of the state it touches.
-/
import TarsModel.Model.Route

namespace Tars.Route

/-! ### the pending-reply table -/

theorem mem_tDelete {t : List Entry} {a : Nat} {id : Int} {e : Entry} :
    e ∈ tDelete t a id ↔ e ∈ t ∧ e.is a id = false := by
  simp [tDelete, List.mem_filter]

theorem tLoad_some {t : List Entry} {a : Nat} {id : Int} {i : Nat} (h : tLoad t a id = some i) :
    ∃ e, e ∈ t ∧ e.adp = a ∧ e.id = id ∧ e.call = i := by
  unfold tLoad at h
  split at h
  · next e he =>
    injection h with h
    have h1 := List.find?_some he
    have h2 := List.mem_of_find?_eq_some he
    simp [Entry.is] at h1
    exact ⟨e, h2, h1.1, h1.2, h⟩
  · contradiction

theorem tLoad_store_same {t : List Entry} {a : Nat} {id : Int} {i : Nat} :
    tLoad (tStore t a id i) a id = some i := by
  simp [tLoad, tStore, Entry.is]

theorem Entry.is_other {e : Entry} {a a' : Nat} {id id' : Int} (he : e.is a id = true)
    (h : ¬ (a' = a ∧ id' = id)) : e.is a' id' = false := by
  simp only [Entry.is, Bool.and_eq_true, beq_iff_eq] at he
  simp only [Entry.is, Bool.and_eq_false_iff, beq_eq_false_iff_ne, ne_eq, he.1, he.2]
  by_cases ha : a = a'
  · exact .inr fun hid => h ⟨ha.symm, hid.symm⟩
  · exact .inl ha

theorem find_delete_other {t : List Entry} {a a' : Nat} {id id' : Int} (h : ¬ (a' = a ∧ id' = id)) :
    (tDelete t a id).find? (fun e => e.is a' id') = t.find? (fun e => e.is a' id') := by
  induction t with
  | nil => rfl
  | cons x xs ih =>
    simp only [tDelete, List.filter_cons] at *
    by_cases hx : x.is a id = true
    · simp only [hx, Bool.not_true, Bool.false_eq_true, ↓reduceIte, List.find?_cons, Entry.is_other hx h]
      exact ih
    · simp only [hx, Bool.not_false, ↓reduceIte, List.find?_cons]
      split
      · rfl
      · exact ih

theorem tLoad_delete_other {t : List Entry} {a a' : Nat} {id id' : Int} (h : ¬ (a' = a ∧ id' = id)) :
    tLoad (tDelete t a id) a' id' = tLoad t a' id' := by
  unfold tLoad; rw [find_delete_other h]

theorem tLoad_store_other {t : List Entry} {a a' : Nat} {id id' : Int} {i : Nat} (h : ¬ (a' = a ∧ id' = id)) :
    tLoad (tStore t a id i) a' id' = tLoad t a' id' := by
  unfold tLoad tStore
  rw [List.find?_cons, Entry.is_other (e := ⟨a, id, i⟩) (by simp [Entry.is]) h, find_delete_other h]

/-! ### the per-proxy counters -/

theorem qGet_qAdd {l : List Int} {p' p : Nat} {d : Int} (h : p' < l.length) :
    qGet (qAdd l p' d) p = qGet l p + (if p' = p then d else 0) := by
  unfold qAdd qGet
  rw [List.getElem?_set]
  by_cases hp : p' = p
  · subst hp; simp [h]
  · simp [hp]

theorem qAdd_length (l : List Int) (p : Nat) (d : Int) : (qAdd l p d).length = l.length := by
  simp [qAdd]

theorem qGet_qPad (l : List Int) (k p : Nat) : qGet (qPad l k) p = qGet l p := by
  unfold qGet qPad
  by_cases hp : p < l.length
  · rw [List.getElem?_append_left hp]
  · rw [List.getElem?_append_right (by omega)]
    have h1 : l[p]? = none := by simp; omega
    rw [h1]
    by_cases hq : p - l.length < k + 1 - l.length
    · simp [hq]
    · have : (List.replicate (k + 1 - l.length) (0 : Int))[p - l.length]? = none := by simp; omega
      rw [this]

theorem qPad_length_gt {l : List Int} {k : Nat} : k < (qPad l k).length := by
  simp [qPad]; omega

theorem qPad_length_ge {l : List Int} {k : Nat} : l.length ≤ (qPad l k).length := by
  simp [qPad]

/-! ### `step` read backwards -/

theorem lookupPc_offer {t : List Entry} {a : Nat} {p : Pkt} {j : Nat} (h : lookupPc t a p = .offer j) :
    tLoad t a p.id = some j ∧ p.id ≠ 0 ∧ p.oneway = false := by
  unfold lookupPc at h
  split at h
  · contradiction
  · split at h
    · contradiction
    · split at h
      · next i hi =>
        injection h with h; subst h
        refine ⟨hi, ?_, ?_⟩
        · simp_all [Consts.callPushId]
        · simp_all
      · contradiction

/-- what each guarded action requires and does (`spawn`, `kaCas`, `kaAdd` have no guard, their equation is
    `step` itself) -/
def StepSpec (cfg : Cfg) (s s' : State) : Action → Prop
  | .call i ca => ∃ c, s.calls[i]? = some c ∧ callStep cfg s i c ca = some s'
  | .emit a p => s' = { s with rcvs := s.rcvs ++ [⟨a, p, .decoded⟩], emitted := (a, p) :: s.emitted }
  | .garbage _ => s' = s
  | .lookup r => ∃ x, s.rcvs[r]? = some x ∧ s' = s.setRcv r { x with pc := lookupPc s.table x.adp x.pkt }
  | .deliver r => ∃ (x : Rcv) (i : Nat) (c : Call), s.rcvs[r]? = some x ∧ x.pc = .offer i ∧ s.calls[i]? = some c ∧
      c.pc = .wait ∧ s' = (s.setCall i { c with pc := .decQ (.reply x.pkt) }).setRcv r { x with pc := .delivered }
  | .giveUp r => ∃ x, s.rcvs[r]? = some x ∧ s' = s.setRcv r { x with pc := .dropped }
  | .drain a | .connClose a => ∃ k, s' = s.setConn a k
  | .kaTake p => p < s.queueLens.length ∧
      s' = { s with queueLens := qAdd s.queueLens p Consts.callQueueLenInc, kaHeld := p :: s.kaHeld }
  | .kaRelease p => p ∈ s.kaHeld ∧
      s' = { s with queueLens := qAdd s.queueLens p (-(Consts.callQueueLenInc : Int)), kaHeld := s.kaHeld.erase p }
  | _ => True

theorem StepSpec.of_step {cfg : Cfg} {s s' : State} {a : Action} (h : step cfg s a = some s') : StepSpec cfg s s' a := by
  cases a <;> (try trivial) <;> simp only [step] at h <;> (repeat' split at h) <;> (try contradiction) <;>
    (try (injection h with h; subst h))
  · exact ⟨_, ‹_›, h⟩
  · rfl
  · rfl
  · exact ⟨_, ‹_›, rfl⟩
  · exact ⟨_, _, _, ‹_›, ‹_›, ‹_›, ‹_›, rfl⟩
  · exact ⟨_, ‹_›, rfl⟩
  · exact ⟨_, rfl⟩
  · exact ⟨_, rfl⟩
  · exact ⟨‹_›, rfl⟩
  · exact ⟨‹_›, rfl⟩

/-! ### what the actions other than a caller's own step touch -/

/-- for a caller's own step this is `Summary.gen` -/
theorem step_gen {cfg : Cfg} {s s' : State} {a : Action} (h : step cfg s a = some s') :
    match a with
    | .call _ _ => True
    | _ => s'.gen = s.gen ∨ s'.gen = s.gen.cas ∨ s'.gen = s.gen.add := by
  have hs := StepSpec.of_step h
  cases a with
  | call i ca => trivial
  | deliver r => obtain ⟨_, _, _, _, _, _, _, rfl⟩ := hs; exact .inl rfl
  | kaCas => exact .inr (.inl (Option.some.inj h ▸ rfl))
  | kaAdd => exact .inr (.inr (Option.some.inj h ▸ rfl))
  | spawn _ => exact .inl (Option.some.inj h ▸ rfl)
  | emit _ _ | garbage _ => exact .inl (hs ▸ rfl)
  | lookup _ | giveUp _ => obtain ⟨_, _, rfl⟩ := hs; exact .inl rfl
  | drain _ | connClose _ => obtain ⟨_, rfl⟩ := hs; exact .inl rfl
  | kaTake _ | kaRelease _ => exact .inl (hs.2 ▸ rfl)

theorem step_calls {cfg : Cfg} {s s' : State} {a : Action} (h : step cfg s a = some s') :
    match a with
    | .spawn par => s'.calls = s.calls ++ [⟨par, .idle, 0, 0, 0⟩]
    | .call _ _ => True
    | .deliver _ => ∃ (i : Nat) (c : Call) (p : Pkt), s.calls[i]? = some c ∧ c.pc = .wait ∧
        s'.calls = s.calls.set i { c with pc := .decQ (.reply p) }
    | _ => s'.calls = s.calls := by
  have hs := StepSpec.of_step h
  cases a with
  | call i ca => trivial
  | deliver r =>
    obtain ⟨x, i, c, _, _, hc, hw, rfl⟩ := hs
    exact ⟨i, c, x.pkt, hc, hw, rfl⟩
  | spawn _ | kaCas | kaAdd => exact Option.some.inj h ▸ rfl
  | emit _ _ | garbage _ => exact hs ▸ rfl
  | lookup _ | giveUp _ => obtain ⟨_, _, rfl⟩ := hs; rfl
  | drain _ | connClose _ => obtain ⟨_, rfl⟩ := hs; rfl
  | kaTake _ | kaRelease _ => exact hs.2 ▸ rfl

/-- is `a` an action of a peer or of a `Recv` goroutine other than the hand-over? -/
def Action.isRecvSide : Action → Bool
  | .emit _ _ | .garbage _ | .lookup _ | .giveUp _ => true
  | _ => false

theorem recvSide_frame {cfg : Cfg} {s s' : State} {a : Action} (ha : a.isRecvSide = true)
    (h : step cfg s a = some s') :
    s'.calls = s.calls ∧ s'.table = s.table ∧ s'.queueLens = s.queueLens ∧ s'.invokeNum = s.invokeNum := by
  have hs := StepSpec.of_step h
  cases a <;> try contradiction
  · exact hs ▸ ⟨rfl, rfl, rfl, rfl⟩
  · exact hs ▸ ⟨rfl, rfl, rfl, rfl⟩
  · obtain ⟨_, _, rfl⟩ := hs; exact ⟨rfl, rfl, rfl, rfl⟩
  · obtain ⟨_, _, rfl⟩ := hs; exact ⟨rfl, rfl, rfl, rfl⟩

theorem lookup_miss {cfg : Cfg} {s s' : State} {r : Nat} {x : Rcv} (hx : s.rcvs[r]? = some x)
    (hm : tLoad s.table x.adp x.pkt.id = none) (h : step cfg s (.lookup r) = some s') :
    ∃ pc, (pc = .dropped ∨ pc = .pushed) ∧ s' = s.setRcv r { x with pc := pc } := by
  obtain ⟨x', hx', rfl⟩ := StepSpec.of_step h
  obtain rfl : x = x' := Option.some.inj (hx.symm.trans hx')
  refine ⟨_, ?_, rfl⟩
  unfold lookupPc
  split
  · exact Or.inr rfl
  · split
    · exact Or.inl rfl
    · rw [hm]; exact Or.inl rfl

end Tars.Route
