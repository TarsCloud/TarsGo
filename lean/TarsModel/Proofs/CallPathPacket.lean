import TarsModel.Model.CallPath
import TarsModel.Proofs.FrameLoop
import TarsModel.Proofs.SchemaTop
import TarsModel.Proofs.SchemaCheck

/-!
# Request / response packets and their frames: the struct round trip of C03 instantiated for
  `requestf.RequestPacket` / `ResponsePacket`, and `TarsRequest` on one whole frame
-/
namespace Tars.CallPath
open Tars Consts

theorem toS8_byte : ∀ b : Byte, byte (toU 8 (toS 8 b.val)) = b := by decide +kernel

theorem toS8_range (b : Byte) : -(2:Int)^7 ≤ toS 8 b.val ∧ toS 8 b.val < (2:Int)^7 := by
  have := b.isLt
  simp only [toS]
  split <;> omega

theorem int8Bytes_bytesToVals (bs : Bytes) : int8Bytes (bytesToVals true bs) = bs := by
  induction bs with
  | nil => rfl
  | cons b bs ih =>
    simp only [bytesToVals, int8Bytes, List.map_cons, if_true] at ih ⊢
    rw [ih, toS8_byte]

theorem valBuf_bufVal (bs : Bytes) : valBuf (bufVal bs) = some bs := by
  simp [valBuf, bufVal, int8Bytes_bytesToVals]

theorem WTs_bytesToVals (env : Env) (bs : Bytes) : WTs env .i8 (bytesToVals true bs) := by
  induction bs with
  | nil => simp [bytesToVals, WTs]
  | cons b bs ih =>
    simp only [bytesToVals, List.map_cons, if_true, WTs] at ih ⊢
    exact ⟨by simpa only [WT, ScalarOK] using toS8_range b, ih⟩

theorem WT_bufVal (env : Env) (bs : Bytes) (h : bs.length < 2 ^ 31) : WT env (.vec .i8) (bufVal bs) := by
  simp only [bufVal, WT]
  exact ⟨by simpa [bytesToVals] using h, WTs_bytesToVals env bs⟩

theorem normElems_bytesToVals (env : Env) (bs : Bytes) :
    normElems env .i8 (bytesToVals true bs) = bytesToVals true bs :=
  normElems_atom env rfl _ (WTs_bytesToVals env bs)

theorem normVar_bufVal (env : Env) (req : Bool) (bs : Bytes) :
    normVar env req (.vec .i8) none (bufVal bs) = bufVal bs := by
  simp [bufVal, normVar, normElems_bytesToVals]

/-- a Go `map[string]string` that fits a packet: keys distinct (it is a map), fewer than 2^31
    entries, strings shorter than 2^32 bytes -/
def MapOK (m : StrMap) : Prop :=
  m.length < 2 ^ 31 ∧ m.Pairwise (fun a b => a.1 ≠ b.1) ∧
  ∀ p ∈ m, p.1.length < 2 ^ 32 ∧ p.2.length < 2 ^ 32

theorem mapOK_nil : MapOK [] := ⟨by decide, List.Pairwise.nil, fun _ h => by cases h⟩

theorem valMap_mapVal (m : StrMap) : valMap (mapVal m) = some m := by
  simp only [valMap, mapVal]
  induction m with
  | nil => rfl
  | cons p m ih => simp [valMapAux, ih]

theorem WT_mapVal (env : Env) (m : StrMap) (h : MapOK m) : WT env mapStrStr (mapVal m) := by
  obtain ⟨h1, h2, h3⟩ := h
  simp only [mapVal, mapStrStr, WT]
  refine ⟨by simpa using h1, ?_, ?_⟩
  · unfold KeysDistinct
    rw [List.pairwise_map]
    exact h2.imp (fun {a b} hab => by simpa [keyEq] using hab)
  · clear h1 h2
    induction m with
    | nil => simp [WTp]
    | cons p m ih =>
      simp only [List.map_cons, WTp]
      have hp := h3 p (by simp)
      exact ⟨by simpa only [WT, ScalarOK] using hp.1, by simpa only [WT, ScalarOK] using hp.2,
        ih (fun q hq => h3 q (by simp [hq]))⟩

theorem normVar_mapVal (env : Env) (req : Bool) (m : StrMap) :
    normVar env req mapStrStr none (mapVal m) = mapVal m := by
  simp only [mapVal, mapStrStr, normVar]
  congr 1
  induction m with
  | nil => rfl
  | cons p m ih => simp only [List.map_cons, normPairs, ih]; simp [normVar]

/-- the ranking `EnvWF` asks for: no packet struct contains a struct by value, so rank 0 does -/
def rk0 : String → Nat := fun _ => 0

theorem packetEnv_wf : EnvWF packetEnv rk0 := EnvWF.of_check (by decide)

theorem find_req : packetEnv.find reqPacketName = some reqPacketFields := by
  simp [packetEnv, Env.find]

theorem find_rsp : packetEnv.find rspPacketName = some rspPacketFields := by
  simp +decide [packetEnv, Env.find, reqPacketName, rspPacketName]

abbrev I16 (i : Int) : Prop := -(2:Int)^15 ≤ i ∧ i < (2:Int)^15
abbrev I8 (i : Int) : Prop := -(2:Int)^7 ≤ i ∧ i < (2:Int)^7
abbrev I32 (i : Int) : Prop := -(2:Int)^31 ≤ i ∧ i < (2:Int)^31

/-- the members of a request packet are in the range of their Go types -/
structure ReqPacketOK (p : ReqPacket) : Prop where
  ver : I16 p.iVersion
  pt  : I8 p.cPacketType
  mt  : I32 p.iMessageType
  id  : I32 p.iRequestId
  sn  : p.sServantName.length < 2 ^ 32
  fn  : p.sFuncName.length < 2 ^ 32
  buf : p.sBuffer.length < 2 ^ 31
  to  : I32 p.iTimeout
  ctx : MapOK p.context
  st  : MapOK p.status

structure RspPacketOK (p : RspPacket) : Prop where
  ver  : I16 p.iVersion
  pt   : I8 p.cPacketType
  id   : I32 p.iRequestId
  mt   : I32 p.iMessageType
  ret  : I32 p.iRet
  buf  : p.sBuffer.length < 2 ^ 31
  st   : MapOK p.status
  desc : p.sResultDesc.length < 2 ^ 32
  ctx  : MapOK p.context

theorem reqPacket_wt (p : ReqPacket) (h : ReqPacketOK p) :
    WellTyped packetEnv rk0 reqPacketName p.toVal := by
  refine ⟨packetEnv_wf, ?_⟩
  simp only [ReqPacket.toVal, WT, find_req, reqPacketFields, WTm, ScalarOK]
  exact ⟨h.ver, h.pt, h.mt, h.id, h.sn, h.fn, WT_bufVal _ _ h.buf, h.to, WT_mapVal _ _ h.ctx,
    WT_mapVal _ _ h.st, trivial⟩

theorem rspPacket_wt (p : RspPacket) (h : RspPacketOK p) :
    WellTyped packetEnv rk0 rspPacketName p.toVal := by
  refine ⟨packetEnv_wf, ?_⟩
  simp only [RspPacket.toVal, WT, find_rsp, rspPacketFields, WTm, ScalarOK]
  exact ⟨h.ver, h.pt, h.id, h.mt, h.ret, WT_bufVal _ _ h.buf, WT_mapVal _ _ h.st, h.desc,
    WT_mapVal _ _ h.ctx, trivial⟩

theorem reqPacket_norm (p : ReqPacket) : norm packetEnv reqPacketName p.toVal = p.toVal := by
  simp only [norm, ReqPacket.toVal, normVar, find_req, reqPacketFields, normMembers,
    normVar_bufVal, normVar_mapVal]

theorem rspPacket_norm (p : RspPacket) : norm packetEnv rspPacketName p.toVal = p.toVal := by
  simp only [norm, RspPacket.toVal, normVar, find_rsp, rspPacketFields, normMembers,
    normVar_bufVal, normVar_mapVal]

theorem reqPacket_ofVal (p : ReqPacket) : ReqPacket.ofVal p.toVal = some p := by
  simp [ReqPacket.ofVal, ReqPacket.toVal, valBuf_bufVal, valMap_mapVal]

theorem rspPacket_ofVal (p : RspPacket) : RspPacket.ofVal p.toVal = some p := by
  simp [RspPacket.ofVal, RspPacket.toVal, valBuf_bufVal, valMap_mapVal]

theorem decStruct_mk0 {env : Env} {rk : String → Nat} {S : String} {v : Val}
    (hwt : WellTyped env rk S v) (hn : norm env S v = v) :
    (decStruct env S (freshStruct env S) (Reader.mk0 (encStruct env S v))).1 = .ok v := by
  rw [decStruct_rt env rk S v _ [] hwt (Or.inl rfl) (Reader.rest_mk0_append_nil _), hn]

theorem frame_drop4 (body : Bytes) : (Frame.frame body).drop 4 = body :=
  List.drop_left' (be_length 4 _)

theorem frame_not_short (body : Bytes) : ¬ (Frame.frame body).length < 4 := by
  rw [Frame.frame_length]; omega

theorem putUint32_zeros (body : Bytes) :
    putUint32 (zeros 4 ++ body) (zeros 4 ++ body).length = Frame.frame body := by
  simp only [putUint32, Frame.frame, zeros, List.length_append, List.length_replicate, Nat.add_comm]
  rfl

theorem requestPack_shape (p : ReqPacket) :
    requestPack p = Frame.frame (encStruct packetEnv reqPacketName p.toVal) := putUint32_zeros _

theorem rsp2Byte_shape (p : RspPacket) :
    rsp2Byte p = Frame.frame (encStruct packetEnv rspPacketName p.toVal) := putUint32_zeros _

theorem recvFirst_frame (maxLen : Int) (body : Bytes) (h1 : maxLen < 2 ^ 31)
    (h2 : ((Frame.frame body).length : Int) ≤ maxLen) :
    recvFirst maxLen (Frame.frame body) = .pkg (Frame.frame body) := by
  rw [Frame.frame_length] at h2
  have h := Frame.tarsRequest_wellFormed
    (Frame.wellFormed_frame (m := maxLen) (p := body) ⟨h2, by omega⟩) []
  rw [List.append_nil] at h
  rw [recvFirst, h]
  simp only [recvOf, protoPackageFull, transportPackageFull, if_true, List.take_length]

end Tars.CallPath

namespace Tars

mutual
/-- every map nested in the value has fewer than 2^30 entries: what `skipFieldMap`'s int32
    `length*2` needs.  For the values of a call the frame limit gives it (a map entry takes at
    least two bytes; `wf_of_parsable` in Proofs/Parsable), so no call-path theorem assumes it. -/
def mapsSmall : Val → Bool
  | .list vs => mapsSmallL vs
  | .map kvs => decide (2 * kvs.length < 2 ^ 31) && mapsSmallP kvs
  | .struct vs => mapsSmallL vs
  | _ => true
def mapsSmallL : List Val → Bool
  | [] => true
  | v :: vs => mapsSmall v && mapsSmallL vs
def mapsSmallP : List (Val × Val) → Bool
  | [] => true
  | (a, b) :: rest => mapsSmall a && mapsSmall b && mapsSmallP rest
end

end Tars

namespace Tars.CallPath
open Tars Consts

theorem mapsSmall_mapVal (m : StrMap) (h : 2 * m.length < 2 ^ 31) : mapsSmall (mapVal m) = true := by
  simp only [mapVal, mapsSmall, List.length_map, Bool.and_eq_true, decide_eq_true_eq]
  refine ⟨h, ?_⟩
  clear h
  induction m with
  | nil => rfl
  | cons p m ih => simp [mapsSmallP, mapsSmall, ih]

end Tars.CallPath
