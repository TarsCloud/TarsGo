/-
  Progress (no deadlock) and a termination measure for the pool model (C19).
-/
import TarsModel.Proofs.PoolInv

namespace Tars.Pool

/-- `w.WorkerQueue <- w` never blocks -/
theorem reg_has_room {cfg : Cfg} {s : State} (hi : Inv cfg s) {k : Wid}
    (hk : s.ws[k]? = some .reg) : s.idleQ.length < cfg.n := by
  have h1 := (hi.registered.join hk rfl).count
  have h2 := sumBy_le_length WPc.isWait WPc.isWait_le (s.ws.set k .wait)
  have h3 := hi.len
  simp only [List.length_append, List.length_set, List.length_singleton] at h1 h2
  omega

theorem worker_enabled {cfg : Cfg} {s : State} (hi : Inv cfg s) {k : Wid} {x : WPc}
    (hk : s.ws[k]? = some x) (hx : x.isWait = 0 ∧ x.isDead = 0 ∧ x.isAck = 0) :
    ∃ a : Action, a.isEnv = false ∧ (step cfg s a).isSome := by
  cases x with
  | reg => exact ⟨.wReg k, rfl, (Step.wReg hk (reg_has_room hi hk)).enabled⟩
  | got j => exact ⟨.start k j, rfl, (Step.start hk).enabled⟩
  | run j => exact ⟨.fin k j, rfl, (Step.fin hk).enabled⟩
  | wait => cases hx.1
  | stopAck => cases hx.2.2
  | dead => cases hx.2.1

theorem progress {cfg : Cfg} {s : State} (hi : Inv cfg s) (hn : 1 ≤ cfg.n)
    (hidle : s.rel = .idle → ∃ j, j ∈ s.submitted ∧ j ∉ s.done)
    (hret : s.rel ≠ .returned) :
    ∃ a : Action, a.isEnv = false ∧ (step cfg s a).isSome := by
  have hph := hi.phase
  have hlen := hi.len
  have hW := hi.idleCount
  have hD := hi.deadCnt
  have hA := hi.ackCnt
  cases hd : s.d with
  | sel =>
    rw [hd] at hph
    rcases phaseOk_iff.1 hph with hr | hr
    · cases hq : s.jobQ with
      | cons j rest => exact ⟨.dTake, rfl, (Step.dTake hd hq).enabled⟩
      | nil =>
        -- a submitted job that is neither done nor queued nor with the dispatcher is in a worker
        obtain ⟨j, hj, hjd⟩ := hidle hr
        have hc := hi.cons j
        have h1 : 0 < s.submitted.count j := List.count_pos_iff.mpr hj
        rw [hq, hd, List.count_eq_zero.mpr hjd] at hc
        obtain ⟨k, x, hk, hx⟩ := exists_of_sumBy_pos _ s.ws (show 0 < wcount j s.ws by
          simp only [DPc.jobs, List.count_nil] at hc; omega)
        exact worker_enabled hi hk (by cases x <;> simp [WPc.jobs] at hx <;> exact ⟨rfl, rfl, rfl⟩)
    · exact ⟨.relSend, rfl, (Step.relSend hr hd).enabled⟩
  | hold j =>
    cases hq : s.idleQ with
    | cons w rest => exact ⟨.dPick, rfl, (Step.dPick hd hq).enabled⟩
    | nil =>
      -- nobody waits, is dead or acknowledges: worker 0 can move
      rw [hd, hq] at hW
      rw [hd] at hD hA
      have hk : s.ws[0]? = some (s.ws[0]'(by omega)) := by simp
      exact worker_enabled hi hk ⟨sumBy_eq_zero hW.symm hk, sumBy_eq_zero hD hk, sumBy_eq_zero hA hk⟩
  | give j w =>
    have := hi.idleWait w (by simp [hd, DPc.picked])
    exact ⟨.dGive, rfl, (Step.dGive hd this).enabled⟩
  | stop i =>
    rw [hd] at hph hW hD hA
    by_cases hlt : i < cfg.n
    · -- some worker is not dead; it can move itself, or it waits and then is in `WorkerQueue`
      obtain ⟨k, x, hk, hx⟩ := exists_of_sumBy_lt WPc.isDead WPc.isDead_le s.ws
        (by simp only [DPc.stopIdx] at hD; omega)
      by_cases hw : x.isWait = 0
      · exact worker_enabled hi hk ⟨hw, hx, sumBy_eq_zero hA hk⟩
      · have := le_sumBy_of_get WPc.isWait hk
        cases hq : s.idleQ with
        | nil => rw [hq] at hW; simp only [DPc.picked, List.append_nil, List.length_nil] at hW; omega
        | cons w rest => exact ⟨.sTake, rfl, (Step.sTake hd hq hlt).enabled⟩
    · exact ⟨.dAck, rfl, (Step.dAck hd hlt (phaseOk_iff.1 hph).1).enabled⟩
  | stopSend i w =>
    have := hi.idleWait w (by simp [hd, DPc.picked])
    exact ⟨.sSend, rfl, (Step.sSend hd this).enabled⟩
  | stopWait i w => exact ⟨.sAck, rfl, (Step.sAck hd (hi.ackW i w hd)).enabled⟩
  | done =>
    rw [hd] at hph
    rcases phaseOk_iff.1 hph with hr | hr
    · exact ⟨.relRet, rfl, (Step.relRet hr).enabled⟩
    · exact absurd hr hret

/-! ### termination measure -/

def WPc.wt : WPc → Nat
  | .reg => 1 | .wait => 0 | .got _ => 3 | .run _ => 2 | .stopAck => 0 | .dead => 0

def DPc.wt (n : Nat) : DPc → Nat
  | .sel => 0 | .hold _ => 5 | .give _ _ => 4
  | .stop i => 3 * (n - i) + 1
  | .stopSend i _ => 3 * (n - i)
  | .stopWait i _ => 3 * (n - i) - 1
  | .done => 0

def RPc.wt (n : Nat) : RPc → Nat
  | .idle => 0 | .called => 3 * n + 3 | .sent => 1 | .acked => 1 | .returned => 0

/-- upper bound on the number of non-environment steps that can still happen without new work.
    Each weight is the number of own steps left to the goroutine at that location, plus what its
    next step hands to somebody else: a worker needs `got` 3 (start, fin, register), `run` 2,
    `reg` 1; the dispatcher's `give` is 4 = 1 + the 3 of the worker that then holds the job, `hold`
    5, a queued job 6; one round of the stop loop takes 3 steps, so `stop i` weighs
    `3 * (n - i) + 1` (the 1 for the final acknowledgement) and `called` one more than `stop 0` plus
    the `sent` it turns into. `stopWait`'s `- 1` is truncated: the step to `stop (i + 1)` lowers the
    weight only when `i < n`, which `variant` takes from `Inv.phase`. -/
def mu (cfg : Cfg) (s : State) : Nat :=
  6 * s.jobQ.length + sumBy WPc.wt s.ws + s.d.wt cfg.n + s.rel.wt cfg.n + s.retq.length

theorem variant {cfg : Cfg} {s s' : State} {a : Action} (hi : Inv cfg s)
    (h : step cfg s a = some s') (ha : a.isEnv = false) : mu cfg s' < mu cfg s := by
  have hph := hi.phase
  cases Step.of_step h
  case subCall | subSendBuf | subSendSync | relCall => cases ha
  case subRet j hj =>
    have : (s.retq.filter (· != j)).length < s.retq.length :=
      List.length_filter_lt_length_iff_exists.2 ⟨j, hj, by simp⟩
    simp only [mu]; omega
  case wReg w hw _ =>
    have := sumBy_set WPc.wt .wait hw
    simp only [mu, WPc.wt] at this ⊢; omega
  case dTake j rest hd hq => simp only [mu, hd, hq, DPc.wt, List.length_cons]; omega
  case dPick j w rest hd hq => simp only [mu, hd, DPc.wt]; omega
  case dGive j w hd hw =>
    have := sumBy_set WPc.wt (.got j) hw
    simp only [mu, hd, DPc.wt, WPc.wt] at this ⊢; omega
  case start w j hw =>
    have := sumBy_set WPc.wt (.run j) hw
    simp only [mu, WPc.wt] at this ⊢; omega
  case fin w j hw =>
    have := sumBy_set WPc.wt .reg hw
    simp only [mu, WPc.wt] at this ⊢; omega
  case relSend hr hd => simp only [mu, hr, hd, DPc.wt, RPc.wt]; omega
  case sTake i w rest hd hq hlt => simp only [mu, hd, DPc.wt]; omega
  case sSend i w hd hw =>
    have := sumBy_set WPc.wt .stopAck hw
    rw [hd] at hph
    have := (phaseOk_iff.1 hph).2
    simp only [mu, hd, DPc.wt, WPc.wt] at * ; omega
  case sAck i w hd hw =>
    have := sumBy_set WPc.wt .dead hw
    rw [hd] at hph
    have := (phaseOk_iff.1 hph).2
    simp only [mu, hd, DPc.wt, WPc.wt] at *; omega
  case dAck i hd hge hr => simp only [mu, hd, hr, DPc.wt, RPc.wt]; omega
  case relRet hr => simp only [mu, hr, RPc.wt]; omega

end Tars.Pool
