/-
  `admits` is sound: a history it accepts is the visible history of a run of the LTS; and what the
  visible history says about the state at its end.
-/
import TarsModel.Proofs.Logger

namespace Tars.Logger

/-- `Trace s h s'`: the LTS can go from `s` to `s'` performing exactly the visible events `h`
(and any internal steps in between) -/
inductive Trace (v : Variant) (cap : Nat) : State → List Event → State → Prop
  | nil (s : State) : Trace v cap s [] s
  | tau {s s' s'' : State} {h : List Event} (a : Action) : a.isTau = true →
      step v cap s a = some s' → Trace v cap s' h s'' → Trace v cap s h s''
  | vis {s s' s'' : State} {ev : Event} {h : List Event} :
      fire v cap s ev = some s' → Trace v cap s' h s'' → Trace v cap s (ev :: h) s''

theorem tauActions_isTau {s : State} {a : Action} (h : a ∈ tauActions s) : a.isTau = true := by
  simp only [tauActions, List.mem_append, List.mem_map, List.mem_cons, List.not_mem_nil, or_false] at h
  rcases h with ⟨e, _, rfl⟩ | h
  · rfl
  · rcases h with rfl | rfl | rfl | rfl | rfl | rfl | rfl | rfl <;> rfl

theorem tauSucc_step {v cap} {guide : Guide} {s x : State} (h : x ∈ tauSucc v cap guide s) :
    ∃ a, a.isTau = true ∧ step v cap s a = some x := by
  simp only [tauSucc, List.mem_filterMap, List.mem_filter] at h
  obtain ⟨a, ⟨ha, _⟩, hs⟩ := h
  exact ⟨a, tauActions_isTau ha, hs⟩

theorem mem_insertNew {seen : List State} {s x : State} (h : x ∈ insertNew seen s) :
    x ∈ seen ∨ x = s := by
  unfold insertNew at h
  split at h
  · exact Or.inl h
  · exact (List.mem_cons.mp h).symm

/-- `closure` and `admitsFrom` are the search of `Lts.IsSearch`, whatever the guide and the limit; an
event fires in at most one way, so `insertNew` is folded over a list of at most one state -/
theorem isSearch (v : Variant) (cap : Nat) (guide : Guide) (limit : Nat) :
    Lts.IsSearch (tauSucc v cap guide) (fun s ev => (fire v cap s ev).toList) insertNew
      (fun seen s => !known seen s) (fun ss => ss.foldl (fun m s => max m s.inCall.length) 0 + 8) limit
      (closure v cap guide) (admitsFrom v cap guide limit) where
  mem_ins := mem_insertNew
  zero _ _ := rfl
  nil _ _ := rfl
  cons _ _ _ _ := rfl
  done _ _ _ := rfl
  event ss ev rest i mx := by
    -- `admitsFrom` folds `match fire … with | some s' => insertNew acc s' | none => acc`: the fold over
    -- `toList`, case by case
    have hfold {f g : List State → State → List State} (h : ∀ acc s, f acc s = g acc s) (l : List State) :
        l.foldl f [] = l.foldl g [] := by rw [funext fun acc => funext (h acc)]
    simp only [admitsFrom]
    rw [hfold (g := fun acc s => (fire v cap s ev).toList.foldl insertNew acc)]
    · rfl
    · intro acc s; cases fire v cap s ev <;> rfl

theorem admitsFrom_sound {v cap} {guide : Guide} {limit : Nat} (h : List Event) (ss : List State)
    {r : List State × Nat} {i mx : Nat} (hne : ss ≠ [])
    (hok : admitsFrom v cap guide limit ss h i mx = .ok r) : ∃ x ∈ ss, ∃ x', Trace v cap x h x' :=
  (isSearch v cap guide limit).sound (Q := fun x h => ∃ x', Trace v cap x h x') (fun s => ⟨s, .nil s⟩)
    (fun hx ⟨x', t⟩ => let ⟨a, ha, hs⟩ := tauSucc_step hx; ⟨x', .tau a ha hs t⟩)
    (fun hf ⟨x', t⟩ => ⟨x', .vis (Option.mem_toList.mp hf) t⟩) h ss hne hok

theorem admitsFrom_init_sound {v cap} {guide : Guide} {limit : Nat} {h : List Event}
    {r : List State × Nat} (hok : admitsFrom v cap guide limit [init] h 0 1 = .ok r) :
    ∃ s, Trace v cap init h s := by
  obtain ⟨x, hx, x', ht⟩ := admitsFrom_sound h [init] (List.cons_ne_nil _ _) hok
  exact ⟨x', List.mem_singleton.mp hx ▸ ht⟩

theorem admits_sound {v cap} {h : List Event} {limit : Nat} (ha : admits v cap h limit = true) :
    ∃ s, Trace v cap init h s := by
  unfold admits admitsSearch at ha
  split at ha
  · rename_i r hok
    split at hok
    · rename_i r' hok'
      exact admitsFrom_init_sound hok'
    · exact admitsFrom_init_sound hok
  · contradiction

/-! ### from traces to states -/

theorem fire_logRet {v cap} {s s' : State} {e : Entry} (h : fire v cap s (.logRet e) = some s') :
    s.sent.find? (fun x => x.g == e.g) = some e ∧ step v cap s (.logRet e.g) = some s' := by
  rw [fire] at h
  split at h
  · next e' hf =>
    split at h
    · next he => exact ⟨he ▸ hf, h⟩
    · contradiction
  · contradiction

theorem fire_write {v cap} {s s' : State} {c : WriteCall} (h : fire v cap s (.write c) = some s') :
    ∃ e r, s.fpc = .writing e r ∧ e.call = c ∧ step v cap s .fWrite = some s' := by
  rw [fire] at h
  split at h
  · next e r hp =>
    split at h
    · next hc => exact ⟨e, r, hp, hc, h⟩
    · contradiction
  · contradiction

theorem fire_step {v cap} {s s' : State} {ev : Event} (h : fire v cap s ev = some s') :
    ∃ a, step v cap s a = some s' :=
  match ev, h with
  | .logCall e, h => ⟨.logCall e, h⟩
  | .flushCall, h => ⟨.flushCall, h⟩
  | .flushRet true, h => ⟨.flushDone, h⟩
  | .flushRet false, h => ⟨.flushTimeout, h⟩
  | .logRet _, h => ⟨_, (fire_logRet h).2⟩
  | .write _, h => let ⟨_, _, _, _, h⟩ := fire_write h; ⟨_, h⟩

theorem trace_preserves {v cap} {P : State → Prop}
    (hP : ∀ {s s' a}, P s → step v cap s a = some s' → P s') {s s' : State} {h : List Event}
    (t : Trace v cap s h s') (hs : P s) : P s' := by
  induction t with
  | nil s => exact hs
  | tau a _ hstep _ ih => exact ih (hP hs hstep)
  | vis hf _ ih =>
    obtain ⟨a, hstep⟩ := fire_step hf
    exact ih (hP hs hstep)

theorem trace_reachable {v cap} {s s' : State} {h : List Event} (t : Trace v cap s h s')
    (hr : Reachable v cap s) : Reachable v cap s' :=
  trace_preserves (fun hr hs => Reachable.step _ hr hs) t hr

theorem trace_split {v cap} {s s' : State} {h1 h2 : List Event} {ev : Event}
    (t : Trace v cap s (h1 ++ ev :: h2) s') :
    ∃ a b, Trace v cap s h1 a ∧ fire v cap a ev = some b ∧ Trace v cap b h2 s' := by
  generalize hh : h1 ++ ev :: h2 = h at t
  induction t generalizing h1 with
  | nil s => exact absurd hh (List.append_ne_nil_of_right_ne_nil _ (List.cons_ne_nil _ _))
  | tau x hx hs _ ih =>
    obtain ⟨a, b, t1, hf, t2⟩ := ih hh
    exact ⟨a, b, Trace.tau x hx hs t1, hf, t2⟩
  | @vis s0 s1 s2 e h hf tr ih =>
    cases h1 with
    | nil =>
      obtain ⟨rfl, rfl⟩ := List.cons.inj hh
      exact ⟨s0, s1, Trace.nil s0, hf, tr⟩
    | cons e1 h1' =>
      obtain ⟨rfl, hh'⟩ := List.cons.inj hh
      obtain ⟨a, b, t1, hf', t2⟩ := ih hh'
      exact ⟨a, b, Trace.vis hf t1, hf', t2⟩

theorem tau_preserves {v cap} {s s' : State} {a : Action} (ha : a.isTau = true)
    (hs : step v cap s a = some s') : s'.returned = s.returned ∧ s'.writes = s.writes := by
  cases Step.of_step hs <;> first | exact ⟨rfl, rfl⟩ | cases ha

theorem fire_obs {v cap} {s s' : State} {ev : Event} (hf : fire v cap s ev = some s') :
    s'.returned = s.returned ++ retsOf [ev] ∧ s'.writes = s.writes ++ writesOf [ev] := by
  have nil := fun l : List Entry => (List.append_nil l).symm
  have nil' := fun l : List WriteCall => (List.append_nil l).symm
  cases ev with
  | logRet e =>
    obtain ⟨hfind, hs⟩ := fire_logRet hf
    cases Step.of_step hs with
    | logRet _ e' hf' => cases hfind.symm.trans hf'; exact ⟨rfl, nil' _⟩
  | write c =>
    obtain ⟨e, r, hp, rfl, hs⟩ := fire_write hf
    cases Step.of_step hs with
    | fWrite e' r' hp' => cases hp.symm.trans hp'; exact ⟨nil _, rfl⟩
  -- for the other events `fire` is `step` of the action of the same name
  | logCall e | flushCall => rw [fire] at hf; cases Step.of_step hf; exact ⟨nil _, nil' _⟩
  | flushRet completed =>
    cases completed <;> rw [fire] at hf <;> cases Step.of_step hf <;> exact ⟨nil _, nil' _⟩

theorem retsOf_cons (ev : Event) (h : List Event) : retsOf (ev :: h) = retsOf [ev] ++ retsOf h := by
  cases ev <;> rfl

theorem writesOf_cons (ev : Event) (h : List Event) : writesOf (ev :: h) = writesOf [ev] ++ writesOf h := by
  cases ev <;> rfl

theorem writesOf_append (h1 h2 : List Event) : writesOf (h1 ++ h2) = writesOf h1 ++ writesOf h2 := by
  induction h1 with
  | nil => rfl
  | cons e h ih => rw [List.cons_append, writesOf_cons, ih, ← List.append_assoc, ← writesOf_cons]

theorem trace_obs {v cap} {s s' : State} {h : List Event} (t : Trace v cap s h s') :
    s'.returned = s.returned ++ retsOf h ∧ s'.writes = s.writes ++ writesOf h := by
  induction t with
  | nil s => exact ⟨(List.append_nil _).symm, (List.append_nil _).symm⟩
  | tau a ha hs _ ih =>
    obtain ⟨h1, h2⟩ := tau_preserves ha hs
    exact ⟨h1 ▸ ih.1, h2 ▸ ih.2⟩
  | @vis _ _ _ ev h hf _ ih =>
    obtain ⟨h1, h2⟩ := fire_obs hf
    rw [ih.1, ih.2, h1, h2, List.append_assoc, List.append_assoc, ← retsOf_cons, ← writesOf_cons]
    exact ⟨rfl, rfl⟩

/-- once `FlushLogger` has been entered with the calls `R` returned, `R` stays contained in
`returned` until the flush request and in `cutReturned` from then on -/
structure AfterCall (R : List Entry) (s : State) : Prop where
  notIdle : s.flush ≠ .idle
  called : s.flush = .called → ∀ e ∈ R, e ∈ s.returned
  later : s.flush ≠ .called → ∀ e ∈ R, e ∈ s.cutReturned

/-- only `logRet` and the actions of `FlushLogger` touch the fields `AfterCall` reads -/
theorem step_afterCall {v cap} {R : List Entry} {s s' : State} {a : Action}
    (h : AfterCall R s) (hs : step v cap s a = some s') : AfterCall R s' := by
  obtain ⟨h1, h2, h3⟩ := h
  cases Step.of_step hs with
  | logRet g e _ => exact ⟨h1, fun hc x hx => List.mem_append_left _ (h2 hc x hx), h3⟩
  | flushCall hp => exact absurd hp h1
  | flushSync hp => exact ⟨nofun, nofun, fun _ => h2 hp⟩
  | flushDone hp _ => exact ⟨nofun, nofun, fun _ => h3 (hp ▸ nofun)⟩
  | flushTimeout hp => exact ⟨nofun, nofun, fun _ => h3 (hp ▸ nofun)⟩
  | _ => exact ⟨h1, h2, h3⟩

/-- A history of the repaired LTS is complete. Cut the trace at `flushCall` (state `b` after it) and at
`flushRet true` (`a'` before, `b'` after): the calls returned in `pre` are `returned` at `b`,
`AfterCall` carries them into `cutReturned` up to `b'`; there the flush has completed, so the cut is
written (`completed_cut`, `cutRet`), and `writes` of `a'` is `writesOf` of the history so far. -/
theorem history_complete {cap : Nat} {pre mid post : List Event} {s : State}
    (t : Trace .repaired cap init (pre ++ [.flushCall] ++ mid ++ [.flushRet true] ++ post) s) :
    ∀ e ∈ retsOf pre, e.call ∈ writesOf (pre ++ mid) := by
  intro e he
  rw [List.append_assoc _ [_] post] at t
  obtain ⟨a', b', t0a', hD, _⟩ := trace_split t
  have t' := t0a'
  rw [List.append_assoc] at t'
  obtain ⟨a, b, t0a, hF, tba'⟩ := trace_split t'
  change step .repaired cap a .flushCall = _ at hF
  change step .repaired cap a' .flushDone = _ at hD
  have hret : a.returned = retsOf pre := (trace_obs t0a).1
  have hb : AfterCall (retsOf pre) b := by
    cases Step.of_step hF
    exact ⟨nofun, fun _ x hx => hret ▸ hx, fun hne => absurd rfl hne⟩
  have hb' := step_afterCall (trace_preserves step_afterCall tba' hb) hD
  have hi := inv_reachable (Reachable.step _ (trace_reachable t0a' Reachable.init) hD)
  have hw : a'.writes = writesOf (pre ++ [.flushCall] ++ mid) := (trace_obs t0a').2
  cases Step.of_step hD
  obtain ⟨c, hc, hcw⟩ := completed_cut hi rfl
  have hcall : e.call ∈ a'.writes :=
    hi.writesEq ▸ List.mem_map_of_mem (hcw.subset (hi.cutRet c hc (hb'.later nofun e he)))
  rw [hw, List.append_assoc, writesOf_append, writesOf_append] at hcall
  rw [writesOf_append]
  exact hcall

end Tars.Logger
