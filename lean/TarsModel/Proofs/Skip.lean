import TarsModel.Proofs.WireRead
import TarsModel.Proofs.WireSkip

/-! The skip family on rendered fields (`WFField`): `skipField` consumes the body of every well-formed
    field exactly (`C04_skip_exact`), and `SkipToNoCheck` passes over well-formed fields with a lower
    tag (`C04_unknown_ignored` rests on it).  Last, the narrowest integer field `intField`, which
    every integer writer and every length prefix emits. -/
namespace Tars
namespace Skip
open Consts WFField

theorem ty_lt (f : WFField) : f.ty < 16 := by cases f <;> simp +decide [ty]

theorem ty_ne_structEnd (f : WFField) : f.ty ≠ tyStructEnd := by cases f <;> simp +decide [ty]

theorem tag_lt (f : WFField) (h : f.wf = true) : f.tag < 256 := by
  cases f <;> simp only [wf, Bool.and_eq_true, decide_eq_true_eq] at h <;> simp only [tag] <;> omega

theorem render_length (f : WFField) :
    (render f).length = (writeHead f.ty f.tag).length + (body f).length := by
  simp [render]

theorem render_length_pos (f : WFField) : 0 < (render f).length := by
  have := writeHead_length_pos f.ty f.tag
  rw [render_length]; omega

theorem renderList_cons (f : WFField) (fs : List WFField) :
    renderList (f :: fs) = render f ++ renderList fs := by
  simp [renderList, render]

theorem renderPairs_cons (k v : WFField) (rest : List (WFField × WFField)) :
    renderPairs ((k, v) :: rest) = render k ++ render v ++ renderPairs rest := by
  simp [renderPairs, render]

theorem lenField_length_pos (n : Nat) : 0 < (lenField n).length := by
  -- every branch of the writers' cascade begins with a head
  unfold lenField writeInt32 writeInt16 writeInt8
  repeat' split
  all_goals first
    | exact writeHead_length_pos _ _
    | exact List.length_append ▸ Nat.lt_of_lt_of_le (writeHead_length_pos _ _) (Nat.le_add_right _ _)

/-! ### one unfolding lemma per wire type that does not recurse (the others: `Proofs/WireSkip.lean`) -/

section unfold
variable (F : Nat) (r : Reader)
theorem skipField_byte : skipField (F+1) tyBYTE r = skip 1 r := by simp [skipField]
theorem skipField_short : skipField (F+1) tySHORT r = skip 2 r := by simp +decide [skipField]
theorem skipField_int : skipField (F+1) tyINT r = skip 4 r := by simp +decide [skipField]
theorem skipField_long : skipField (F+1) tyLONG r = skip 8 r := by simp +decide [skipField]
theorem skipField_float : skipField (F+1) tyFLOAT r = skip 4 r := by simp +decide [skipField]
theorem skipField_double : skipField (F+1) tyDOUBLE r = skip 8 r := by simp +decide [skipField]
theorem skipField_string1 {d : Byte} {r1 : Reader} (h : readByte r = (.ok d, r1)) :
    skipField (F+1) tySTRING1 r = skip (d.val : Int) r1 := by simp +decide [skipField, h]
theorem skipField_string4 {l : Nat} {r1 : Reader} (h : bReadU 4 r = (.ok l, r1)) :
    skipField (F+1) tySTRING4 r = skip (l : Int) r1 := by simp +decide [skipField, h]
theorem skipField_simpleList {tg : Nat} {len : Int} {r1 r2 : Reader}
    (h1 : readHead r = (.ok (tyBYTE, tg), r1)) (h2 : readLen r1 = (.ok len, r2)) :
    skipField (F+1) tySimpleList r = skip len r2 := by simp +decide [skipField, h1, h2]
theorem skipField_zero : skipField (F+1) tyZeroTag r = (.ok (), r) := by
  simp +decide [skipField]
end unfold

theorem cost_pos (f : WFField) : 0 < cost f := by cases f <;> simp only [cost] <;> omega

theorem readHead_render (r : Reader) (f : WFField) (hf : f.wf = true) (t : Bytes)
    (h : r.rest = render f ++ t) :
    readHead r = (.ok (f.ty, f.tag), r.adv (writeHead f.ty f.tag).length) ∧
    (r.adv (writeHead f.ty f.tag).length).rest = body f ++ t := by
  have h' : r.rest = writeHead f.ty f.tag ++ (body f ++ t) := by simpa [render] using h
  exact ⟨readHead_writeHead f.ty f.tag (ty_lt f) (tag_lt f hf) r _ h', r.rest_adv h'⟩

theorem skipElems_render (e : WFField) (he : e.wf = true) (F : Nat) (n : Int) (hn : 0 < n) (r : Reader)
    (t : Bytes) (h : r.rest = render e ++ t)
    (hex : ∀ r1 : Reader, r1.rest = body e ++ t →
      skipField F e.ty r1 = (.ok (), r1.adv (body e).length)) :
    skipElems (F+1) n r = skipElems F (n - 1) (r.adv (render e).length) ∧
      (r.adv (render e).length).rest = t := by
  obtain ⟨h1, hr1⟩ := readHead_render r e he t h
  rw [skipElems_step F hn h1, hex _ hr1, Reader.adv_adv, ← render_length]
  exact ⟨rfl, r.rest_adv h⟩

/-! ### exactness: mutual structural recursion over the nested inductive -/

mutual
theorem skipField_exact (f : WFField) (hf : f.wf = true) (fuel : Nat) (hfuel : cost f ≤ fuel)
    (r : Reader) (t : Bytes) (h : r.rest = body f ++ t) :
    skipField fuel f.ty r = (.ok (), r.adv (body f).length) := by
  obtain ⟨F, rfl⟩ := Nat.exists_eq_add_one.mpr (Nat.lt_of_lt_of_le (cost_pos f) hfuel)
  cases f with
  | byte tg b => exact (skipField_byte F r).trans (skip_eq 1 r)
  | short tg x => exact (skipField_short F r).trans ((skip_eq 2 r).trans (by rw [body, be_length]; rfl))
  | int tg x => exact (skipField_int F r).trans ((skip_eq 4 r).trans (by rw [body, be_length]; rfl))
  | long tg x => exact (skipField_long F r).trans ((skip_eq 8 r).trans (by rw [body, be_length]; rfl))
  | float tg x => exact (skipField_float F r).trans ((skip_eq 4 r).trans (by rw [body, be_length]; rfl))
  | double tg x => exact (skipField_double F r).trans ((skip_eq 8 r).trans (by rw [body, be_length]; rfl))
  | string1 tg s =>
    simp [wf] at hf
    simp only [body] at h ⊢
    have hb := readByte_cons r _ _ (by simpa using h)
    simp only [WFField.ty]
    rw [skipField_string1 F r hb, byte_val, Nat.mod_eq_of_lt (by omega), skip_eq]
    simp [Nat.add_comm]
  | string4 tg s =>
    simp [wf] at hf
    simp only [body] at h ⊢
    have hb := bReadU_reads 4 s.length (by omega) r (s ++ t) (by simpa using h)
    simp only [WFField.ty]
    rw [skipField_string4 F r hb, skip_eq]
    simp
  | zero tg => simp [WFField.ty, skipField_zero, body]
  | map tg kvs =>
    simp [wf] at hf
    obtain ⟨⟨_, hn⟩, hw⟩ := hf
    simp only [body] at h ⊢
    simp only [cost] at hfuel
    have h' : r.rest = lenField kvs.length ++ (renderPairs kvs ++ t) := by simpa using h
    have hl := readLen_lenField (by omega) r _ h'
    have hr := r.rest_adv h'
    simp only [WFField.ty]
    rw [skipField_map F hl]
    have hwrap : wrapS 32 ((kvs.length : Int) * 2) = ((2 * kvs.length : Nat) : Int) := by
      rw [show (kvs.length : Int) * 2 = ((2 * kvs.length : Nat) : Int) by omega]
      exact wrapS32_len _ (by omega)
    rw [hwrap, skipPairs_exact kvs hw F (by omega) _ t _ rfl hr]
    simp
  | list tg es =>
    simp [wf] at hf
    obtain ⟨⟨_, hn⟩, hw⟩ := hf
    simp only [body] at h ⊢
    simp only [cost] at hfuel
    have h' : r.rest = lenField es.length ++ (renderList es ++ t) := by simpa using h
    have hl := readLen_lenField hn r _ h'
    have hr := r.rest_adv h'
    simp only [WFField.ty]
    rw [skipField_list F hl, skipElems_exact es hw F (by omega) _ t _ rfl hr]
    simp
  | simpleList tg bs =>
    simp [wf] at hf
    simp only [body] at h ⊢
    have h' : r.rest = writeHead tyBYTE 0 ++ (lenField bs.length ++ (bs ++ t)) := by simpa using h
    have h1 := readHead_writeHead tyBYTE 0 (by decide) (by decide) r _ h'
    have hr1 := r.rest_adv h'
    have h2 := readLen_lenField hf.2 _ (bs ++ t) hr1
    simp only [WFField.ty]
    rw [skipField_simpleList F r h1 h2, skip_eq]
    simp [Nat.add_assoc]
  | struct tg ms =>
    simp [wf] at hf
    simp only [body] at h ⊢
    simp only [cost] at hfuel
    simp only [WFField.ty]
    rw [skipField_structBegin, skipStruct_exact ms hf.2 F (by omega) r t (by simpa using h)]
    simp

theorem skipElems_exact (es : List WFField) (hw : wfElems es = true) (fuel : Nat)
    (hfuel : costList es ≤ fuel) (r : Reader) (t : Bytes) (n : Int) (hn : n = es.length)
    (h : r.rest = renderList es ++ t) :
    skipElems fuel n r = (.ok (), r.adv (renderList es).length) := by
  obtain ⟨F, rfl⟩ := Nat.exists_eq_add_one.mpr (show 0 < fuel by cases es <;> simp [costList] at hfuel <;> omega)
  cases es with
  | nil => subst hn; simp [skipElems_done, renderList]
  | cons e es =>
    simp [wfElems] at hw
    obtain ⟨⟨_, he⟩, hw⟩ := hw
    simp only [costList] at hfuel
    rw [renderList_cons] at h ⊢
    simp only [List.length_cons] at hn
    obtain ⟨h1, hr1⟩ := skipElems_render e he F n (by omega) r (renderList es ++ t) (by simpa using h)
      (fun r1 => skipField_exact e he F (by omega) r1 _)
    rw [h1, skipElems_exact es hw F (by omega) _ t (n - 1) (by omega) hr1]
    simp

theorem skipPairs_exact (kvs : List (WFField × WFField)) (hw : wfPairs kvs = true) (fuel : Nat)
    (hfuel : costPairs kvs ≤ fuel) (r : Reader) (t : Bytes) (n : Int) (hn : n = (2 * kvs.length : Nat))
    (h : r.rest = renderPairs kvs ++ t) :
    skipElems fuel n r = (.ok (), r.adv (renderPairs kvs).length) := by
  obtain ⟨F, rfl⟩ := Nat.exists_eq_add_one.mpr (show 0 < fuel by cases kvs <;> simp [costPairs] at hfuel <;> omega)
  cases kvs with
  | nil => subst hn; simp [skipElems_done, renderPairs]
  | cons p kvs =>
    obtain ⟨k, v⟩ := p
    simp [wfPairs] at hw
    obtain ⟨⟨⟨⟨_, _⟩, hk⟩, hv⟩, hw⟩ := hw
    simp only [costPairs] at hfuel
    obtain ⟨F', rfl⟩ := Nat.exists_eq_add_one.mpr (show 0 < F by omega)
    rw [renderPairs_cons] at h ⊢
    simp only [List.length_cons] at hn
    obtain ⟨h1, hr1⟩ := skipElems_render k hk (F'+1) n (by omega) r (render v ++ renderPairs kvs ++ t)
      (by simpa using h) (fun r1 => skipField_exact k hk (F'+1) (by omega) r1 _)
    obtain ⟨h2, hr2⟩ := skipElems_render v hv F' (n - 1) (by omega) _ (renderPairs kvs ++ t)
      (by simpa using hr1) (fun r1 => skipField_exact v hv F' (by omega) r1 _)
    rw [h1, h2, skipPairs_exact kvs hw F' (by omega) _ t (n - 1 - 1) (by omega) hr2]
    simp [Nat.add_assoc]

theorem skipStruct_exact (ms : List WFField) (hw : wfMembers ms = true) (fuel : Nat)
    (hfuel : costList ms + 1 ≤ fuel) (r : Reader) (t : Bytes)
    (h : r.rest = renderList ms ++ writeHead tyStructEnd 0 ++ t) :
    skipToStructEnd fuel r = (.ok (), r.adv ((renderList ms).length + (writeHead tyStructEnd 0).length)) := by
  obtain ⟨F, rfl⟩ := Nat.exists_eq_add_one.mpr (show 0 < fuel by omega)
  cases ms with
  | nil =>
    simp only [costList] at hfuel
    obtain ⟨F', rfl⟩ := Nat.exists_eq_add_one.mpr (show 0 < F by omega)
    have h1 := readHead_writeHead tyStructEnd 0 (by decide) (by decide) r t
      (by simpa [renderList] using h)
    rw [skipToStructEnd_step (F'+1) h1 (skipField_structEnd F' _)]
    simp [renderList]
  | cons m ms =>
    simp [wfMembers] at hw
    obtain ⟨hm, hw⟩ := hw
    simp only [costList] at hfuel
    rw [renderList_cons] at h ⊢
    obtain ⟨h1, hr1⟩ := readHead_render r m hm (renderList ms ++ writeHead tyStructEnd 0 ++ t)
      (by simpa using h)
    have h2 := skipField_exact m hm F (by omega) _ _ hr1
    rw [skipToStructEnd_step F h1 h2, if_neg (ty_ne_structEnd m)]
    have hr2 := Reader.rest_adv _ hr1
    simp only [Reader.adv_adv] at hr2 ⊢
    rw [skipStruct_exact ms hw F (by omega) _ t hr2]
    simp [render, Nat.add_assoc]
end

/-! ### a sufficient fuel in terms of the size of the field -/

mutual
theorem cost_le (f : WFField) : cost f ≤ 2 * (body f).length + 1 := by
  cases f with
  | map tg kvs =>
    have := costPairs_le kvs
    have := lenField_length_pos kvs.length
    simp only [cost, body, List.length_append]; omega
  | list tg es =>
    have := costList_le es
    have := lenField_length_pos es.length
    simp only [cost, body, List.length_append]; omega
  | struct tg ms =>
    have := costList_le ms
    have := writeHead_length_pos tyStructEnd 0
    simp only [cost, body, List.length_append]; omega
  | _ => simp only [cost]; omega
theorem costList_le (fs : List WFField) : costList fs ≤ 2 * (renderList fs).length + 1 := by
  cases fs with
  | nil => simp [costList]
  | cons f fs =>
    have := cost_le f
    have := costList_le fs
    have := writeHead_length_pos f.ty f.tag
    simp only [costList, renderList, List.length_append]; omega
theorem costPairs_le (kvs : List (WFField × WFField)) :
    costPairs kvs ≤ 2 * (renderPairs kvs).length + 1 := by
  cases kvs with
  | nil => simp [costPairs]
  | cons p kvs =>
    obtain ⟨k, v⟩ := p
    have := cost_le k
    have := cost_le v
    have := costPairs_le kvs
    have := writeHead_length_pos k.ty k.tag
    have := writeHead_length_pos v.ty v.tag
    simp only [costPairs, renderPairs, List.length_append]; omega
end

theorem skipField_exact_fuel (f : WFField) (hf : f.wf = true) (r : Reader) (t : Bytes)
    (h : r.rest = body f ++ t) : skipField r.fuel f.ty r = (.ok (), r.adv (body f).length) := by
  refine skipField_exact f hf r.fuel ?_ r t h
  have h1 := cost_le f
  have h2 := r.length_le_size_of_rest h
  unfold Reader.fuel; omega

theorem wfMembers_of (xs : List WFField) (h : ∀ x ∈ xs, x.wf = true) : wfMembers xs = true := by
  induction xs with
  | nil => simp [wfMembers]
  | cons x xs ih =>
    simp only [wfMembers, Bool.and_eq_true]
    exact ⟨h x (by simp), ih (fun y hy => h y (by simp [hy]))⟩

theorem skipToStructEnd_tail (tail : List WFField) (hw : ∀ x ∈ tail, x.wf = true) (r : Reader)
    (t : Bytes) (h : r.rest = renderList tail ++ writeHead tyStructEnd 0 ++ t) :
    ∃ r2, skipToStructEnd r.fuel r = (.ok (), r2) ∧ r2.rest = t := by
  have hfuel : costList tail + 1 ≤ r.fuel := by
    have h1 := costList_le tail
    have h2 := r.length_le_size_of_rest h
    simp only [List.length_append] at h2
    unfold Reader.fuel; omega
  refine ⟨_, skipStruct_exact tail (wfMembers_of tail hw) r.fuel hfuel r t h, ?_⟩
  have := r.rest_adv (bs := renderList tail ++ writeHead tyStructEnd 0) h
  simpa using this

/-! ### `SkipToNoCheck` passes over well-formed fields with a lower tag -/

theorem skipToNoCheckF_step (F tag : Nat) (req : Bool) {r r1 r2 : Reader} {tyCur tagCur : Nat}
    (h1 : readHead r = (.ok (tyCur, tagCur), r1)) (hne : tyCur ≠ tyStructEnd) (hlt : tagCur < tag)
    (h2 : skipField r1.fuel tyCur r1 = (.ok (), r2)) :
    skipToNoCheckF (F+1) tag req r = skipToNoCheckF F tag req r2 := by
  have a : ¬ (tyCur = tyStructEnd ∨ tagCur > tag) := by omega
  have b : ¬ tagCur = tag := by omega
  simp only [skipToNoCheckF, h1, if_neg a, if_neg b, h2]

theorem skipToNoCheck_passes (f : WFField) (hf : f.wf = true) (tag : Nat) (req : Bool)
    (r : Reader) (t : Bytes) (h : r.rest = render f ++ t) (hlt : f.tag < tag) :
    skipToNoCheck tag req r = skipToNoCheck tag req (r.adv (render f).length) := by
  obtain ⟨h1, hr1⟩ := readHead_render r f hf t h
  have h2 := skipField_exact_fuel f hf _ t hr1
  unfold skipToNoCheck
  rw [Reader.fuel_succ, skipToNoCheckF_step _ tag req h1 (ty_ne_structEnd f) hlt h2]
  simp only [Reader.adv_adv, ← render_length]
  have hpos := render_length_pos f
  -- the loop fuel left differs from that of a fresh call, but both exceed the bytes left
  apply (skipToNoCheckF_spec _ tag req _ ?_).2
  · simp only [Reader.remaining, Reader.adv_data, Reader.adv_pos, Reader.fuel]; omega
  · simp only [Reader.remaining, Reader.adv_data, Reader.adv_pos]; omega

theorem skipToNoCheck_passes_list (tag : Nat) (fs : List WFField)
    (hf : ∀ f ∈ fs, f.wf = true ∧ f.tag < tag)
    (req : Bool) (r : Reader) (t : Bytes) (h : r.rest = renderList fs ++ t) :
    skipToNoCheck tag req r = skipToNoCheck tag req (r.adv (renderList fs).length) := by
  induction fs generalizing r with
  | nil => simp [renderList]
  | cons f fs ih =>
    rw [renderList_cons] at h ⊢
    have hf0 := hf f (by simp)
    rw [skipToNoCheck_passes f hf0.1 tag req r (renderList fs ++ t) (by simpa using h) hf0.2]
    have hr := r.rest_adv (bs := render f) (t := renderList fs ++ t) (by simpa using h)
    rw [ih (fun g hg => hf g (by simp [hg])) _ hr]
    simp

end Skip

/-! ### the narrowest integer field -/

open Consts WFField Skip

/-- the field every integer writer emits for a value in its range -/
def intField (tag : Nat) (i : Int) : WFField :=
  match minWidth i with
  | 0 => .zero tag
  | 1 => .byte tag (byte (toU 8 i))
  | 2 => .short tag (toU 16 i)
  | 4 => .int tag (toU 32 i)
  | _ => .long tag (toU 64 i)

theorem intField_tag (tag : Nat) (i : Int) : (intField tag i).tag = tag := by
  unfold intField; split <;> rfl

theorem render_intField (tag : Nat) (i : Int) : render (intField tag i) = specInt i tag := by
  unfold intField specInt
  rw [← writeHead_eq_specHead]
  rcases minWidth_cases i with ⟨hw, _⟩ | ⟨hw, _⟩ | ⟨hw, _⟩ | ⟨hw, _⟩ | ⟨hw, _⟩ <;> rw [hw] <;>
    simp [render, WFField.ty, WFField.tag, body, intTy, be]

theorem lenField_eq_render (n : Nat) (h : n < 2 ^ 31) : lenField n = render (intField 0 n) := by
  rw [render_intField, ← writeInt64_specInt, ← writeInt32_eq_writeInt64 (n : Int) 0 (by omega)]
  rfl

theorem intField_ty_body (tag : Nat) (i : Int) :
    (intField tag i).ty = intTy (minWidth i) ∧
      (intField tag i).body = be (minWidth i) (toU (8 * minWidth i) i) := by
  have h := render_intField tag i
  rw [render, intField_tag, specInt, ← writeHead_eq_specHead] at h
  exact writeHead_append_inj (ty_lt _) (intWidth_ty (intWidth_minWidth i (minWidth_le_eight i))).1 h

end Tars
