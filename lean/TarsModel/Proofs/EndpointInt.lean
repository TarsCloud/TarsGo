/-
  `strconv.ParseInt(s, 0, 64)` model on `%d` renderings: parse ∘ format = id on the int64 range.
-/
import TarsModel.Model.Endpoint

namespace Tars.Endpoint
open Tars

theorem natDigits_lt (n : Nat) (h : n < 10) : natDigits n = [byte (48 + n)] := by
  rw [natDigits, if_pos h]

theorem digit_val (d : Nat) (h : d < 10) : (byte (48 + d)).val = 48 + d :=
  Nat.mod_eq_of_lt (by omega)

theorem natDigits_digits (n : Nat) : ∀ b ∈ natDigits n, 48 ≤ b.val ∧ b.val ≤ 57 := by
  fun_induction natDigits n with
  | case1 n h =>
    intro b hb
    rw [List.mem_singleton.mp hb, digit_val n h]; omega
  | case2 n h ih =>
    intro b hb
    rcases List.mem_append.mp hb with hb | hb
    · exact ih b hb
    · rw [List.mem_singleton.mp hb, digit_val (n % 10) (by omega)]; omega

theorem natDigits_ne_nil (n : Nat) : natDigits n ≠ [] := by
  fun_induction natDigits n <;> simp

theorem natDigits_head (n : Nat) (hn : 0 < n) : ∃ c r, natDigits n = c :: r ∧ c.val ≠ 48 := by
  fun_induction natDigits n with
  | case1 n h => exact ⟨_, [], rfl, by rw [digit_val n h]; omega⟩
  | case2 n h ih =>
    obtain ⟨c, r, hc, hv⟩ := ih (by omega)
    exact ⟨c, r ++ [byte (48 + n % 10)], by rw [hc]; rfl, hv⟩

theorem digitVal_digit (c : Nat) (h1 : 48 ≤ c) (h2 : c ≤ 57) : digitVal c = some (c - 48) := by
  rw [digitVal, if_pos ⟨h1, h2⟩]

theorem uintLoop_digit (d n : Nat) (us : Bool) (cs : Bytes) (hd : d < 10) (hn : n * 10 + d ≤ maxUint64) :
    uintLoop 10 true (byte (48 + d) :: cs) n us = uintLoop 10 true cs (n * 10 + d) us := by
  have e : 48 + d - 48 = d := by omega
  unfold maxUint64 at hn
  rw [uintLoop, digit_val d hd, if_neg (by omega), digitVal_digit _ (by omega) (by omega), e]
  simp only
  rw [if_neg (by omega), if_neg (by unfold maxUint64; omega), if_neg (by unfold maxUint64; omega)]

theorem uintLoop_natDigits (n : Nat) (cs : Bytes) (hn : n ≤ maxUint64) :
    uintLoop 10 true (natDigits n ++ cs) 0 false = uintLoop 10 true cs n false := by
  fun_induction natDigits n generalizing cs with
  | case1 n h => rw [List.singleton_append, uintLoop_digit n 0 false cs h (by omega), Nat.zero_mul, Nat.zero_add]
  | case2 n h ih =>
    rw [List.append_assoc, ih _ (by omega), List.singleton_append,
      uintLoop_digit (n % 10) (n / 10) false cs (by omega) (by omega), Nat.div_add_mod']

theorem basePrefix_of_ne (c : Byte) (r : Bytes) (h : c.val ≠ 48) : basePrefix (c :: r) = (10, c :: r) := by
  rcases r with _ | ⟨c1, _ | ⟨c2, r⟩⟩ <;> simp [basePrefix, h]

theorem parseUint0_natDigits (n : Nat) (hn : n ≤ maxUint64) : parseUint0 (natDigits n) = .ok n := by
  by_cases h0 : n = 0
  · subst h0; rw [natDigits_lt 0 (by omega)]; decide
  · obtain ⟨c, r, hc, hv⟩ := natDigits_head n (by omega)
    have hl := uintLoop_natDigits n [] hn
    rw [List.append_nil, hc] at hl
    rw [hc, parseUint0, if_neg (List.cons_ne_nil c r), basePrefix_of_ne c r hv]
    simp only
    rw [hl, uintLoop]
    simp

theorem parseInt_fmtInt (v : Int) (hlo : -(2 : Int) ^ 63 ≤ v) (hhi : v < (2 : Int) ^ 63) :
    parseInt (fmtInt v) = (v, none) := by
  unfold fmtInt
  split
  · have hu := parseUint0_natDigits v.natAbs (by unfold maxUint64; omega)
    have e : ¬ v.natAbs > 2 ^ 63 := by omega
    simp [parseInt, hu, e]
    omega
  · have hu := parseUint0_natDigits v.toNat (by unfold maxUint64; omega)
    obtain ⟨c, r, hcr⟩ := List.exists_cons_of_ne_nil (natDigits_ne_nil v.toNat)
    have hc := natDigits_digits v.toNat c (by rw [hcr]; exact List.mem_cons_self)
    rw [hcr] at hu ⊢
    have n43 : ¬ c.val = 43 := by omega
    have n45 : ¬ c.val = 45 := by omega
    have e : ¬ 2 ^ 63 ≤ v.toNat := by omega
    simp [parseInt, n43, n45, hu, e]
    omega

end Tars.Endpoint
