import TarsModel.Model.Filter

/-!
# Filters (C01): pass-through filters see the call once, in registration order, and do not change
  its outcome
-/
namespace Tars.Filter

variable {ε σ α : Type}

/-- a (legacy single) filter passes the call through: it records `b`, calls what it was handed
    exactly once, on the state it found, records `a`, and returns the call's result and state -/
def PassFlt (f : Flt ε σ α) (b a : List ε) : Prop :=
  ∀ (call : Comp ε σ α) (s : σ), f call s = (b ++ (call s).1 ++ a, (call s).2.1, (call s).2.2)

/-- a middleware passes the call through: the same around `next` -/
def PassMw (m : Mw ε σ α) (b a : List ε) : Prop :=
  ∀ (next : Flt ε σ α) (call : Comp ε σ α) (s : σ),
    m next call s = (b ++ (next call s).1 ++ a, (next call s).2.1, (next call s).2.2)

/-- a pre/post filter passes: it records `b`, returns nil, does not invoke, leaves the state -/
def PassSide (nil : α) (f : Flt ε σ α) (b : List ε) : Prop :=
  ∀ (call : Comp ε σ α) (s : σ), f call s = (b, nil, s)

theorem recFlt_pass (b a : List ε) : PassFlt (recFlt b a : Flt ε σ α) b a := by
  intro call s; simp [recFlt]

theorem recMw_pass (b a : List ε) : PassMw (recMw b a : Mw ε σ α) b a := by
  intro next call s; simp [recMw, recFlt]

theorem recSide_pass (nil : α) (b : List ε) : PassSide nil (recSide nil b : Flt ε σ α) b := by
  intro call s; rfl

theorem flatten_singletons {β γ : Type} (f : β → γ) (l : List β) :
    (l.map fun x => [f x]).flatten = l.map f := by
  rw [← List.flatMap_def, ← List.map_eq_flatMap]

theorem chainOf_pass : ∀ (ms : List (Mw ε σ α × List ε × List ε)),
    (∀ x ∈ ms, PassMw x.1 x.2.1 x.2.2) →
    PassFlt (chainOf (ms.map (·.1))) (ms.map (·.2.1)).flatten (ms.reverse.map (·.2.2)).flatten
  | [], _ => by intro call s; simp [chainOf, baseFilter]
  | x :: ms, h => by
    intro call s
    have ih := chainOf_pass ms (fun y hy => h y (by simp [hy])) call s
    have hx := h x (by simp)
    simp only [chainOf, List.map_cons, List.foldr_cons] at ih ⊢
    rw [hx, ih]
    simp [List.append_assoc]

theorem getMiddlewareFilter_nil : getMiddlewareFilter ([] : List (Mw ε σ α)) = none := by
  simp [getMiddlewareFilter]

theorem getMiddlewareFilter_chain (mws : List (Mw ε σ α)) (h : mws ≠ []) :
    getMiddlewareFilter mws = some (chainOf mws) := by
  cases mws with
  | nil => exact absurd rfl h
  | cons m ms => simp [getMiddlewareFilter, chainOf]

theorem runServer_chain (v : Variant) (nil : α) (reg : Reg ε σ α) (call : Comp ε σ α)
    (hs : reg.single = none) (hm : reg.mws ≠ []) : runServer v nil reg call = chainOf reg.mws call := by
  funext s
  simp [runServer, hs, getMiddlewareFilter_chain reg.mws hm]

theorem runEach_pass (nil : α) : ∀ (fs : List (Flt ε σ α × List ε)),
    (∀ x ∈ fs, PassSide nil x.1 x.2) → ∀ (call : Comp ε σ α) (e0 : α) (s : σ),
    runEach (fs.map (·.1)) call e0 s
      = ((fs.map (·.2)).flatten, (if fs.isEmpty then e0 else nil), s)
  | [], _, call, e0, s => by simp [runEach]
  | x :: fs, h, call, e0, s => by
    have hx := h x (by simp) call s
    have ih := runEach_pass nil fs (fun y hy => h y (by simp [hy])) call nil s
    simp only [List.map_cons, runEach, hx, ih]
    cases fs <;> simp

/-! ## the three shapes of a registration -/

/-- shape 1: a legacy single filter is registered (it wins over everything else) -/
theorem runServer_single (v : Variant) (nil : α) (reg : Reg ε σ α) (f : Flt ε σ α) (b a : List ε)
    (hreg : reg.single = some f) (hf : PassFlt f b a) (call : Comp ε σ α) (s : σ) :
    runServer v nil reg call s = (b ++ (call s).1 ++ a, (call s).2.1, (call s).2.2) := by
  simp only [runServer, hreg]; exact hf call s

/-- shape 2: no single filter, at least one middleware (pre/post filters are then not run) -/
theorem runServer_mws (v : Variant) (nil : α) (reg : Reg ε σ α)
    (ms : List (Mw ε σ α × List ε × List ε)) (hs : reg.single = none)
    (hm : reg.mws = ms.map (·.1)) (hne : ms ≠ []) (hp : ∀ x ∈ ms, PassMw x.1 x.2.1 x.2.2)
    (call : Comp ε σ α) (s : σ) :
    runServer v nil reg call s
      = ((ms.map (·.2.1)).flatten ++ (call s).1 ++ (ms.reverse.map (·.2.2)).flatten,
          (call s).2.1, (call s).2.2) := by
  have hne' : reg.mws ≠ [] := by
    rw [hm]; exact fun h => hne (List.map_eq_nil_iff.1 h)
  rw [runServer_chain v nil reg call hs hne', hm]
  exact chainOf_pass ms hp call s

/-- shape 3: neither: pre filters, the call, post filters.  `repaired`: the outcome is the call's;
    `asFound`: only if no post filter is registered, otherwise it is nil, whatever the call returned -/
theorem runServer_sides (v : Variant) (nil : α) (reg : Reg ε σ α) (pre post : List (Flt ε σ α × List ε))
    (hs : reg.single = none) (hm : reg.mws = []) (hpre : reg.pre = pre.map (·.1))
    (hpost : reg.post = post.map (·.1)) (h1 : ∀ x ∈ pre, PassSide nil x.1 x.2)
    (h2 : ∀ x ∈ post, PassSide nil x.1 x.2) (call : Comp ε σ α) (s : σ) :
    runServer v nil reg call s
      = ((pre.map (·.2)).flatten ++ (call s).1 ++ (post.map (·.2)).flatten,
          (match v with
           | .repaired => (call s).2.1
           | .asFound => if post.isEmpty then (call s).2.1 else nil), (call s).2.2) := by
  cases v <;>
    simp only [runServer, hs, hm, getMiddlewareFilter_nil, hpre, hpost,
      runEach_pass nil pre h1, runEach_pass nil post h2]

theorem runClient_eq_runServer (nil : α) (reg : Reg ε σ α) :
    runClient nil reg = runServer .repaired nil reg := by
  funext call s
  simp only [runClient, runServer]

theorem after_append (reg : Reg ε σ α) (xs ys : List (RegOp ε σ α)) :
    reg.after (xs ++ ys) = (reg.after xs).after ys := by
  simp [Reg.after, List.foldl_append]

theorem after_appends {β : Type} (π : Reg ε σ α → List β) (g : RegOp ε σ α → List β)
    (h : ∀ reg op, π (reg.register op) = π reg ++ g op) :
    ∀ (ops : List (RegOp ε σ α)) (reg : Reg ε σ α), π (reg.after ops) = π reg ++ ops.flatMap g
  | [], reg => (List.append_nil _).symm
  | op :: ops, reg => by
    show π ((reg.register op).after ops) = _
    rw [after_appends π g h ops, h, List.flatMap_cons, List.append_assoc]

theorem after_mws (ops : List (RegOp ε σ α)) (reg : Reg ε σ α) :
    (reg.after ops).mws = reg.mws ++ ops.flatMap RegOp.mwsOf :=
  after_appends (·.mws) _ (fun reg op => by cases op <;> simp [Reg.register, RegOp.mwsOf]) ops reg

theorem after_pre (ops : List (RegOp ε σ α)) (reg : Reg ε σ α) :
    (reg.after ops).pre = reg.pre ++ ops.flatMap RegOp.preOf :=
  after_appends (·.pre) _ (fun reg op => by cases op <;> simp [Reg.register, RegOp.preOf]) ops reg

theorem after_post (ops : List (RegOp ε σ α)) (reg : Reg ε σ α) :
    (reg.after ops).post = reg.post ++ ops.flatMap RegOp.postOf :=
  after_appends (·.post) _ (fun reg op => by cases op <;> simp [Reg.register, RegOp.postOf]) ops reg

theorem after_single : ∀ (ops : List (RegOp ε σ α)) (reg : Reg ε σ α),
    (reg.after ops).single = (ops.flatMap RegOp.singleOf).getLast?.or reg.single
  | [], reg => rfl
  | op :: ops, reg => by
    show ((reg.register op).after ops).single = _
    have h : (reg.register op).single = op.singleOf.getLast?.or reg.single := by cases op <;> rfl
    rw [after_single ops, h, List.flatMap_cons, List.getLast?_append, Option.or_assoc]

end Tars.Filter
