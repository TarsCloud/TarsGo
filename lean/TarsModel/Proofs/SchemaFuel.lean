import TarsModel.Proofs.SchemaWire

/-!
# The decoder's fuel suffices: `needElems vs ≤ decFuel env r` for the encoding of a well-typed value

`needVar v` (the call depth of `decVar` on the encoding of `v`) is bounded by
`(env.width + 3) * (length of the encoding)` (+2 for an absent optional member).
-/
namespace Tars
open Consts

/-- fuel statement for one member/element: with `K = env.width + 3` and `b` the length of its
    encoding, `needVar v ≤ K*b + 2`, and `≤ K*b` when it is present.  Why `width + 3`: a struct of
    `n ≤ width` members costs one unit per member, present or not, plus three for itself, and has
    only its two heads to pay with: `1 + (K*|body| + n + 2) ≤ K*(|begin| + |body| + |end|)` needs
    `n + 3 ≤ 2K`. -/
def FuelOK (env : Env) (ty : Ty) (v : Val) : Prop :=
  ∀ (tag : Nat) (req : Bool) (dflt : Option Val),
    needVar v ≤ (env.width + 3) * (encVar env tag req ty dflt v).length + 2 ∧
    (0 < (encVar env tag req ty dflt v).length →
      needVar v ≤ (env.width + 3) * (encVar env tag req ty dflt v).length)

theorem FuelOK.elem {env : Env} {ty : Ty} {v : Val} (h : FuelOK env ty v) (hw : WT env ty v) (tag : Nat) :
    needVar v ≤ (env.width + 3) * (encVar env tag true ty none v).length :=
  (h tag true none).2 (encVar_req_pos env tag ty none v hw)

theorem needElems_leaves : ∀ (vs : List Val), (∀ v ∈ vs, needVar v = 1) → needElems vs = vs.length + 1
  | [], _ => rfl
  | v :: vs, h => by
    rw [needElems, h v (by simp), needElems_leaves vs (fun w hw => h w (by simp [hw])), List.length_cons]
    omega

/-- the loop's own unit is the `+ 1` -/
theorem fuelOK_elems (env : Env) (e : Ty) : ∀ (vs : List Val), (∀ v ∈ vs, WT env e v ∧ FuelOK env e v) →
    needElems vs ≤ (env.width + 3) * (encElems env e vs).length + 1
  | [], _ => by simp [needElems]
  | v :: vs, ih => by
    obtain ⟨hw, hv⟩ := ih v (by simp)
    have h1 := hv.elem hw 0
    have h2 := fuelOK_elems env e vs (fun w hw => ih w (by simp [hw]))
    have := needVar_pos v
    simp only [needElems, encElems, List.length_append, Nat.mul_add]
    omega

theorem fuelOK_pairs (env : Env) (k w : Ty) : ∀ (kvs : List (Val × Val)),
    (∀ p ∈ kvs, (WT env k p.1 ∧ FuelOK env k p.1) ∧ (WT env w p.2 ∧ FuelOK env w p.2)) →
    needPairs kvs ≤ (env.width + 3) * (encPairs env k w kvs).length + 1
  | [], _ => by simp [needPairs]
  | (a, b) :: kvs, ih => by
    obtain ⟨⟨wa, ha⟩, wb, hb⟩ := ih (a, b) (by simp)
    have h1 := ha.elem wa 0
    have h2 := hb.elem wb 1
    have h3 := fuelOK_pairs env k w kvs (fun p hp => ih p (by simp [hp]))
    have := needVar_pos a
    simp only at h1 h2
    simp only [needPairs, encPairs, List.length_append, Nat.mul_add]
    omega

theorem fuelOK_members (env : Env) : ∀ (vs : List Val), (∀ v ∈ vs, ∀ ty, WT env ty v → FuelOK env ty v) →
    ∀ (fs : List Field), WTm env fs vs →
      needElems vs ≤ (env.width + 3) * (encMembers env fs vs).length + vs.length + 2
  | [], _, _, _ => by simp [needElems]
  | v :: vs, ih, fs, hwt => by
    cases fs with
    | nil => simp [WTm] at hwt
    | cons g gs =>
      simp only [WTm] at hwt
      have h1 := (ih v (by simp) g.ty hwt.1 g.tag g.req g.dflt).1
      have h2 := fuelOK_members env vs (fun w hw => ih w (by simp [hw])) gs hwt.2
      simp only [needElems, encMembers, List.length_append, List.length_cons, Nat.mul_add]
      omega

theorem fuelOK_all (env : Env) : ∀ v ty, WT env ty v → FuelOK env ty v := by
  -- every head and every length prefix occupies at least one byte, i.e. `K` units of fuel
  have hh := fun ty tg => Nat.le_mul_of_pos_right (env.width + 3) (writeHead_length_pos ty tg)
  have hlen := fun x => Nat.le_mul_of_pos_right (env.width + 3) (writeInt32_headAt x 0).length_pos
  refine WT.ind ?_ ?_ ?_ ?_
  · intro ty v hl _ tag req dflt
    rw [needVar_leaf hl]
    exact ⟨by omega, fun hp => Nat.le_trans (by omega) (Nat.le_mul_of_pos_right (env.width + 3) hp)⟩
  · intro ty e vs hty _ ih tag req dflt
    rw [encVar_list env tag req dflt hty]
    simp only [needVar]
    split
    · rename_i c1
      cases optional_empty (xs := vs) c1
      simp [needElems]
    · split
      · rename_i c2
        subst c2
        have hb := needElems_leaves vs fun v hv => needVar_leaf (WT_atom rfl (ih v hv).1).isLeaf
        have := Nat.le_mul_of_pos_left vs.length (show 0 < env.width + 3 by omega)
        simp only [List.length_append, Nat.mul_add, int8Bytes_length vs]
        have := hh tySimpleList tag
        have := hh tyBYTE 0
        have := hlen (wrapS 32 vs.length)
        omega
      · have hb := fuelOK_elems env e vs ih
        simp only [List.length_append, Nat.mul_add]
        have := hh tyLIST tag
        have := hlen (wrapS 32 vs.length)
        omega
  · intro k w kvs _ _ ih tag req dflt
    simp only [needVar]
    rw [encVar_map]
    split
    · rename_i c1
      cases optional_empty (xs := kvs) c1
      simp [needPairs]
    · have hb := fuelOK_pairs env k w kvs ih
      have := hh tyMAP tag
      have := hlen (wrapS 32 kvs.length)
      simp only [List.length_append, Nat.mul_add]
      omega
  · intro S fs vs hfs hwt ih tag req dflt
    simp only [needVar]
    rw [encVar]
    simp only [hfs]
    have hb := fuelOK_members env vs ih fs hwt
    have hl := WTm_length hwt
    have hw := Env.find_width hfs
    have := hh tyStructBegin tag
    have := hh tyStructEnd 0
    simp only [List.length_append, Nat.mul_add]
    omega

/-- a struct body: `env.width + 3` units per byte and one per member, written or not -/
theorem needElems_le_members (env : Env) (fs : List Field) (vs : List Val) (hwt : WTm env fs vs) :
    needElems vs ≤ (env.width + 3) * (encMembers env fs vs).length + vs.length + 2 :=
  fuelOK_members env vs (fun v _ => fuelOK_all env v) fs hwt

/-- a budget of `(env.width + 3) * (n + 2)` suffices for a struct body of at most `n` bytes
    (`decFuel` and the reference decoder's `refFuel` are of this form) -/
theorem needElems_le_budget (env : Env) (name : String) (fs : List Field) (vs : List Val) (n : Nat)
    (hfs : env.find name = some fs) (hwt : WTm env fs vs) (hn : (encMembers env fs vs).length ≤ n) :
    needElems vs ≤ (env.width + 3) * (n + 2) := by
  have hb := needElems_le_members env fs vs hwt
  have hl := WTm_length hwt
  have hw := Env.find_width hfs
  have := Nat.mul_le_mul_left (env.width + 3) hn
  rw [Nat.mul_add]
  omega

theorem needElems_le_decFuel (env : Env) (name : String) (fs : List Field) (vs : List Val)
    (r : Reader) (t : Bytes) (hfs : env.find name = some fs) (hwt : WTm env fs vs)
    (h : r.rest = encMembers env fs vs ++ t) : needElems vs ≤ decFuel env r :=
  Nat.le_trans (needElems_le_budget env name fs vs _ hfs hwt (r.length_le_size_of_rest h))
    (Nat.le_add_right _ _)

theorem needVar_le_decFuel (env : Env) {ty : Ty} {v : Val} (tag : Nat) (req : Bool) (dflt : Option Val)
    (r : Reader) (t : Bytes) (hwt : WT env ty v) (h : r.rest = encVar env tag req ty dflt v ++ t) :
    needVar v ≤ decFuel env r := by
  have hb := (fuelOK_all env v ty hwt tag req dflt).1
  have := decFuel_lb env (r.length_le_size_of_rest h)
  omega

end Tars
