import TarsModel.Proofs.Evolve

/-! The message of the C04 examples (`Props/C04`, `Props/C04RT`): a reader's schema, a new writer's
    message with unknown members, and the facts about them that both example blocks use. -/
namespace Tars
open Consts WFField Evolve

/-- a reader's schema: `struct S { 2 require int a; 5 optional string b; }` -/
def C04_exFs : List Field := [⟨2, true, .i32, none⟩, ⟨5, false, .str, none⟩]
def C04_exEnv : Env := [("S", C04_exFs)]
/-- a new writer's message: `a = 5`, `b` left out, unknown members with tags 0, 1, 3, 200 -/
def C04_exItems : List (List WFField × Slot) :=
  [ ([.zero 0, .string1 1 [byte 65]], ⟨⟨2, true, .i32, none⟩, .int 0, writeInt32 5 2⟩),
    ([.list 3 [.zero 0, .zero 0]],    ⟨⟨5, false, .str, none⟩, .str [], []⟩) ]
def C04_exTail : List WFField := [.struct 200 [.byte 1 (byte 1)]]

theorem C04_ex_find : C04_exEnv.find "S" = some C04_exFs := by simp [C04_exEnv, Env.find]
theorem C04_ex_fuel : decFuel C04_exEnv (Reader.mk0 (merged C04_exItems C04_exTail)) = 90 + 1 := by
  decide
theorem C04_ex_reset :
    resetDefault C04_exEnv (90 + 1) C04_exFs [.int 0, .str []] = [.int 0, .str []] := by
  simp [C04_exFs, resetDefault_cons, resetDefault_nil_left, resetMember, zeroOf, zeroVal, scalarZero]

theorem C04_ex_adm : Admissible 0 C04_exItems C04_exTail := by
  simp +decide [Admissible, C04_exItems, C04_exTail]

end Tars
