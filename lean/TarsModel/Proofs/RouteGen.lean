/-
  The request-id counter (`genRequestID`) under arbitrary interleavings of its atomic steps (C08).

  `rank c` is the position of the counter value `c` on the cycle 1, 2, …, maxInt32, minInt32, …, -1, 0
  (rank 1 = 0, rank 0 = 2^32 - 1).  `AddInt32` advances the rank by one (wrapping at 0 ↦ 1), the
  successful CAS jumps from rank `period = maxInt32 - 1` back to rank 0.  For every logged id `v` of age
  `a` (number of ids issued after it) the invariant `J v a ctr` says: either `v` was issued in the
  current "epoch" (since the last return to rank 0), and then at least `rank ctr - rank v` ids followed
  it (one less while the counter stands at the skipped value 0: `zed`), or it is older, and then at least
  `rank ctr + (period - rank v)` ids followed it (`rank ctr` if `v` lies beyond rank `period`).  Hence the id
  that will be issued next (rank `rank ctr + 1`) differs from every logged id of age < `period - 1`.
-/
import TarsModel.Model.Route

namespace Tars.Route

def M32 : Int := 2 * (maxInt32 + 1)
/-- the period of the sequential id sequence: 2^31 - 2 -/
def period : Int := maxInt32 - 1

def InRange (c : Int) : Prop := minInt32 ≤ c ∧ c ≤ maxInt32

def rank (c : Int) : Int := if 1 ≤ c then c - 1 else c + M32 - 1
/-- the add that lands on 0 advances the rank without issuing an id: while the counter stands at 0 one
    place of the distance covered since `v` is not matched by an issued id -/
def zed (c : Int) : Int := if c = 0 then 1 else 0

/-- `v` was issued in the current epoch; or in an earlier one from the sequential range (rank ≤ `period`);
    or in an earlier one from beyond it — the ids maxInt32, minInt32, …, -1 that are issued only after two
    goroutines passed the CAS before either added: such a `v` is not met again before the counter has
    overflowed once more, so only the ids of the current epoch count against it -/
def J (v : Int) (a : Nat) (ctr : Int) : Prop :=
  (rank v ≤ rank ctr ∧ rank ctr ≤ a + rank v + zed ctr) ∨
  (rank v ≤ period ∧ rank ctr + period - rank v ≤ a + zed ctr) ∨
  (period < rank v ∧ rank ctr ≤ a + zed ctr)

theorem inRange_cas {c : Int} (h : InRange c) : InRange (casStep c) := by
  unfold casStep; split
  · exact ⟨by decide, by decide⟩
  · exact h

theorem inRange_add {c : Int} (h : InRange c) : InRange (addStep c) := by
  unfold InRange addStep wrap32 minInt32 at *
  simp only [maxInt32, Consts.callMaxInt32, Consts.callAddDelta] at *
  omega

theorem rank_nonneg {c : Int} (h : InRange c) : 0 ≤ rank c := by
  unfold InRange minInt32 at h
  unfold rank M32
  omega

theorem rank_addStep {c : Int} (h : InRange c) (h0 : c ≠ 0) : rank (addStep c) = rank c + 1 := by
  unfold InRange minInt32 at h
  unfold rank addStep wrap32 M32
  simp only [maxInt32, Consts.callMaxInt32, Consts.callAddDelta] at *
  omega

theorem zed_of_ne {c : Int} (h : c ≠ 0) : zed c = 0 := if_neg h

theorem J_mono {v : Int} {a a' : Nat} {c c' : Int} (h : J v a c) (h1 : rank c ≤ rank c')
    (h2 : rank c' - zed c' - a' ≤ rank c - zed c - a) : J v a' c' := by
  rcases h with h | h | h
  · exact Or.inl (by omega)
  · exact Or.inr (Or.inl (by omega))
  · exact Or.inr (Or.inr (by omega))

/-- the counter returns to the first place of the cycle from a place at or beyond `period`: every logged
    id now belongs to an earlier epoch -/
theorem J_wrap {v : Int} {a a' : Nat} {c c' : Int} (h : J v a c) (hp : period ≤ rank c - zed c)
    (hr : rank c' = 0) (hz : zed c' = 0) (ha : a ≤ a') : J v a' c' := by
  have : 0 ≤ period := by decide
  unfold J
  rw [hr, hz]
  by_cases hv : rank v ≤ period
  · refine Or.inr (Or.inl ⟨hv, ?_⟩)
    rcases h with h | h | h <;> omega
  · exact Or.inr (Or.inr ⟨by omega, by omega⟩)

theorem J_cas {v : Int} {a : Nat} {c : Int} (h : J v a c) : J v a (casStep c) := by
  unfold casStep; split
  · next hm => subst hm; exact J_wrap h (by decide) (by decide) (by decide) (Nat.le_refl a)
  · exact h

theorem J_add_issue {v : Int} {a : Nat} {c : Int} (hc : InRange c) (hz : addStep c ≠ 0) (h : J v a c) :
    J v (a + 1) (addStep c) := by
  by_cases h0 : c = 0
  · subst h0; exact J_wrap h (by decide) (by decide) (by decide) (Nat.le_succ a)
  · have hr := rank_addStep hc h0
    refine J_mono h (by omega) ?_
    rw [hr, zed_of_ne hz, zed_of_ne h0]; omega

theorem J_add_zero {v : Int} {a : Nat} {c : Int} (hc : InRange c) (hz : addStep c = 0) (h : J v a c) :
    J v a (addStep c) := by
  have h0 : c ≠ 0 := by intro h0; subst h0; revert hz; decide
  have hr := rank_addStep hc h0
  refine J_mono h (by omega) ?_
  rw [hr, hz, zed_of_ne h0]; show rank c + 1 - 1 - a ≤ _; omega

theorem J_self (v : Int) : J v 0 v :=
  Or.inl ⟨Int.le_refl _, by unfold zed; split <;> omega⟩

theorem J_fresh {v : Int} {a : Nat} {c : Int} (hc : InRange c) (h : J v a c) (ha : (a : Int) + 1 < period) :
    v ≠ addStep c := by
  intro hv'
  have hrv : rank v = rank (addStep c) := congrArg rank hv'
  unfold J at h
  by_cases h0 : c = 0
  · subst h0
    have r0 : rank 0 = M32 - 1 := by decide
    have r1 : rank (addStep 0) = 0 := by decide
    have hM : M32 = 2 * period + 4 := by decide
    rw [hrv, r1, r0] at h
    simp only [zed] at h
    omega
  · rw [rank_addStep hc h0] at hrv
    rw [zed_of_ne h0] at h
    omega

structure GenInv (g : Gen) : Prop where
  range : InRange g.ctr
  vals : ∀ v ∈ g.issued, v ≠ 0 ∧ InRange v
  ages : ∀ (a : Nat) (v : Int), g.issued[a]? = some v → J v a g.ctr
  distinct : ∀ (i j : Nat) (x y : Int), i < j → ((j - i : Nat) : Int) < period →
    g.issued[i]? = some x → g.issued[j]? = some y → x ≠ y

theorem genInv_start {c : Int} (h : InRange c) : GenInv ⟨c, []⟩ := by
  constructor <;> simp [h]

theorem issues_iff {v : Int} : issues v = true ↔ v ≠ 0 := by
  simp [issues, Consts.callZeroSkip]

theorem genInv_cas {g : Gen} (h : GenInv g) : GenInv g.cas := by
  refine ⟨inRange_cas h.range, h.vals, ?_, h.distinct⟩
  intro a v hv
  exact J_cas (h.ages a v hv)

theorem genInv_add {g : Gen} (h : GenInv g) : GenInv g.add := by
  have hr := inRange_add h.range
  simp only [Gen.add]
  by_cases hz : addStep g.ctr = 0
  · rw [if_neg (mt issues_iff.mp (not_not_intro hz))]
    exact ⟨hr, h.vals, fun a v hv => J_add_zero h.range hz (h.ages a v hv), h.distinct⟩
  · rw [if_pos (issues_iff.mpr hz)]
    refine ⟨hr, List.forall_mem_cons.mpr ⟨⟨hz, hr⟩, h.vals⟩, ?_, ?_⟩
    · rintro (_ | k) v hv
      · cases hv; exact J_self _
      · exact J_add_issue h.range hz (h.ages k v hv)
    · rintro (_ | i) (_ | j) x y hij hd hx hy
      · omega
      · cases hx
        exact (J_fresh h.range (h.ages j y hy) (by omega)).symm
      · omega
      · exact h.distinct i j x y (by omega) (by omega) hx hy

theorem genInv_run {g : Gen} (h : GenInv g) (as : List GenAct) : GenInv (g.run as) := by
  induction as generalizing g with
  | nil => exact h
  | cons a as ih =>
    cases a
    · exact ih (genInv_cas h)
    · exact ih (genInv_add h)

/-! ### tightness: the sequential id sequence has period exactly `period` -/

/-- `c + n, c + n - 1, …, c + 1` -/
def descend (c : Int) : Nat → List Int
  | 0 => []
  | n + 1 => (c + (n + 1 : Nat)) :: descend c n

theorem descend_length (c : Int) (n : Nat) : (descend c n).length = n := by
  induction n with
  | zero => rfl
  | succ n ih => simp [descend, ih]

theorem descend_shift (c : Int) (n : Nat) : descend c (n + 1) = descend (c + 1) n ++ [c + 1] := by
  induction n with
  | zero => simp [descend]
  | succ n ih => rw [descend, ih, descend, List.cons_append]; congr 1; omega

theorem descend_last (c : Int) (n : Nat) (rest : List Int) : (descend c (n + 1) ++ rest)[n]? = some (c + 1) := by
  rw [descend_shift, List.append_assoc, List.getElem?_append_right (by rw [descend_length]; omega),
    descend_length, Nat.sub_self]
  rfl

/-- `n` uninterrupted executions of `genRequestID` (CAS, one add) -/
def seqActs : Nat → List GenAct
  | 0 => []
  | n + 1 => GenAct.cas :: GenAct.add :: seqActs n

theorem seq_run (n : Nat) : ∀ (c : Int) (old : List Int), 1 ≤ c → c + n ≤ maxInt32 →
    Gen.run ⟨c, old⟩ (seqActs n) = ⟨c + n, descend c n ++ old⟩ := by
  induction n with
  | zero => intro c old _ _; simp [seqActs, Gen.run, descend]
  | succ n ih =>
    intro c old h1 h2
    have hcas : casStep c = c := by
      unfold casStep; simp only [maxInt32, Consts.callMaxInt32] at *; split <;> omega
    have hadd : addStep c = c + 1 := by
      unfold addStep wrap32; simp only [maxInt32, Consts.callMaxInt32, Consts.callAddDelta] at *; split <;> omega
    have hiss : issues (c + 1) = true := issues_iff.mpr (by omega)
    simp only [seqActs, Gen.run, Gen.step, Gen.cas, Gen.add, hcas, hadd, hiss, ↓reduceIte]
    rw [ih (c + 1) ((c + 1) :: old) (by omega) (by omega), descend_shift, List.append_assoc]
    congr 1
    omega

theorem Gen.run_append (g : Gen) (as bs : List GenAct) : g.run (as ++ bs) = (g.run as).run bs := by
  induction as generalizing g with
  | nil => rfl
  | cons a as ih => exact ih _

end Tars.Route
