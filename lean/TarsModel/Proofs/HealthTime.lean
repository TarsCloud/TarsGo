/-
  The probe queue and the timing of probe candidates and probe calls.
-/
import TarsModel.Proofs.HealthInvA

namespace Tars.Health
open Tars

abbrev T : Int := (Consts.healthTryTimeInterval : Int)

/-- the statements of C15 speak of 30 seconds -/
theorem T_ge : 30 ≤ T := by decide

/-- per-endpoint timing invariant. `st`/`lbt`: status and lastBlockTime of the record, `inq`: the
endpoint waits in the probe queue, `G`/`P`/`P2`: times of the last candidate queued, the last probe
call and the probe call before that.

A candidate is queued only `T` after `lbt`, and `lbt` is at least the last grant (`g2`): grants are `T`
apart. As found, nothing ties `lbt` to the probe call, and a queued candidate may be consumed
arbitrarily late, so the next grant can follow the last probe call `P` closely; only the probe call
before it, which was no later than the last grant (`px`), is `T` older than the next grant (`py`, last
part), hence `PProbe3`. The repaired variant stamps `lbt` when the candidate is handed out (`r1`), so
the next grant, and the probe call it leads to, is `T` after `P` (`r2`), hence `PProbe2`. -/
structure CInv (stamp : Bool) (now : Int) (st : Bool) (lbt : Int) (inq : Prop) (G P P2 : Option Int) : Prop where
  g1 : ∀ t, G = some t → t ≤ now
  g2 : st = false → ∀ t, G = some t → t ≤ lbt
  p1 : ∀ t, P = some t → t ≤ now
  p4 : ∀ t, P = some t → ∃ g, G = some g
  /-- a probe call before the last one implies a last one (true of any log, `prevProbe_some_lastProbe`;
  a clause here so that the lemmas below need not speak of a log) -/
  p5 : ∀ t, P2 = some t → ∃ p, P = some p
  /-- queued: the last grant is not consumed yet, so it is no earlier than the last probe call, and it
  is `T` later than the probe call before that -/
  py : inq → ∃ g, G = some g ∧ (∀ p, P = some p → p ≤ g) ∧ (∀ p2, P2 = some p2 → p2 + T ≤ g)
  /-- not queued (the last grant was consumed by `P`): the probe call before the last is no later than
  the last grant; with `g2` this becomes the last part of `py` at the next grant -/
  px : ¬inq → ∀ g p2, G = some g → P2 = some p2 → p2 ≤ g
  r1 : stamp = true → st = false → ∀ p, P = some p → p ≤ lbt
  r2 : stamp = true → inq → ∀ p g, P = some p → G = some g → p + T ≤ g
  lb : st = false → lbt ≤ now

namespace CInv
variable {stamp : Bool} {now : Int} {st : Bool} {lbt : Int} {inq : Prop} {G P P2 : Option Int}

theorem advance (h : CInv stamp now st lbt inq G P P2) (d : Nat) : CInv stamp (now + d) st lbt inq G P P2 :=
  { h with g1 := fun t ht => (by have := h.g1 t ht; omega), p1 := fun t ht => (by have := h.p1 t ht; omega),
           lb := fun hs => (by have := h.lb hs; omega) }

theorem congr_inq {inq' : Prop} (h : CInv stamp now st lbt inq G P P2) (e : inq' ↔ inq) :
    CInv stamp now st lbt inq' G P P2 :=
  { g1 := h.g1, g2 := h.g2, p1 := h.p1, p4 := h.p4, p5 := h.p5, py := fun hi => h.py (e.mp hi),
    px := fun hi => h.px (fun x => hi (e.mpr x)), r1 := h.r1, r2 := fun hs hi => h.r2 hs (e.mp hi), lb := h.lb }

/-- `lastBlockTime := now` (any status afterwards) -/
theorem stampNow (h : CInv stamp now st lbt inq G P P2) (st' : Bool) : CInv stamp now st' now inq G P P2 :=
  { h with g2 := fun _ t ht => h.g1 t ht, r1 := fun _ _ p hp => h.p1 p hp, lb := fun _ => Int.le_refl _ }

theorem setActive (h : CInv stamp now st lbt inq G P P2) (lbt' : Int) : CInv stamp now true lbt' inq G P P2 :=
  { h with g2 := fun hf => (by cases hf), r1 := fun _ hf => (by cases hf), lb := fun hf => (by cases hf) }

/-- a probe candidate is queued: blocked, not queued, `T` seconds after lastBlockTime -/
theorem grant (h : CInv stamp now false lbt inq G P P2) (hn : ¬inq) (ht : T ≤ now - lbt) {inq' : Prop} (hi : inq') :
    CInv stamp now false now inq' (some now) P P2 := by
  have hG : ∀ g, G = some g → g + T ≤ now := fun g hg => by have := h.g2 rfl g hg; omega
  refine { g1 := ?g1, g2 := ?g2, p1 := h.p1, p4 := ?p4, p5 := h.p5, py := ?py, px := ?px, r1 := ?r1, r2 := ?r2,
           lb := fun _ => Int.le_refl _ }
  case g1 => intro t e; cases e; exact Int.le_refl _
  case g2 => intro _ t e; cases e; exact Int.le_refl _
  case p4 => intro t _; exact ⟨now, rfl⟩
  case py =>
    intro _
    refine ⟨now, rfl, fun p hp => h.p1 p hp, ?_⟩
    intro p2 hp2
    obtain ⟨p, hp⟩ := h.p5 p2 hp2
    obtain ⟨g, hg⟩ := h.p4 p hp
    have := h.px hn g p2 hg hp2
    have := hG g hg
    omega
  case px => intro hni; exact absurd hi hni
  case r1 => intro _ _ p hp; exact h.p1 p hp
  case r2 =>
    intro hs _ p g hp e
    cases e
    have := h.r1 hs rfl p hp
    omega

/-- the queued candidate is handed to a call; the repaired variant stamps `lastBlockTime` -/
theorem pop (h : CInv stamp now st lbt inq G P P2) (hi : inq) {inq' : Prop} (hn : ¬inq') :
    CInv stamp now st (if stamp = true then now else lbt) inq' G (some now) P := by
  obtain ⟨g, hg, hgp, hgp2⟩ := h.py hi
  refine { g1 := h.g1, g2 := ?g2, p1 := ?p1, p4 := ?p4, p5 := ?p5, py := ?py, px := ?px, r1 := ?r1, r2 := ?r2, lb := ?lb }
  case g2 =>
    intro hs t ht
    split
    · exact h.g1 t ht
    · exact h.g2 hs t ht
  case p1 => intro t e; cases e; exact Int.le_refl _
  case p4 => intro t _; exact ⟨g, hg⟩
  case p5 => intro t _; exact ⟨now, rfl⟩
  case py => intro hi'; exact absurd hi' hn
  case px =>
    intro _ g' p2 hg' hp2
    rw [hg] at hg'; cases hg'
    exact hgp p2 hp2
  case r1 => intro hs _ p e; cases e; rw [if_pos hs]; exact Int.le_refl _
  case r2 => intro _ hi'; exact absurd hi' hn
  case lb =>
    intro hs
    split
    · exact Int.le_refl _
    · exact h.lb hs

theorem grant_gap (h : CInv stamp now false lbt inq G P P2) (ht : T ≤ now - lbt) (t0 : Int) (h0 : G = some t0) :
    T ≤ now - t0 := by have := h.g2 rfl t0 h0; omega

theorem pop_gap3 (h : CInv stamp now st lbt inq G P P2) (hi : inq) (t1 : Int) (h1 : P2 = some t1) : T ≤ now - t1 := by
  obtain ⟨g, hg, _, hgp2⟩ := h.py hi
  have := hgp2 t1 h1
  have := h.g1 g hg
  omega

theorem pop_gap2 (h : CInv stamp now st lbt inq G P P2) (hs : stamp = true) (hi : inq) (t1 : Int) (h1 : P = some t1) :
    T ≤ now - t1 := by
  obtain ⟨g, hg, _, _⟩ := h.py hi
  have := h.r2 hs hi t1 g h1 hg
  have := h.g1 g hg
  omega

end CInv

/-! ## the manager-level timing invariant -/

/-- at a `grant` event: the previous candidate of the endpoint was queued `T` earlier -/
def PGrant (e : Event) (pre : List Event) : Prop :=
  ∀ ep t, e = .grant ep t → ∀ t0, lastGrant pre ep = some t0 → T ≤ t - t0
/-- at a probe call: of three consecutive probe calls on the endpoint the first is `T` older than the third -/
def PProbe3 (e : Event) (pre : List Event) : Prop :=
  ∀ ep t, e = .picked ep true t → ∀ t1, prevProbe pre ep = some t1 → T ≤ t - t1
/-- at a probe call: the previous probe call on the endpoint is `T` older (repaired variant only) -/
def PProbe2 (e : Event) (pre : List Event) : Prop :=
  ∀ ep t, e = .picked ep true t → ∀ t1, lastProbe pre ep = some t1 → T ≤ t - t1

def cview (s : Mgr) (ep : Nat) : Prop :=
  CInv s.stamp s.now (s.recs ep).status (s.recs ep).lastBlockTime (ep ∈ s.queue)
    (lastGrant s.log ep) (lastProbe s.log ep) (prevProbe s.log ep)

/-- the timing invariant: `checkAdapterList` and the `checkAdapter` channel hold the same endpoints, none
twice; every grant is consumed by exactly one probe call or still queued (`cnt`); `CInv` for every
endpoint; the spacing of grants and probe calls at every event of the log -/
structure InvT (s : Mgr) : Prop where
  pq : s.pend.Perm s.queue
  nd : s.queue.Nodup
  cnt : ∀ ep, grants s.log ep = probes s.log ep + (if ep ∈ s.queue then 1 else 0)
  c : ∀ ep, cview s ep
  okG : AllSuffix PGrant s.log
  okP3 : AllSuffix PProbe3 s.log
  okP2 : s.stamp = true → AllSuffix PProbe2 s.log

theorem invT_init (stamp : Bool) (reg : List Nat) (now0 : Int) : InvT (init stamp reg now0) := by
  refine { pq := .nil, nd := .nil, cnt := by simp [init, grants, probes],
           c := ?_, okG := trivial, okP3 := trivial, okP2 := fun _ => trivial }
  intro ep
  simp only [cview, init, lastGrant, lastProbe, prevProbe]
  constructor <;> simp [Rec.fresh]

theorem emit_neutral_invT {s : Mgr} (h : InvT s) (e : Event) (hg : ∀ ep t, e ≠ .grant ep t)
    (hp : ∀ ep t, e ≠ .picked ep true t) : InvT (emit s e) := by
  have e1 : ∀ ep, lastGrant (e :: s.log) ep = lastGrant s.log ep ∧ grants (e :: s.log) ep = grants s.log ep := by
    intro ep; cases e <;> first | exact ⟨rfl, rfl⟩ | exact absurd rfl (hg _ _)
  have e2 : ∀ ep, lastProbe (e :: s.log) ep = lastProbe s.log ep ∧ prevProbe (e :: s.log) ep = prevProbe s.log ep ∧
      probes (e :: s.log) ep = probes s.log ep := by
    intro ep; cases e with
    | picked x p t => cases p with
      | true => exact absurd rfl (hp x t)
      | false => exact ⟨rfl, rfl, rfl⟩
    | _ => exact ⟨rfl, rfl, rfl⟩
  exact { h with
    cnt := fun ep => by simp only [emit, (e1 ep).2, (e2 ep).2.2]; exact h.cnt ep
    c := fun ep => by simp only [cview, emit, (e1 ep).1, (e2 ep).1, (e2 ep).2.1]; exact h.c ep
    okG := ⟨fun ep t he => absurd he (hg ep t), h.okG⟩
    okP3 := ⟨fun ep t he => absurd he (hp ep t), h.okP3⟩
    okP2 := fun hs => ⟨fun ep t he => absurd he (hp ep t), h.okP2 hs⟩ }

theorem setRec_invT {s : Mgr} (h : InvT s) (ep : Nat) (r' : Rec)
    (hc : CInv s.stamp s.now r'.status r'.lastBlockTime (ep ∈ s.queue) (lastGrant s.log ep) (lastProbe s.log ep)
      (prevProbe s.log ep)) : InvT (setRec s ep r') :=
  { h with c := forall_upd (P := fun x (r : Rec) => CInv s.stamp s.now r.status r.lastBlockTime (x ∈ s.queue)
      (lastGrant s.log x) (lastProbe s.log x) (prevProbe s.log x)) hc (fun x _ => h.c x) }

theorem takeOut_invT {s : Mgr} (h : InvT s) (x : Nat) (r' : Rec) (hl : r'.lastBlockTime = s.now) :
    InvT (takeOut (setRec s x r') x) :=
  -- `{ h with }` restates `h` for a state that differs only in fields `InvT` does not mention
  emit_neutral_invT (s := { setRec s x r' with active := s.active.erase x, sel := s.sel.erase x })
    { setRec_invT h x r' (hl ▸ (h.c x).stampNow _) with } (.blocked x s.now) nofun
    nofun

theorem enqueue_invT {s : Mgr} (h : InvT s) (x : Nat) (r' : Rec) (hst : (s.recs x).status = false)
    (hst' : r'.status = false) (hl : r'.lastBlockTime = s.now) (ht : T ≤ s.now - (s.recs x).lastBlockTime)
    (hp : x ∉ s.pend) : InvT (enqueue (setRec s x r') x) := by
  have hq : x ∉ s.queue := fun hm => hp (h.pq.mem_iff.mpr hm)
  have hcx := h.c x
  rw [cview, hst] at hcx
  refine { pq := (h.pq.cons x).trans (List.perm_append_singleton x s.queue).symm, nd := ?_, cnt := fun e => ?_, c := ?_,
           okG := ⟨?_, h.okG⟩, okP3 := ⟨nofun, h.okP3⟩, okP2 := fun hs => ⟨nofun, h.okP2 hs⟩ }
  · show (s.queue ++ [x]).Nodup
    exact nodup_concat h.nd hq
  · show grants (.grant x s.now :: s.log) e = probes s.log e + if e ∈ s.queue ++ [x] then 1 else 0
    have := h.cnt e
    by_cases hx : x = e
    · subst hx; simp [hq] at this ⊢; omega
    · simp [hx, Ne.symm hx]; omega
  · refine forall_upd (P := fun e (r : Rec) => CInv s.stamp s.now r.status r.lastBlockTime (e ∈ s.queue ++ [x])
      (lastGrant (.grant x s.now :: s.log) e) (lastProbe s.log e) (prevProbe s.log e)) ?_ (fun e hx => ?_)
    · rw [hst', hl, lastGrant_grant, if_pos rfl]
      exact hcx.grant hq ht (List.mem_append.mpr (.inr (List.mem_singleton.mpr rfl)))
    · rw [lastGrant_grant, if_neg (Ne.symm hx)]
      exact (h.c e).congr_inq (by simp [hx])
  · intro e t he t0 h0
    injection he with he1 he2
    subst he1; subst he2
    exact hcx.grant_gap ht t0 h0

theorem recSend_popProbe (s : Mgr) (x : Nat) (q : List Nat) :
    recSend (popProbe s x q) x true = { s with
      queue := q, pend := s.pend.erase x, log := .picked x true s.now :: s.log,
      recs := upd s.recs x { sendAdd (s.recs x) with
        lastBlockTime := if s.stamp = true then s.now else (s.recs x).lastBlockTime } } := by
  unfold popProbe
  split <;> rename_i hs <;> simp only [recSend, emit, setRec, upd_upd, upd_same, hs] <;> rfl

theorem probe_invT {s : Mgr} (h : InvT s) {x : Nat} {q : List Nat} (hq : s.queue = x :: q) :
    InvT (recSend (popProbe s x q) x true) := by
  have hnd : x ∉ q ∧ q.Nodup := List.nodup_cons.mp (hq ▸ h.nd)
  have hxq : x ∈ s.queue := by rw [hq]; exact List.mem_cons_self
  have hmem : ∀ e, e ≠ x → (e ∈ q ↔ e ∈ s.queue) := by
    intro e he; rw [hq]; simp [he]
  have hcx : cview s x := h.c x
  rw [recSend_popProbe]
  refine { pq := ?_, nd := hnd.2, cnt := ?_, c := ?_,
           okG := ⟨nofun, h.okG⟩, okP3 := ⟨?_, h.okP3⟩, okP2 := fun hs => ⟨?_, h.okP2 hs⟩ }
  · show (s.pend.erase x).Perm q
    have := h.pq.erase x
    rwa [hq, List.erase_cons_head] at this
  · intro e
    show grants (.picked x true s.now :: s.log) e = probes (.picked x true s.now :: s.log) e + if e ∈ q then 1 else 0
    have hc := h.cnt e
    by_cases hx : x = e
    · subst hx; simp [hxq, hnd.1] at hc ⊢; omega
    · have hm := hmem e (Ne.symm hx)
      by_cases hin : e ∈ s.queue
      · simp [hx, hin, hm.mpr hin] at hc ⊢; omega
      · simp [hx, hin, mt hm.mp hin] at hc ⊢; omega
  · refine forall_upd (P := fun e (r : Rec) => CInv s.stamp s.now r.status r.lastBlockTime (e ∈ q)
      (lastGrant (.picked x true s.now :: s.log) e) (lastProbe (.picked x true s.now :: s.log) e)
      (prevProbe (.picked x true s.now :: s.log) e)) ?_ (fun e hx => ?_)
    · simp only [lastGrant_picked, lastProbe_probe, prevProbe_probe, if_true]
      exact hcx.pop hxq hnd.1
    · simp only [lastGrant_picked, lastProbe_probe, prevProbe_probe, Ne.symm hx, if_false]
      exact (h.c e).congr_inq (hmem e hx)
  · intro e t he t1 h1
    injection he with he1 _ he3
    subst he1; subst he3
    exact hcx.pop_gap3 hxq t1 h1
  · intro e t he t1 h1
    injection he with he1 _ he3
    subst he1; subst he3
    exact hcx.pop_gap2 hs hxq t1 h1

theorem recFail_invT {s : Mgr} (h : InvT s) (ep : Nat) : InvT (recFail s ep) :=
  emit_neutral_invT (setRec_invT h ep (failAdd (s.recs ep)) (h.c ep)) (.fail ep s.now)
    nofun nofun

theorem recOk_invT {s : Mgr} (h : InvT s) (ep : Nat) : InvT (recOk s ep) :=
  emit_neutral_invT (setRec_invT h ep (successAdd s.now (s.recs ep)) (h.c ep)) (.ok ep s.now)
    nofun nofun

theorem recSend_false_invT {s : Mgr} (h : InvT s) (ep : Nat) : InvT (recSend s ep false) :=
  emit_neutral_invT (setRec_invT h ep (sendAdd (s.recs ep)) (h.c ep)) (.picked ep false s.now)
    nofun nofun

theorem reinstate_invT {s : Mgr} (h : InvT s) (ep : Nat) : InvT (reinstate s ep) :=
  emit_neutral_invT (s := addAliveEp (setRec s ep (reset s.now (s.recs ep))) ep)
    { setRec_invT h ep (reset s.now (s.recs ep)) ((h.c ep).setActive _) with } (.reinstated ep s.now)
    nofun nofun

namespace Move

theorem invT {s s' : Mgr} (m : Move s s') (h : InvT s) : InvT s' := by
  cases m with
  | advance d => exact { h with c := fun ep => (h.c ep).advance d }
  | recheck x => exact setRec_invT h x _ ((h.c x).stampNow _)
  | block x => exact takeOut_invT h x _ rfl
  | grant x _ hs ht hp => exact enqueue_invT h x _ hs hs rfl ht hp
  | noEndpoint => exact emit_neutral_invT h _ nofun nofun
  | probe x q hq => exact probe_invT h hq
  | pick ep => exact recSend_false_invT (s := touch s ep) { h with } ep
  | fail ep => exact recFail_invT h ep
  | ok ep => exact recOk_invT h ep
  | reinstate ep => exact recOk_invT (reinstate_invT h ep) ep
  | send | answer => exact { h with }

end Move

theorem invT_step {s : Mgr} (hA : InvA s) (h : InvT s) (a : Action) : InvT (step s a) :=
  (hA.step_rule Move.invT h a).2

theorem invT_run {s : Mgr} (hA : InvA s) (h : InvT s) (hist : List Action) : InvT (run s hist) :=
  hA.run_rule Move.invT h hist

end Tars.Health
