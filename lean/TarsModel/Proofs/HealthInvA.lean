/-
  Invariant A of the failover model: the health record of every endpoint agrees with what the log says
  (failures since reinstatement, consecutive failures, time of the last success), blocked endpoints are
  outside the rotation, and every `blocked` event in the log was preceded by at least two failures since
  the last reinstatement.  "Rotation" is `Mgr.sel` throughout (`activeIn` too); the invariant says
  nothing about `Mgr.active`.
-/
import TarsModel.Proofs.HealthMove

namespace Tars.Health
open Tars

def PBlock (e : Event) (pre : List Event) : Prop := ∀ ep t, e = .blocked ep t → 2 ≤ failsSince pre ep

structure InvA (s : Mgr) : Prop where
  fc : ∀ ep, (s.recs ep).failCount = failsSince s.log ep
  lfc : ∀ ep, (s.recs ep).lastFailCount = streak s.log ep
  lfcLe : ∀ ep, (s.recs ep).lastFailCount ≤ (s.recs ep).failCount
  lst : ∀ ep, (s.recs ep).lastSuccessTime = (lastOk s.log ep).getD 0
  closed : ∀ ep, (s.recs ep).closed = false
  fresh : ∀ ep, s.has ep = false → s.recs ep = Rec.fresh
  hasReg : ∀ ep, s.has ep = true → ep ∈ s.reg
  selReg : ∀ ep, ep ∈ s.sel → ep ∈ s.reg
  inflHas : ∀ c, c ∈ s.inflight → s.has c.1 = true
  queueHas : ∀ ep, ep ∈ s.queue → s.has ep = true
  blockedOut : ∀ ep, (s.recs ep).status = false → ep ∉ s.sel
  selNodup : s.sel.Nodup
  activeIn : ∀ ep, ep ∈ s.reg → (s.recs ep).status = true → ep ∈ s.sel
  blockedFails : ∀ ep, (s.recs ep).status = false → 2 ≤ (s.recs ep).failCount
  okBlocks : AllSuffix PBlock s.log

theorem invA_init (stamp : Bool) (reg : List Nat) (now0 : Int) : InvA (init stamp reg now0) := by
  constructor <;> simp [init, Rec.fresh, failsSince, streak, lastOk, AllSuffix]
  · intro ep h; exact (mem_selRefresh reg ep).mp h
  · exact nodup_selRefresh reg
  · intro ep h; exact (mem_selRefresh reg ep).mpr h

/-- The record of an existing adapter `ep` is replaced by `r'`, the events `es` are logged and the
rotation becomes `sel'`. `InvA` survives if the events change nothing in what the log says of the
other endpoints, `r'` agrees with the new log, and the rotation changes at most in `ep`, in accordance
with the status of `r'`. Every action that touches a record is a case of this. -/
theorem update_invA {s : Mgr} (h : InvA s) {ep : Nat} (hh : s.has ep = true) (r' : Rec) (es : List Event)
    (sel' act' : List Nat)
    (hoth : ∀ x, x ≠ ep → failsSince (es ++ s.log) x = failsSince s.log x ∧ streak (es ++ s.log) x = streak s.log x ∧
      lastOk (es ++ s.log) x = lastOk s.log x)
    (hfc : r'.failCount = failsSince (es ++ s.log) ep) (hlfc : r'.lastFailCount = streak (es ++ s.log) ep)
    (hle : r'.lastFailCount ≤ r'.failCount) (hlst : r'.lastSuccessTime = (lastOk (es ++ s.log) ep).getD 0)
    (hcl : r'.closed = false) (hsel : ∀ x, x ≠ ep → (x ∈ sel' ↔ x ∈ s.sel)) (hnd : sel'.Nodup)
    (hin : r'.status = true → ep ∈ sel') (hout : r'.status = false → ep ∉ sel' ∧ 2 ≤ r'.failCount)
    (hb : AllSuffix PBlock (es ++ s.log)) :
    InvA { s with recs := upd s.recs ep r', log := es ++ s.log, sel := sel', active := act' } :=
    { fc := forall_upd (P := fun x (r : Rec) => r.failCount = failsSince (es ++ s.log) x) hfc (fun x hx => (h.fc x).trans (hoth x hx).1.symm)
      lfc := forall_upd (P := fun x (r : Rec) => r.lastFailCount = streak (es ++ s.log) x) hlfc (fun x hx => (h.lfc x).trans (hoth x hx).2.1.symm)
      lfcLe := forall_upd (P := fun _ (r : Rec) => r.lastFailCount ≤ r.failCount) hle (fun x _ => h.lfcLe x)
      lst := forall_upd (P := fun x (r : Rec) => r.lastSuccessTime = (lastOk (es ++ s.log) x).getD 0) hlst
        (fun x hx => (h.lst x).trans (congrArg (·.getD 0) (hoth x hx).2.2.symm))
      closed := forall_upd (P := fun _ (r : Rec) => r.closed = false) hcl (fun x _ => h.closed x)
      fresh := forall_upd (P := fun x (r : Rec) => s.has x = false → r = Rec.fresh) (fun hf => by rw [hh] at hf; cases hf) (fun x _ => h.fresh x)
      hasReg := h.hasReg
      selReg := fun x hx => if e : x = ep then e ▸ h.hasReg ep hh else h.selReg x ((hsel x e).mp hx)
      inflHas := h.inflHas
      queueHas := h.queueHas
      blockedOut := forall_upd (P := fun x (r : Rec) => r.status = false → x ∉ sel') (fun hs => (hout hs).1)
        (fun x hx hs hm => h.blockedOut x hs ((hsel x hx).mp hm))
      selNodup := hnd
      activeIn := forall_upd (P := fun x (r : Rec) => x ∈ s.reg → r.status = true → x ∈ sel') (fun _ => hin)
        (fun x hx hr hs => (hsel x hx).mpr (h.activeIn x hr hs))
      blockedFails := forall_upd (P := fun _ (r : Rec) => r.status = false → 2 ≤ r.failCount) (fun hs => (hout hs).2) (fun x _ => h.blockedFails x)
      okBlocks := hb }

/-- `r'` agrees with `r` on what `InvA` ties to the log: the two failure counters, the time of the last
success, `closed` -/
structure SameCounters (r' r : Rec) : Prop where
  failCount : r'.failCount = r.failCount
  lastFailCount : r'.lastFailCount = r.lastFailCount
  lastSuccessTime : r'.lastSuccessTime = r.lastSuccessTime
  closed : r'.closed = r.closed

theorem setRec_invA {s : Mgr} (h : InvA s) {ep : Nat} (hh : s.has ep = true) (r' : Rec) (es : List Event)
    (hes : ∀ x, failsSince (es ++ s.log) x = failsSince s.log x ∧ streak (es ++ s.log) x = streak s.log x ∧
      lastOk (es ++ s.log) x = lastOk s.log x) (hb : AllSuffix PBlock (es ++ s.log))
    (hr : SameCounters r' (s.recs ep)) (hst : r'.status = (s.recs ep).status) :
    InvA { s with recs := upd s.recs ep r', log := es ++ s.log } :=
  update_invA h hh r' es s.sel s.active (hoth := fun x _ => hes x)
    (hfc := hr.failCount.trans ((h.fc ep).trans (hes ep).1.symm))
    (hlfc := hr.lastFailCount.trans ((h.lfc ep).trans (hes ep).2.1.symm))
    (hle := hr.failCount ▸ hr.lastFailCount ▸ h.lfcLe ep)
    (hlst := hr.lastSuccessTime.trans ((h.lst ep).trans (congrArg (·.getD 0) (hes ep).2.2.symm)))
    (hcl := hr.closed.trans (h.closed ep)) (hsel := fun _ _ => Iff.rfl) (hnd := h.selNodup)
    (hin := fun hs => h.activeIn ep (h.hasReg ep hh) (hst ▸ hs))
    (hout := fun hs => ⟨h.blockedOut ep (hst ▸ hs), hr.failCount ▸ h.blockedFails ep (hst ▸ hs)⟩) (hb := hb)

/-- `lastBlockTime` is no part of `InvA` -/
theorem stamp_invA {s : Mgr} (h : InvA s) {x : Nat} (hh : s.has x = true) (l : Int) :
    InvA (setRec s x { s.recs x with lastBlockTime := l }) :=
  setRec_invA h hh _ [] (fun _ => ⟨rfl, rfl, rfl⟩) h.okBlocks ⟨rfl, rfl, rfl, rfl⟩ rfl

theorem recSend_invA {s : Mgr} (h : InvA s) {ep : Nat} (p : Bool) (hh : s.has ep = true) : InvA (recSend s ep p) :=
  setRec_invA h hh (sendAdd (s.recs ep)) [.picked ep p s.now] (fun _ => ⟨rfl, rfl, rfl⟩)
    ⟨nofun, h.okBlocks⟩ ⟨rfl, rfl, rfl, rfl⟩ rfl

theorem recFail_invA {s : Mgr} (h : InvA s) {ep : Nat} (hh : s.has ep = true) : InvA (recFail s ep) :=
  update_invA h hh (failAdd (s.recs ep)) [.fail ep s.now] s.sel s.active
    (hoth := fun x hx => by simp [Ne.symm hx])
    (hfc := by simp [failAdd, h.fc ep, Nat.add_comm]) (hlfc := by simp [failAdd, h.lfc ep, Nat.add_comm])
    (hle := Nat.succ_le_succ (h.lfcLe ep)) (hlst := h.lst ep) (hcl := h.closed ep)
    (hsel := fun _ _ => Iff.rfl) (hnd := h.selNodup) (hin := h.activeIn ep (h.hasReg ep hh))
    (hout := fun hs => ⟨h.blockedOut ep hs, Nat.le_succ_of_le (h.blockedFails ep hs)⟩)
    (hb := ⟨nofun, h.okBlocks⟩)

theorem recOk_invA {s : Mgr} (h : InvA s) {ep : Nat} (hh : s.has ep = true) : InvA (recOk s ep) :=
  update_invA h hh (successAdd s.now (s.recs ep)) [.ok ep s.now] s.sel s.active
    (hoth := fun x hx => by simp [Ne.symm hx]) (hfc := h.fc ep) (hlfc := by simp [successAdd])
    (hle := Nat.zero_le _) (hlst := by simp [successAdd]) (hcl := h.closed ep)
    (hsel := fun _ _ => Iff.rfl) (hnd := h.selNodup) (hin := h.activeIn ep (h.hasReg ep hh))
    (hout := fun hs => ⟨h.blockedOut ep hs, h.blockedFails ep hs⟩) (hb := ⟨nofun, h.okBlocks⟩)

theorem reinstate_recOk_invA {s : Mgr} (h : InvA s) {ep : Nat} (hh : s.has ep = true) :
    InvA (recOk (reinstate s ep) ep) := by
  have e : recOk (reinstate s ep) ep = { s with
      recs := upd s.recs ep (successAdd s.now (reset s.now (s.recs ep))),
      log := [.ok ep s.now, .reinstated ep s.now] ++ s.log, sel := selAdd s.sel ep, active := s.active ++ [ep] } := by
    simp only [recOk, reinstate, emit, addAliveEp, setRec, upd_upd, upd_same, List.cons_append, List.nil_append]
  rw [e]
  exact update_invA h hh _ _ _ _ (hoth := fun x hx => by simp [Ne.symm hx])
    (hfc := by simp [successAdd, reset]) (hlfc := by simp [successAdd, reset]) (hle := Nat.le_refl _)
    (hlst := by simp [successAdd]) (hcl := h.closed ep)
    (hsel := fun x hx => by simp [mem_selAdd, hx]) (hnd := nodup_selAdd _ _ h.selNodup)
    (hin := fun _ => (mem_selAdd _ _ _).mpr (.inr rfl)) (hout := fun hs => nomatch hs)
    (hb := ⟨nofun, nofun, h.okBlocks⟩)

theorem takeOut_invA {s : Mgr} (h : InvA s) {ep : Nat} (r' : Rec) (hh : s.has ep = true)
    (hr : SameCounters r' (s.recs ep)) (hblocked : r'.status = false) (hfails : 2 ≤ r'.failCount) :
    InvA (takeOut (setRec s ep r') ep) :=
  update_invA h hh r' [.blocked ep s.now] (s.sel.erase ep) (s.active.erase ep)
    (hoth := fun _ _ => ⟨rfl, rfl, rfl⟩) (hfc := hr.failCount.trans (h.fc ep))
    (hlfc := hr.lastFailCount.trans (h.lfc ep)) (hle := hr.failCount ▸ hr.lastFailCount ▸ h.lfcLe ep)
    (hlst := hr.lastSuccessTime.trans (h.lst ep)) (hcl := hr.closed.trans (h.closed ep))
    (hsel := fun x hx => List.mem_erase_of_ne hx) (hnd := h.selNodup.erase ep)
    (hin := fun hs => by rw [hblocked] at hs; cases hs)
    (hout := fun _ => ⟨fun hm => (h.selNodup.mem_erase_iff.mp hm).1 rfl, hfails⟩)
    (hb := ⟨(fun _ _ he => by
        injection he with he1; subst he1; exact (h.fc _ ▸ hr.failCount ▸ hfails : 2 ≤ failsSince s.log _)),
      h.okBlocks⟩)

theorem enqueue_invA {s : Mgr} (h : InvA s) {ep : Nat} (hh : s.has ep = true) : InvA (enqueue s ep) :=
  -- `{ h with .. }`: the clauses not listed are those of `h`, the states differing only in fields they do
  -- not mention (or, for the log, in an event their observables skip)
  { h with
    queueHas := fun e he => (List.mem_append.mp he).elim (h.queueHas e) (fun h1 => by rw [List.mem_singleton.mp h1]; exact hh)
    okBlocks := ⟨nofun, h.okBlocks⟩ }

namespace Move

theorem invA {s s' : Mgr} (m : Move s s') (h : InvA s) : InvA s' := by
  cases m with
  | advance d => exact { h with }
  | recheck x hh => exact stamp_invA h hh _
  | block x hh hrule =>
    refine takeOut_invA h _ hh ⟨rfl, rfl, rfl, rfl⟩ rfl ?_
    -- whichever rule fired, two failures: `fainN ≤ lastFailCount ≤ failCount` or `overN ≤ failCount`
    show 2 ≤ (s.recs x).failCount
    have := h.lfcLe x
    have := fainN_ge_two
    have := overN_ge_two
    rcases hrule with hrule | hrule <;> omega
  | grant x hh => exact enqueue_invA (stamp_invA h hh _) hh
  | noEndpoint => exact { h with okBlocks := ⟨nofun, h.okBlocks⟩ }
  | probe x q hq =>
    have hh : s.has x = true := h.queueHas x (hq ▸ List.mem_cons_self)
    have h1 : InvA { s with queue := q, pend := s.pend.erase x } :=
      { h with queueHas := fun e he => h.queueHas e (hq ▸ List.mem_cons_of_mem _ he) }
    refine recSend_invA (s := popProbe s x q) ?_ true (popProbe_has s x q ▸ hh)
    unfold popProbe; split
    · exact stamp_invA h1 hh _
    · exact h1
  | pick ep hsel hreg =>
    have hr : ep ∈ s.reg := if hs : s.sel = [] then hreg hs else h.selReg ep (hsel hs)
    -- the adapter of `ep` is created
    have mono : ∀ x, s.has x = true → (touch s ep).has x = true :=
      forall_upd (P := fun x b => s.has x = true → b = true) (fun _ => rfl) (fun _ _ hx => hx)
    exact recSend_invA (s := touch s ep)
      { h with
        fresh := forall_upd (P := fun x b => b = false → s.recs x = Rec.fresh) (fun hf => nomatch hf) (fun x _ => h.fresh x)
        hasReg := forall_upd (P := fun x b => b = true → x ∈ s.reg) (fun _ => hr) (fun x _ => h.hasReg x)
        inflHas := fun c hc => mono _ (h.inflHas c hc)
        queueHas := fun x hx => mono _ (h.queueHas x hx) } false (upd_same ..)
  | fail ep hh => exact recFail_invA h hh
  | ok ep hh => exact recOk_invA h hh
  | reinstate ep hh => exact reinstate_recOk_invA h hh
  | send ep p hh =>
    exact { h with inflHas := fun c hc =>
      (List.mem_append.mp hc).elim (h.inflHas c) (fun h1 => by rw [List.mem_singleton.mp h1]; exact hh) }
  | answer k => exact { h with inflHas := fun c hc => h.inflHas c (List.mem_of_mem_eraseIdx hc) }

end Move

namespace InvA

theorem known {s : Mgr} (h : InvA s) : Known s := ⟨h.inflHas, h.queueHas⟩

theorem has_of_ne_fresh {s : Mgr} (h : InvA s) {ep : Nat} (hne : s.recs ep ≠ Rec.fresh) : s.has ep = true :=
  Bool.of_not_eq_false fun hb => hne (h.fresh ep hb)

/-- What every `Move` preserves holds along every action from an `InvA` state. `InvA` is what supplies
`Known`, so the facts proved through this rule (`run_later`, `run_noNone`, `InvT`) are stated for `InvA`
states: every state a history reaches from `init` is one. -/
theorem step_rule {P : Mgr → Prop} (hP : ∀ {m m'}, Move m m' → P m → P m')
    {s : Mgr} (hA : InvA s) (h : P s) (a : Action) : InvA (step s a) ∧ P (step s a) :=
  Tars.Health.step_rule (P := fun m => InvA m ∧ P m) (fun h => h.1.known)
    (fun mv h => ⟨mv.invA h.1, hP mv h.2⟩) ⟨hA, h⟩ a

theorem run_rule {P : Mgr → Prop} (hP : ∀ {m m'}, Move m m' → P m → P m')
    {s : Mgr} (hA : InvA s) (h : P s) (hist : List Action) : P (run s hist) :=
  (run_induct (P := fun m => InvA m ∧ P m) (fun hm => hm.1.step_rule hP hm.2) ⟨hA, h⟩ hist).2

end InvA

theorem invA_step {s : Mgr} (h : InvA s) (a : Action) : InvA (step s a) :=
  step_rule InvA.known Move.invA h a

theorem invA_run {s : Mgr} (h : InvA s) (hist : List Action) : InvA (run s hist) :=
  run_induct (P := InvA) invA_step h hist

theorem run_later {s : Mgr} (hA : InvA s) (hist : List Action) : Later s (run s hist) :=
  hA.run_rule (P := Later s) (fun m h => h.trans m.later) ⟨rfl, rfl, Int.le_refl _⟩ hist

theorem run_noNone {s : Mgr} (hA : InvA s) (hist : List Action) (hr : s.reg ≠ []) (h : NoNone s.log) :
    NoNone (run s hist).log :=
  (hA.run_rule (P := fun m => m.reg ≠ [] ∧ NoNone m.log) (fun m h => ⟨m.later.reg ▸ h.1, m.noNone h.1 h.2⟩)
    ⟨hr, h⟩ hist).2

end Tars.Health
