import TarsModel.Model.CallPath
import TarsModel.Proofs.SchemaRTKinds
import TarsModel.Proofs.SchemaFuel
import TarsModel.Proofs.Evolve

/-!
# Argument and response buffers of an interface function: encode / decode round trips

  Parameters and return values are sequences of required members without defaults (that is what
  the generator builds); the dispatcher reads its in parameters from a buffer into which the proxy
  also wrote the out parameters.
-/
namespace Tars.CallPath
open Tars Consts

/-- what the generator's dummy members look like, and that their type is of the supported language -/
def ArgFieldOK (env : Env) (rk : String → Nat) (f : Field) : Prop :=
  f.tag < 256 ∧ f.req = true ∧ f.dflt = none ∧ TyOK env rk (env.length + 1) f.ty

/-- what the target of a required member may hold when it is read: what `var` / `ResetDefault`
    leave (`OldOK`), or any Go value of the member's type (a reused variable); for a required
    member this is `Held env true f.ty f.dflt o` of the C03 round trip -/
def ArgOld (env : Env) (f : Field) (o : Val) : Prop := OldOK env f.ty f.dflt o ∨ WT env f.ty o

def ArgOlds (env : Env) : List Field → List Val → Prop
  | [], [] => True
  | f :: fs, o :: os => ArgOld env f o ∧ ArgOlds env fs os
  | _, _ => False

theorem argOlds_of_WTm (env : Env) : ∀ (fs : List Field) (os : List Val), WTm env fs os →
    ArgOlds env fs os
  | [], [], _ => trivial
  | [], _ :: _, h => by simp [WTm] at h
  | _ :: _, [], h => by simp [WTm] at h
  | f :: fs, o :: os, h => by
    simp only [WTm] at h
    exact ⟨.inr h.1, argOlds_of_WTm env fs os h.2⟩

theorem argOlds_of_oldOKs (env : Env) : ∀ (fs : List Field) (os : List Val), OldOKs env fs os →
    ArgOlds env fs os
  | [], [], _ => trivial
  | [], _ :: _, h => by simp [OldOKs] at h
  | _ :: _, [], h => by simp [OldOKs] at h
  | f :: fs, o :: os, h => by
    simp only [OldOKs] at h
    exact ⟨.inl h.1, argOlds_of_oldOKs env fs os h.2⟩

theorem fuel_eq_succ {vs : List Val} {fuel : Nat} (h : needElems vs ≤ fuel) : ∃ f, fuel = f + 1 :=
  ⟨fuel - 1, by have := needElems_pos vs; omega⟩

theorem decVar_arg_rt (env : Env) (rk : String → Nat) (hE : EnvWF env rk) (g : Field)
    (hg : ArgFieldOK env rk g) (v o : Val) (hwt : WT env g.ty v) (ho : ArgOld env g o) (f : Nat)
    (hf : needVar v ≤ f) (r : Reader) (t : Bytes)
    (h : r.rest = encVar env g.tag g.req g.ty g.dflt v ++ t) :
    decVar env f g.tag g.req g.ty o r
      = (.ok (normVar env g.req g.ty g.dflt v), r.adv (encVar env g.tag g.req g.ty g.dflt v).length) := by
  obtain ⟨tag, req, ty, dflt⟩ := g
  obtain ⟨hg1, rfl, rfl, hg4⟩ := hg
  -- a required member's read overwrites whatever well-typed value the target holds (`Held`)
  exact (rtHeldAt_all env rk hE v f).elem hg1 hg4 hwt (ho.imp id fun h => ⟨rfl, h⟩) hf h

theorem decMembers_req_rt (env : Env) (rk : String → Nat) (hE : EnvWF env rk) :
    ∀ (vs : List Val) (fs : List Field) (fuel : Nat) (olds : List Val) (r : Reader) (t : Bytes),
      (∀ f ∈ fs, ArgFieldOK env rk f) → WTm env fs vs → ArgOlds env fs olds →
      needElems vs ≤ fuel → r.rest = encMembers env fs vs ++ t →
      decMembers env fuel fs olds r
        = (.ok (normMembers env fs vs), r.adv (encMembers env fs vs).length)
  | [], [], fuel, _, r, t, _, _, _, hf, _ => by
    obtain ⟨f, rfl⟩ := fuel_eq_succ hf
    rw [decMembers_nil]; simp [normMembers, encMembers]
  | [], _ :: _, _, _, _, _, _, hwt, _, _, _ => by simp [WTm] at hwt
  | _ :: _, [], _, _, _, _, _, hwt, _, _, _ => by simp [WTm] at hwt
  | _ :: _, _ :: _, _, [], _, _, _, _, hold, _, _ => by simp [ArgOlds] at hold
  | v :: vs, g :: gs, fuel, o :: os, r, t, hfs, hwt, hold, hf, h => by
    obtain ⟨f, rfl⟩ := fuel_eq_succ hf
    simp only [needElems] at hf
    simp only [encMembers, List.append_assoc] at h
    rw [decMembers_cons,
      decVar_arg_rt env rk hE g (hfs g (by simp)) v o hwt.1 hold.1 f (by omega) r _ h]
    dsimp only
    rw [decMembers_req_rt env rk hE vs gs f os _ t (fun f' hf' => hfs f' (by simp [hf'])) hwt.2 hold.2
        (by omega) (r.rest_adv h), Reader.adv_adv, ← List.length_append]
    rfl

theorem mem_reqFieldsFrom : ∀ (ps : List Param) (k : Nat) (f : Field), f ∈ reqFieldsFrom k ps →
    ∃ j p, k ≤ j ∧ j < k + ps.length ∧ p ∈ ps ∧ f = argField j p
  | [], _, _, hf => by cases hf
  | p :: ps, k, f, hf => by
    rcases List.mem_cons.1 hf with rfl | hf
    · exact ⟨k, p, Nat.le_refl _, by simp, by simp, rfl⟩
    · obtain ⟨j, q, h1, h2, h3, h4⟩ := mem_reqFieldsFrom ps (k+1) f hf
      exact ⟨j, q, by omega, by simp only [List.length_cons]; omega, by simp [h3], h4⟩

theorem inFieldsFrom_sublist : ∀ (ps : List Param) (k : Nat),
    (inFieldsFrom k ps).Sublist (reqFieldsFrom k ps)
  | [], _ => .slnil
  | p :: ps, k => by
    unfold inFieldsFrom reqFieldsFrom
    split
    · exact .cons _ (inFieldsFrom_sublist ps (k+1))
    · exact .cons_cons _ (inFieldsFrom_sublist ps (k+1))

theorem outFieldsFrom_sublist : ∀ (ps : List Param) (k : Nat),
    (outFieldsFrom k ps).Sublist (reqFieldsFrom k ps)
  | [], _ => .slnil
  | p :: ps, k => by
    unfold outFieldsFrom reqFieldsFrom
    split
    · exact .cons_cons _ (outFieldsFrom_sublist ps (k+1))
    · exact .cons _ (outFieldsFrom_sublist ps (k+1))

theorem reqFieldsFrom_ok (env : Env) (rk : String → Nat) : ∀ (ps : List Param) (k : Nat),
    k + ps.length + cpArgTagOffset ≤ 256 → (∀ p ∈ ps, TyOK env rk (env.length + 1) p.ty) →
    ∀ f ∈ reqFieldsFrom k ps, ArgFieldOK env rk f := by
  intro ps k hk hty f hf
  obtain ⟨j, p, _, hj, hp, rfl⟩ := mem_reqFieldsFrom ps k f hf
  exact ⟨by simp only [argField, argTag]; omega, rfl, rfl, hty p hp⟩

theorem inFieldsFrom_tag (ps : List Param) (k : Nat) (f : Field) (hf : f ∈ inFieldsFrom k ps) :
    argTag k ≤ f.tag := by
  obtain ⟨j, p, hj, _, _, rfl⟩ := mem_reqFieldsFrom ps k f ((inFieldsFrom_sublist ps k).subset hf)
  simp only [argField, argTag]; omega

theorem outFieldsFrom_ok (env : Env) (rk : String → Nat) (ps : List Param) (k : Nat)
    (hk : k + ps.length + cpArgTagOffset ≤ 256) (hty : ∀ p ∈ ps, TyOK env rk (env.length + 1) p.ty)
    (f : Field) (hf : f ∈ outFieldsFrom k ps) : ArgFieldOK env rk f :=
  reqFieldsFrom_ok env rk ps k hk hty f ((outFieldsFrom_sublist ps k).subset hf)

theorem WTm_out (env : Env) : ∀ (ps : List Param) (k : Nat) (args : List Val),
    WTm env (reqFieldsFrom k ps) args → WTm env (outFieldsFrom k ps) (outVals ps args)
  | [], _, args, h => by
    cases args with
    | nil => simp [outFieldsFrom, outVals, WTm]
    | cons a as => simp [reqFieldsFrom, WTm] at h
  | p :: ps, k, args, h => by
    cases args with
    | nil => simp [reqFieldsFrom, WTm] at h
    | cons a as =>
      simp only [reqFieldsFrom, WTm] at h
      have h2 := WTm_out env ps (k+1) as h.2
      simp only [outFieldsFrom, outVals]
      cases p.isOut <;> simp [WTm, h2] <;> exact h.1

theorem needElems_tail (v : Val) (vs : List Val) : needElems vs ≤ needElems (v :: vs) := by
  simp only [needElems]; omega

open WFField Skip in
/-- **The generated read of a member passes over a written member with a lower tag**: outcome, and
    on success the reader, are as if the reading started right behind that member.  What
    `genWriteVar` emits for a well-typed value is the rendering of one parsable field (`encEq_all`,
    `wireOK_all`); when the bytes written are fewer than 2^31 (a frame within the package limit)
    that field is well formed (`wf_of_parsable`: a map entry takes at least two bytes, so every map
    inside has fewer than 2^30 entries and `skipFieldMap`'s `length*2` fits int32), and the reads
    of C04 skip it exactly (`Evolve.decVar_passes`). -/
theorem decVar_skips (env : Env) (rk : String → Nat) (hE : EnvWF env rk) (v : Val) (tg : Nat)
    (tyv : Ty) (htg : tg < 256) (hwt : WT env tyv v)
    (hl : (encVar env tg true tyv none v).length < 2 ^ 31)
    (fuel tag : Nat) (req : Bool) (ty : Ty) (old : Val) (hlt : tg < tag) (r : Reader) (t : Bytes)
    (h : r.rest = encVar env tg true tyv none v ++ t) :
    Evolve.ResEq (decVar env fuel tag req ty old r)
      (decVar env fuel tag req ty old (r.adv (encVar env tg true tyv none v).length)) := by
  have hp := wireOK_all env rk hE v tyv hwt tg htg
  have htag := wireVar_tag env tg hwt
  have henc := (encEq_all env v tyv hwt).elem tg
  have hrl : renderList [wireVar env tg tyv v] = encVar env tg true tyv none v := by
    rw [henc, renderList_cons]; simp [renderList]
  have := Evolve.decVar_passes env fuel tag req ty old r [wireVar env tg tyv v]
    (fun x hx => by
      simp at hx; subst hx
      exact ⟨wf_of_parsable _ hp (henc ▸ hl), by omega⟩) t (by rw [hrl]; exact h)
  rw [hrl] at this
  exact this

theorem decMembers_head_congr (env : Env) (f : Nat) (g : Field) (gs : List Field) (o : Val)
    (os : List Val) (r r' : Reader)
    (hres : Evolve.ResEq (decVar env f g.tag g.req g.ty o r) (decVar env f g.tag g.req g.ty o r')) :
    (decMembers env (f+1) (g :: gs) (o :: os) r).1 = (decMembers env (f+1) (g :: gs) (o :: os) r').1 := by
  rw [decMembers_cons, decMembers_cons]
  obtain ⟨h1, h2⟩ := hres
  rcases hA : decVar env f g.tag g.req g.ty o r with ⟨a, ra⟩
  rcases hB : decVar env f g.tag g.req g.ty o r' with ⟨b, rb⟩
  rw [hA, hB] at h1 h2
  simp only at h1 h2
  subst h1
  cases a with
  | error e => rfl
  | ok v =>
    have := h2 v rfl
    subst this
    rfl

/-- **what the dispatcher reads.**  From a buffer holding every parameter (tag `k+1`, as the proxy
    writes them), reading only the in parameters — each at its tag, into a zero-valued variable —
    yields exactly (the normal forms of) the in values: the out parameters in between are skipped.
    The buffer is shorter than 2^31 bytes (it fits a frame): that is what makes every map in it one
    that `skipFieldMap` passes over exactly (`decVar_skips`). -/
theorem decIns_rt (env : Env) (rk : String → Nat) (hE : EnvWF env rk) :
    ∀ (ps : List Param) (k : Nat) (args : List Val) (fuel : Nat) (r : Reader) (t : Bytes),
      k + ps.length + cpArgTagOffset ≤ 256 → (∀ p ∈ ps, TyOK env rk (env.length + 1) p.ty) →
      WTm env (reqFieldsFrom k ps) args →
      (encMembers env (reqFieldsFrom k ps) args).length < 2 ^ 31 →
      needElems args ≤ fuel → r.rest = encMembers env (reqFieldsFrom k ps) args ++ t →
      (decMembers env fuel (inFieldsFrom k ps) ((inFieldsFrom k ps).map fun fl => zeroOf env fl.ty) r).1
        = .ok (normMembers env (inFieldsFrom k ps) (inVals ps args))
  | [], k, [], fuel, r, t, _, _, _, _, hf, _ => by
    obtain ⟨f, rfl⟩ := fuel_eq_succ hf
    rw [inFieldsFrom, List.map_nil, decMembers_nil]; rfl
  | [], k, _ :: _, _, _, _, _, _, hwt, _, _, _ => by simp [reqFieldsFrom, WTm] at hwt
  | _ :: _, k, [], _, _, _, _, _, hwt, _, _, _ => by simp [reqFieldsFrom, WTm] at hwt
  | p :: ps, k, v :: vs, fuel, r, t, hk, hty, hwt, hl, hf, h => by
    simp only [reqFieldsFrom, WTm] at hwt
    simp only [reqFieldsFrom, encMembers, List.append_assoc] at h
    simp only [reqFieldsFrom, encMembers, List.length_append] at hl
    have hl' : (encMembers env (reqFieldsFrom (k+1) ps) vs).length < 2 ^ 31 := by omega
    have hlv : (encVar env (argTag k) true p.ty none v).length < 2 ^ 31 := by
      simp only [argField] at hl; omega
    have hk' : (k+1) + ps.length + cpArgTagOffset ≤ 256 := by
      simp only [List.length_cons] at hk; omega
    have hty' : ∀ q ∈ ps, TyOK env rk (env.length + 1) q.ty := fun q hq => hty q (by simp [hq])
    have hg : ArgFieldOK env rk (argField k p) :=
      reqFieldsFrom_ok env rk (p :: ps) k hk hty _ (by simp [reqFieldsFrom])
    have hr := r.rest_adv h
    obtain ⟨f, rfl⟩ := fuel_eq_succ hf
    by_cases hout : p.isOut = true
    · -- an out parameter: written by the proxy, not read by the dispatcher
      simp only [inFieldsFrom, inVals, hout, if_true]
      rw [← decIns_rt env rk hE ps (k+1) vs (f+1) _ t hk' hty' hwt.2 hl'
        (Nat.le_trans (needElems_tail v vs) hf) hr]
      -- the remaining reads start with a member whose tag is higher
      cases hfs : inFieldsFrom (k+1) ps with
      | nil => rw [List.map_nil, decMembers_nil, decMembers_nil]
      | cons g gs =>
        have hgt := inFieldsFrom_tag ps (k+1) g (by rw [hfs]; simp)
        exact decMembers_head_congr env f g gs _ _ r _
          (decVar_skips env rk hE v (argTag k) p.ty hg.1 hwt.1 hlv f g.tag g.req g.ty _
            (by simp only [argTag] at hgt ⊢; omega) r _ h)
    · simp only [Bool.not_eq_true] at hout
      simp only [inFieldsFrom, inVals, hout, Bool.false_eq_true, if_false, List.map_cons]
      simp only [needElems] at hf
      rw [decMembers_cons,
        decVar_arg_rt env rk hE (argField k p) hg v (zeroOf env (argField k p).ty) hwt.1
          (.inl (zeroOf_ready hE p.ty (hty p (by simp)))) f (by omega) r _ h]
      have hi := decIns_rt env rk hE ps (k+1) vs f _ t hk' hty' hwt.2 hl' (by omega) hr
      dsimp only
      generalize decMembers env f _ _ _ = x at hi ⊢
      obtain ⟨_ | ws, r2⟩ := x <;> cases hi
      rfl

theorem encMembers_req_length (env : Env) : ∀ (fs : List Field) (vs : List Val),
    (∀ f ∈ fs, f.req = true) → WTm env fs vs → vs.length ≤ (encMembers env fs vs).length
  | [], [], _, _ => by simp [encMembers]
  | [], _ :: _, _, h => by simp [WTm] at h
  | _ :: _, [], _, h => by simp [WTm] at h
  | f :: fs, v :: vs, hreq, h => by
    simp only [WTm] at h
    have h1 := encMembers_req_length env fs vs (fun g hg => hreq g (by simp [hg])) h.2
    have h2 := encVar_req_pos env f.tag f.ty f.dflt v h.1
    rw [← hreq f (by simp)] at h2
    simp only [encMembers, List.length_append, List.length_cons]
    omega

theorem needElems_le_argFuel (env : Env) (fs : List Field) (vs : List Val)
    (hreq : ∀ f ∈ fs, f.req = true) (hwt : WTm env fs vs) :
    needElems vs ≤ argFuel env (Reader.mk0 (encMembers env fs vs)) := by
  have hb := needElems_le_members env fs vs hwt
  have hl := encMembers_req_length env fs vs hreq hwt
  unfold argFuel
  simp only [Reader.mk0, List.size_toArray]
  have e1 : (env.width + 4) * ((encMembers env fs vs).length + 2)
      = (env.width + 3) * (encMembers env fs vs).length + (encMembers env fs vs).length
        + 2 * (env.width + 4) := by
    simp only [Nat.mul_add, Nat.add_mul]; omega
  omega

end Tars.CallPath
