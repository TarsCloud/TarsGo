import TarsModel.Proofs.WireSkip
import TarsModel.Proofs.WireRead

/-!
  Wire level, no schema: every scalar `Reader.ReadX` is `SkipToNoCheck` followed by a type switch
  (`readWith`).  `DecOK`/`ErrClass` say what a decoder guarantees (position, progress, class of its
  errors); it is proved here for `readWith` over any switch that only moves forward (`Fwd`: the
  switches of every `ReadX`, hence `readInt32_fwd`, `readString_fwd`; also `readBytes`), and in
  `Proofs/TotalDec.lean` for `readScalar` and the generated decoders.  The parameters `A`, `B` of
  the error class are there for the latter; at the wire level both are `True`.
-/
namespace Tars
open Consts

/-! ### what a decoder guarantees -/

/-- the model's marker for a target value whose shape does not fit the schema type -/
def illTyped : Err := .panic "model: ill-typed target"

/-- the errors of a decoder: a plain Go error; the ill-typed marker, but only for a target that is
    not well-shaped (`B`); anything else (`.fuel`, an index panic) only when the run was not set up
    properly (`A`: enough fuel, array loop entered with `len ≤ n`) -/
def ErrClass (A B : Prop) (e : Err) : Prop :=
  e.isPlain = true ∨ (e = illTyped ∧ ¬ B) ∨ ¬ A

theorem ErrClass.mono {A A' B B' : Prop} {e : Err} (h : ErrClass A' B' e) (hA : A → A')
    (hB : B → B') : ErrClass A B e :=
  h.imp id (Or.imp (And.imp_right (mt hB)) (mt hA))

theorem ErrClass.plain_or_ill {B : Prop} {e : Err} (h : ErrClass True B e) :
    e.isPlain = true ∨ e = illTyped :=
  h.imp id (fun h => h.elim And.left (fun h => absurd trivial h))

theorem ErrClass.isPlain {B : Prop} {e : Err} (h : ErrClass True B e) (hB : B) : e.isPlain = true :=
  h.elim id (fun h => h.elim (fun h => absurd hB h.2) (absurd trivial))

/-- `DecOK True True` is what every `Reader.ReadX` satisfies: never backwards, progress on a
    required read, only plain errors -/
def DecOK {α : Type} (A B : Prop) (req : Bool) (r : Reader) (x : Res α) : Prop :=
  Sat x (fun _ r' => r.Le r' ∧ (req = true → r'.remaining + 1 ≤ r.remaining))
    (fun e r' => r.Le r' ∧ ErrClass A B e)

theorem DecOK.errClass {α : Type} {A B : Prop} {req : Bool} {r : Reader} {x : Res α}
    (h : DecOK A B req r x) {e : Err} (he : x.1 = .error e) : ErrClass A B e := by
  obtain ⟨_ | _, _⟩ := x
  · cases he; exact h.2
  · cases he

theorem DecOK.ne_fuel {α : Type} {B : Prop} {req : Bool} {r : Reader} {x : Res α}
    (h : DecOK True B req r x) : x.1 ≠ .error .fuel :=
  fun he => (h.errClass he).plain_or_ill.elim (by decide) (by decide)

theorem DecOK.panic_eq {α : Type} {B : Prop} {req : Bool} {r : Reader} {x : Res α}
    (h : DecOK True B req r x) {s : String} (he : x.1 = .error (.panic s)) : Err.panic s = illTyped :=
  (h.errClass he).plain_or_ill.elim (fun h => by cases h) id

theorem DecOK.plainRes {α : Type} {B : Prop} {req : Bool} {r : Reader} {x : Res α}
    (h : DecOK True B req r x) (hB : B) : PlainRes x.1 :=
  fun _ he => (h.errClass he).isPlain hB

theorem DecOK.fwd {α : Type} {req : Bool} {r : Reader} {x : Res α} (h : DecOK True True req r x) :
    Fwd r x :=
  h.mono (fun _ _ h => h.1) (fun _ _ h => ⟨h.1, h.2.isPlain trivial⟩)

/-! ### the scalar readers -/

theorem readWith_spec {α : Type} {A B : Prop} {old : α} {tag : Nat} {req : Bool} {body : Nat → RM α}
    {r : Reader} (hbody : ∀ ty r1, Fwd r1 (body ty r1)) :
    DecOK A B req r (readWith old tag req body r) := by
  unfold readWith
  refine (skipToNoCheck_sat tag req r).elim (fun _ _ h => ⟨h.1, .inl h.2⟩) (fun p r1 h => ?_)
  obtain ⟨hv, ty⟩ := p
  cases hv with
  | false => exact ⟨h.1, fun hr => by rw [h.miss] at hr; cases hr⟩
  | true =>
    have hlt := h.hit
    show DecOK A B req r (body ty r1)
    exact (hbody ty r1).elim (fun _ _ hb => ⟨hlt.le.trans hb.1, .inl hb.2⟩)
      (fun _ _ hb => ⟨hlt.le.trans hb, fun _ => by have := hlt.remaining; have := hb.remaining; omega⟩)

theorem nextExact_fwd (l : Nat) (r : Reader) : Fwd r (nextExact l r) := by
  rw [nextExact_eq]
  split
  · exact ⟨r.le_adv l, rfl⟩
  · exact r.le_adv l

section
variable {α : Type} {width : Nat → Option Nat} {zero : α} {conv : Nat → Nat → α} {ty : Nat}

theorem fixedBody_fwd (r1 : Reader) : Fwd r1 (fixedBody width zero conv ty r1) := by
  unfold fixedBody
  cases width ty with
  | none => exact ⟨.refl _, rfl⟩
  | some w =>
    exact .ite (fun _ => .refl _) (fun h => Sat.mapRes _ (bReadU_step (Nat.pos_of_ne_zero h) r1).fwd)

end

theorem intBody_fwd (maxw ty : Nat) (r1 : Reader) : Fwd r1 (intBody maxw ty r1) := by
  rw [intBody_eq]; exact fixedBody_fwd r1

theorem readInt32_fwd (old : Int) (tag : Nat) (req : Bool) (r : Reader) :
    Fwd r (readInt32 old tag req r) := by
  rw [readInt32_body]; exact (readWith_spec (intBody_fwd 4)).fwd

theorem strBody_fwd (ty : Nat) (r1 : Reader) : Fwd r1 (strBody ty r1) := by
  rw [strBody_eq]
  cases hw : strLenWidth ty with
  | none => exact ⟨.refl _, rfl⟩
  | some w =>
    dsimp only
    exact (bReadU_step (strLenWidth_pos hw) r1).fwd.elim (fun _ _ h => h) (fun l r2 h =>
      (nextExact_fwd l r2).mono (fun _ _ h' => h.trans h') (fun _ _ h' => ⟨h.trans h'.1, h'.2⟩))

theorem readString_fwd (old : Bytes) (tag : Nat) (req : Bool) (r : Reader) :
    Fwd r (readString old tag req r) := by
  rw [readString_body]; exact (readWith_spec strBody_fwd).fwd

/-! ### lengths and byte slices -/

theorem checkLength_sat (len : Int) (r : Reader) :
    Sat (checkLength len r) (fun _ r' => r' = r ∧ len.toNat ≤ r.remaining) (PlainAt r) := by
  unfold checkLength
  exact .ite (fun _ => ⟨.refl _, rfl⟩) (fun h => ⟨rfl, by omega⟩)

theorem readBytes_fwd (len : Int) (r : Reader) : Fwd r (readBytes len r) := by
  rw [readBytes_eq]; exact .ite (fun _ => ⟨.refl r, rfl⟩) fun _ => r.le_adv _

theorem readBytes_plain (len : Int) (r : Reader) : PlainRes (readBytes len r).1 :=
  (readBytes_fwd len r).plain

end Tars
