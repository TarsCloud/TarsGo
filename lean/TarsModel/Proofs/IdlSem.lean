/-
  Semantic analysis and the generator's acceptance conditions never hang, and they succeed on every
  syntax tree that satisfies the semantic side conditions of the language (`semOK`).  Both at once:
  each function is walked once, for an arbitrary `E` ("a diagnostic is allowed"), under the
  hypothesis `E ∨ side condition`; `E := True` is the first statement, `E := False` the second.
-/
import TarsModel.Proofs.IdlTotal

namespace Tars.Idl

variable {E : Prop}

theorem mapRes_post {α γ : Type} {f : α → Res α} (p : α → γ) (l : List α)
    (h : ∀ a ∈ l, (f a).Post E fun b => p b = p a) : (mapRes f l).Post E fun bs => bs.map p = l.map p := by
  induction l with
  | nil => exact .ok rfl
  | cons a as ih =>
    unfold mapRes
    refine (h a (List.mem_cons_self ..)).bind fun b hb => ?_
    refine (ih fun x hx => h x (List.mem_cons_of_mem _ hx)).bind fun bs hbs => .pure ?_
    rw [List.map_cons, List.map_cons, hb, hbs]

theorem mapRes_post_true {α : Type} {f : α → Res α} (l : List α) (h : ∀ a ∈ l, (f a).Post E fun _ => True) :
    (mapRes f l).Post E fun _ => True :=
  (mapRes_post (fun _ => ()) l fun a ha => (h a ha).mono fun _ _ => rfl).mono fun _ _ => trivial

theorem findTName_declared (m : Module) (n : Bytes) (h : nameDeclared m n = true) :
    findTName m (m.name ++ [58, 58] ++ n) ≠ .unresolved := by
  simp only [nameDeclared, Bool.and_eq_true, Bool.or_eq_true] at h
  simp only [findTName, List.append_cancel_left_eq]
  rcases h.2 with h2 | h2
  · rw [if_pos h2]; nofun
  · rw [if_pos h2]; split <;> nofun

theorem checkDepTName_post (v : Variant) (m : Module) (t : VarType)
    (h : E ∨ t.names.all (nameDeclared m) = true) : (checkDepTName v m t).Post E fun _ => True := by
  induction t with
  | prim p u => unfold checkDepTName; exact .ok trivial
  | named n c =>
    unfold checkDepTName
    simp only
    split
    · rename_i hq
      refine .diag (h.resolve_right fun hn => ?_)
      simp only [VarType.names, List.all_cons, List.all_nil, Bool.and_true] at hn
      have hc : countColon2 n = 0 := by
        simp only [nameDeclared, Bool.and_eq_true, decide_eq_true_eq] at hn; exact hn.1
      rw [if_pos hc] at hq
      exact findTName_declared m n hn hq
    · exact .ok trivial
  | vector k ih =>
    unfold checkDepTName
    exact (ih h).bind fun _ _ => .pure trivial
  | map k x ihk ihx =>
    have h2 : E ∨ (k.names.all (nameDeclared m) = true ∧ x.names.all (nameDeclared m) = true) :=
      h.imp_right fun h => by simpa only [VarType.names, List.all_append, Bool.and_eq_true] using h
    unfold checkDepTName
    exact (ihk (h2.imp_right (·.1))).bind fun _ _ => (ihx (h2.imp_right (·.2))).bind fun _ _ => .pure trivial
  | array k l ih =>
    unfold checkDepTName
    split
    · exact (ih h).bind fun _ _ => .pure trivial
    · exact .ok trivial

theorem resolveEnumDefault_post (v : Variant) (m : Module) (d : Bytes) (h : E ∨ defaultResolvable m d = true) :
    (resolveEnumDefault v m d).Post E fun _ => True := by
  have h1 : E ∨ ∃ x, enumHits (if hasColon2 d then splitSecond d else d) m.enums = [x] :=
    h.imp_right fun h => List.length_eq_one_iff.1 (by simpa only [defaultResolvable, decide_eq_true_eq] using h)
  unfold resolveEnumDefault
  simp only
  split
  · rename_i hq
    exact .diag (h1.resolve_right fun ⟨x, hx⟩ => by rw [hq] at hx; cases hx)
  · exact .ok trivial
  · rename_i hq
    exact .diag (h1.resolve_right fun ⟨x, hx⟩ => hq x.1 x.2 hx)

theorem nameDeclared_congr (m m' : Module) (hs : m'.structs.map (·.name) = m.structs.map (·.name))
    (he : m'.enums = m.enums) : nameDeclared m' = nameDeclared m := by
  funext n
  have hany : m'.structs.any (fun st => st.name = n) = m.structs.any (fun st => st.name = n) := by
    have := congrArg (List.any · (· = n)) hs
    rwa [List.any_map, List.any_map] at this
  unfold nameDeclared
  rw [hany, he]

theorem analyzeDefaultMember_post (v : Variant) (m : Module) (x : StructMember)
    (h : E ∨ (!(x.dflt ≠ [] && x.defType = .name) || defaultResolvable m x.dflt) = true) :
    (analyzeDefaultMember v m x).Post E fun x' => x'.type = x.type := by
  unfold analyzeDefaultMember
  split
  · rename_i hc
    exact (resolveEnumDefault_post v m x.dflt (h.imp_right fun h => by
      simpa only [hc, Bool.not_true, Bool.false_or] using h)).bind fun _ _ => .pure rfl
  · exact .pure rfl

/-- name and member types of a struct: what the first stage of the analysis keeps.  The types are in
it because the second stage resolves the type names of the first stage's output, while `semOK`
speaks of the types of the parsed tree. -/
def Struct.sig (st : Struct) : Bytes × List VarType := (st.name, st.mb.map fun x => x.type)

theorem defaultsOf_post (v : Variant) (m : Module) (st : Struct)
    (h : E ∨ ∀ x ∈ st.mb, (!(x.dflt ≠ [] && x.defType = .name) || defaultResolvable m x.dflt) = true) :
    (defaultsOf v m st).Post E fun st' => st'.sig = st.sig :=
  (mapRes_post (fun x => x.type) st.mb fun x hx =>
    analyzeDefaultMember_post v m x (h.imp_right (· x hx))).bind
    fun _ hmb => .pure (congrArg (Prod.mk st.name) hmb)

theorem typesOf_post (v : Variant) (m1 : Module) (st : Struct)
    (h : E ∨ ∀ t ∈ st.sig.2, t.names.all (nameDeclared m1) = true) :
    (typesOf v m1 st).Post E fun st' => st'.name = st.name :=
  (mapRes_post_true st.mb fun x hx => (checkDepTName_post v m1 x.type
    (h.imp_right (· _ (List.mem_map_of_mem hx)))).bind fun _ _ => .pure trivial).bind fun _ _ => .pure rfl

theorem funcTypes_post (v : Variant) (m1 : Module) (fn : Func)
    (h : E ∨ ((∀ a ∈ fn.args, a.type.names.all (nameDeclared m1) = true) ∧
      ∀ t, fn.retType = some t → t.names.all (nameDeclared m1) = true)) :
    (funcTypes v m1 fn).Post E fun _ => True := by
  unfold funcTypes
  refine (mapRes_post_true fn.args fun a ha => (checkDepTName_post v m1 a.type (h.imp_right (·.1 a ha))).bind
    fun _ _ => .pure trivial).bind fun args _ => ?_
  refine Res.Post.bind (P := fun _ => True) ?_ fun _ _ => .pure trivial
  cases hrt : fn.retType with
  | none => exact .ok trivial
  | some t => exact (checkDepTName_post v m1 t (h.imp_right (·.2 t hrt))).bind fun _ _ => .ok trivial

theorem ifaceTypes_post (v : Variant) (m1 : Module) (i : Interface)
    (h : E ∨ ∀ fn ∈ i.funcs, (∀ a ∈ fn.args, a.type.names.all (nameDeclared m1) = true) ∧
      (∀ t, fn.retType = some t → t.names.all (nameDeclared m1) = true)) :
    (ifaceTypes v m1 i).Post E fun _ => True :=
  (mapRes_post_true i.funcs fun fn hfn => funcTypes_post v m1 fn (h.imp_right (· fn hfn))).bind
    fun _ _ => .pure trivial

/-- `semOK` clause by clause: no include; member types declared and defaults by name resolvable; argument
and return types declared; enumerator references found. -/
theorem semOK_clauses {v : Variant} {f : TarsFile} (h : semOK v f = true) :
    f.includes = [] ∧
    (∀ st ∈ f.module.structs, ∀ x ∈ st.mb, x.type.names.all (nameDeclared f.module) = true ∧
      (!(x.dflt ≠ [] && x.defType = .name) || defaultResolvable f.module x.dflt) = true) ∧
    (∀ i ∈ f.module.interfaces, ∀ fn ∈ i.funcs,
      (∀ a ∈ fn.args, a.type.names.all (nameDeclared f.module) = true) ∧
      ∀ t, fn.retType = some t → t.names.all (nameDeclared f.module) = true) ∧
    ∀ e ∈ f.module.enums, enumRefsOk v e.mb = true := by
  simp only [semOK, Bool.and_eq_true, List.isEmpty_iff] at h
  obtain ⟨⟨⟨hinc, hst⟩, hif⟩, hen⟩ := h
  refine ⟨hinc, fun st hs x hx => ?_, fun i hi fn hfn => ?_, List.all_eq_true.1 hen⟩
  · exact Bool.and_eq_true_iff.1 (List.all_eq_true.1 (List.all_eq_true.1 hst st hs) x hx)
  · obtain ⟨ha, hr⟩ := Bool.and_eq_true_iff.1 (List.all_eq_true.1 (List.all_eq_true.1 hif i hi) fn hfn)
    refine ⟨List.all_eq_true.1 ha, fun t ht => ?_⟩
    rwa [ht] at hr

theorem analyze_post (v : Variant) (f : TarsFile) (h : E ∨ semOK v f = true) :
    (analyze v f).Post E fun f' => f'.module.enums = f.module.enums ∧
      f'.module.structs.map (·.name) = f.module.structs.map (·.name) := by
  replace h := h.imp_right semOK_clauses
  unfold analyze
  split
  · rename_i hne
    exact .unsupported (h.resolve_right fun ⟨hinc, _⟩ => hne hinc)
  refine (mapRes_post Struct.sig f.module.structs fun st hstm =>
    defaultsOf_post v f.module st (h.imp_right fun ⟨_, hst, _⟩ x hx => (hst st hstm x hx).2)).bind fun s1 hs1 => ?_
  have hn1 : s1.map (·.name) = f.module.structs.map (·.name) := by
    simpa [List.map_map, Function.comp_def, Struct.sig] using congrArg (List.map Prod.fst) hs1
  have hdecl : nameDeclared { f.module with structs := s1 } = nameDeclared f.module :=
    nameDeclared_congr f.module { f.module with structs := s1 } hn1 rfl
  refine (mapRes_post (fun st => st.name) s1 fun st1 hst1 =>
    typesOf_post v _ st1 (h.imp_right fun hc => ?_)).bind fun s2 hs2 => ?_
  · obtain ⟨_, hst, _⟩ := hc
    obtain ⟨st, hstm, hsig⟩ := List.mem_map.1 (hs1 ▸ List.mem_map_of_mem (f := Struct.sig) hst1)
    rw [← hsig]
    intro t ht
    obtain ⟨x, hx, rfl⟩ := List.mem_map.1 ht
    rw [hdecl]
    exact (hst st hstm x hx).1
  refine (mapRes_post_true f.module.interfaces fun i hi => ifaceTypes_post v _ i
    (h.imp_right fun hc fn hfn => ?_)).bind fun ifs _ => .pure ⟨rfl, hs2.trans hn1⟩
  obtain ⟨_, _, hif, _⟩ := hc
  rw [hdecl]
  exact hif i hi fn hfn

theorem typeDefFails_repaired (v : Variant) (hv : v.typeDefByte = true) (mb : StructMember) :
    typeDefFails v mb = false := by
  unfold typeDefFails
  split
  · rfl
  · split <;> simp [hv]

theorem genCheck_post (v : Variant) (f f' : TarsFile)
    (h : E ∨ (v.typeDefByte = true ∧ semOK v f = true ∧ f'.module.enums = f.module.enums)) :
    (genCheck v f').Post E fun _ => True := by
  unfold genCheck
  split
  · rename_i h1
    refine .diag (h.resolve_right fun ⟨_, hs, he⟩ => ?_)
    obtain ⟨_, _, _, hen⟩ := semOK_clauses hs
    obtain ⟨e, hem, hne⟩ := List.any_eq_true.1 h1
    rw [he] at hem
    simp [hen e hem] at hne
  · split
    · rename_i h2
      refine .diag (h.resolve_right fun ⟨hv, _, _⟩ => ?_)
      obtain ⟨st, _, hst⟩ := List.any_eq_true.1 h2
      obtain ⟨x, _, hx⟩ := List.any_eq_true.1 hst
      simp [typeDefFails_repaired v hv x] at hx
    · exact .ok trivial

theorem parseFile_sat (v : Variant) (hv : v.enumEof = true) (input : Bytes) :
    (parseFile v input).Sat (fun _ => True) :=
  (fileLoop_sat v hv _ _).bind fun f _ => (analyze_post v f (.inl trivial)).mono fun _ _ => trivial

theorem tool_sat (v : Variant) (hv : v.enumEof = true) (input : Bytes) :
    (tool v input).Sat (fun _ => True) :=
  (parseFile_sat v hv input).bind fun f _ =>
    (genCheck_post v f f (.inl trivial)).bind fun _ _ => .pure trivial

end Tars.Idl
