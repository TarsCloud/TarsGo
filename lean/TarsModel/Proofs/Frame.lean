/-
  Lemmas about the framing model (C07): `tarsRequest` is decided by the first four bytes and, for
  a complete packet, by whether its bytes are present; the two receive loops are one function
  (`drainStep`, `drainClient_eq`), and what one round of it does in each of the three cases.
-/
import TarsModel.Model.Frame

namespace Tars.Frame
open Tars

theorem tarsRequest_short (m : Int) (b : Bytes) (h : b.length < 4) :
    tarsRequest m b = .ret 0 Consts.protoPackageLess := by
  unfold tarsRequest
  simp only [Consts.headerBytes]
  rw [if_pos h]

def hdrVal (b : Bytes) : Nat := beVal (b.take 4)

theorem tarsRequest_long (m : Int) (b : Bytes) (h : 4 ≤ b.length) :
    tarsRequest m b =
      if hdrVal b < 4 ∨ (hdrVal b : Int) > m then .ret 0 Consts.protoPackageError
      else if b.length < hdrVal b then .ret 0 Consts.protoPackageLess
      else .ret (hdrVal b) Consts.protoPackageFull := by
  match b, h with
  | b0 :: b1 :: b2 :: b3 :: t, h =>
    unfold tarsRequest
    rw [if_neg (by simp only [Consts.headerBytes]; omega)]
    rfl

theorem hdrVal_append (b c : Bytes) (h : 4 ≤ b.length) : hdrVal (b ++ c) = hdrVal b := by
  unfold hdrVal
  rw [List.take_append_of_le_length h]

inductive Verdict (m : Int) (b : Bytes) : Prop where
  | less (h : tarsRequest m b = .ret 0 Consts.protoPackageLess)
      (hl : b.length < 4 ∨ (4 ≤ hdrVal b ∧ (hdrVal b : Int) ≤ m ∧ b.length < hdrVal b))
  | full (n : Nat) (h : tarsRequest m b = .ret n Consts.protoPackageFull)
      (hn : n = hdrVal b) (h4 : 4 ≤ n) (hm : (n : Int) ≤ m) (hl : n ≤ b.length)
  | error (h : tarsRequest m b = .ret 0 Consts.protoPackageError) (h4 : 4 ≤ b.length)
      (hb : hdrVal b < 4 ∨ (hdrVal b : Int) > m)

theorem verdict (m : Int) (b : Bytes) : Verdict m b := by
  by_cases h : b.length < 4
  · exact .less (tarsRequest_short m b h) (Or.inl h)
  · have h4 : 4 ≤ b.length := by omega
    have e := tarsRequest_long m b h4
    by_cases hb : hdrVal b < 4 ∨ (hdrVal b : Int) > m
    · rw [if_pos hb] at e
      exact .error e h4 hb
    · rw [if_neg hb] at e
      by_cases hl : b.length < hdrVal b
      · rw [if_pos hl] at e
        exact .less e (Or.inr ⟨by omega, by omega, hl⟩)
      · rw [if_neg hl] at e
        exact .full (hdrVal b) e rfl (by omega) (by omega) (by omega)

theorem tarsRequest_ne_panic (m : Int) (b : Bytes) : tarsRequest m b ≠ .panic := by
  cases verdict m b with
  | less h _ => rw [h]; simp
  | full n h _ _ _ _ => rw [h]; simp
  | error h _ _ => rw [h]; simp

theorem tarsRequest_illegal {m : Int} {b : Bytes} (h4 : 4 ≤ b.length)
    (hb : hdrVal b < 4 ∨ (hdrVal b : Int) > m) (c : Bytes) :
    tarsRequest m (b ++ c) = .ret 0 Consts.protoPackageError := by
  rw [tarsRequest_long m _ (by simp only [List.length_append]; omega), hdrVal_append b c h4,
    if_pos hb]

theorem tarsRequest_error_append {m : Int} {b : Bytes} {n : Nat}
    (h : tarsRequest m b = .ret n Consts.protoPackageError) (c : Bytes) :
    tarsRequest m (b ++ c) = .ret 0 Consts.protoPackageError := by
  cases verdict m b with
  | less h' _ => rw [h'] at h; simp [Consts.protoPackageLess, Consts.protoPackageError] at h
  | full n' h' _ _ _ _ => rw [h'] at h; simp [Consts.protoPackageError, Consts.protoPackageFull] at h
  | error _ h4 hb => exact tarsRequest_illegal h4 hb c

/-- the body of `drainServer` and of `drainClient`, with the loop itself as a parameter -/
def drainStep (loop : Bytes → Bytes × List Bytes × Status) (m : Int) (b : Bytes) :
    Bytes × List Bytes × Status :=
  match tarsRequest m b with
  | .panic => (b, [], .panicked)
  | .ret n s =>
    if s = Consts.transportPackageLess then (b, [], .open)
    else if s = Consts.transportPackageFull then
      if n ≤ b.length then
        if 0 < (b.drop n).length then
          ((loop (b.drop n)).1, b.take n :: (loop (b.drop n)).2.1, (loop (b.drop n)).2.2)
        else ([], [b.take n], .open)
      else (b, [], .panicked)
    else (b, [], .closed)

theorem drainServer_step (m : Int) (b : Bytes) : drainServer m b = drainStep (drainServer m) m b := by
  rw [drainServer, drainStep]
  split <;> rename_i h <;> simp only [h, dite_eq_ite]

theorem drainClient_step (m : Int) (b : Bytes) : drainClient m b = drainStep (drainClient m) m b := by
  rw [drainClient, drainStep]
  split <;> rename_i h <;> simp only [h, dite_eq_ite]

theorem drainClient_eq (m : Int) (b : Bytes) : drainClient m b = drainServer m b := by
  induction hk : b.length using Nat.strongRecOn generalizing b with
  | _ k ih =>
    rw [drainClient_step, drainServer_step]
    unfold drainStep
    cases h : tarsRequest m b with
    | panic => rfl
    | ret n s =>
      dsimp only
      by_cases hs : s = Consts.transportPackageFull
      · have := tarsRequest_full_pos h hs
        rw [ih (b.drop n).length (by simp only [List.length_drop]; omega) _ rfl]
      · simp only [if_neg hs]

theorem drain_eq (side : Side) (m : Int) (b : Bytes) : drain side m b = drainServer m b := by
  cases side with
  | server => rfl
  | client => exact drainClient_eq m b

theorem drainServer_less {m : Int} {b : Bytes} {n : Nat}
    (h : tarsRequest m b = .ret n Consts.protoPackageLess) :
    drainServer m b = (b, [], .open) := by
  rw [drainServer_step, drainStep, h]; rfl

theorem drainServer_error {m : Int} {b : Bytes} {n : Nat}
    (h : tarsRequest m b = .ret n Consts.protoPackageError) :
    drainServer m b = (b, [], .closed) := by
  rw [drainServer_step, drainStep, h]; rfl

theorem drainServer_full {m : Int} {b : Bytes} {n : Nat}
    (h : tarsRequest m b = .ret n Consts.protoPackageFull) (hl : n ≤ b.length) :
    drainServer m b =
      if 0 < (b.drop n).length then
        ((drainServer m (b.drop n)).1, b.take n :: (drainServer m (b.drop n)).2.1,
          (drainServer m (b.drop n)).2.2)
      else ([], [b.take n], .open) := by
  rw [drainServer_step, drainStep, h]
  simp only [if_pos hl]; rfl

end Tars.Frame
