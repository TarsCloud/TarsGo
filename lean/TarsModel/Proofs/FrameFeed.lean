/-
  The outer receive loop (`feed`, `feedAll`) over arbitrary chunk sequences.  Between two reads the
  buffer is a rest on which the parse loop delivers nothing (`Settled`, kept by `feed`); with
  `drainServer_append` this makes feeding chunk by chunk the same as feeding the concatenation
  (`feedAll_flatten`, the statement of `C07_chunking`).  Then: the bytes are conserved, the trace the
  driver prints is that of `feedAll`, every connection of a session starts from the empty buffer.
-/
import TarsModel.Proofs.FrameLoop

namespace Tars.Frame
open Tars

theorem feed_open (side : Side) (m : Int) (st : Conn) (c : Bytes) (h : st.status = .open) :
    feed side m st c =
      (⟨(drainServer m (st.buf ++ c)).1, (drainServer m (st.buf ++ c)).2.2⟩,
        (drainServer m (st.buf ++ c)).2.1) := by
  unfold feed
  rw [h, drain_eq]

theorem feed_init (side : Side) (m : Int) (b : Bytes) :
    feed side m Conn.init b =
      (⟨(drainServer m b).1, (drainServer m b).2.2⟩, (drainServer m b).2.1) :=
  feed_open side m Conn.init b rfl

theorem feed_not_open (side : Side) (m : Int) (st : Conn) (c : Bytes) (h : st.status ≠ .open) :
    feed side m st c = (st, []) := by
  unfold feed
  cases hs : st.status with
  | «open» => exact absurd hs h
  | closed => rfl
  | panicked => rfl

theorem feedAll_not_open (side : Side) (m : Int) (st : Conn) (h : st.status ≠ .open) :
    ∀ cs : List Bytes, feedAll side m st cs = (st, []) := by
  intro cs
  induction cs with
  | nil => rfl
  | cons c cs ih => simp only [feedAll, feed_not_open side m st c h, ih, List.append_nil]

/-- a state of the receive loop at `conn.Read`: what is buffered is an incomplete packet -/
def Settled (m : Int) (st : Conn) : Prop :=
  st.status = .open → drainServer m st.buf = (st.buf, [], .open)

theorem settled_init (m : Int) : Settled m Conn.init := fun _ => drainServer_nil m

theorem settled_feed (side : Side) (m : Int) (st : Conn) (c : Bytes) (hs : Settled m st) :
    Settled m (feed side m st c).1 := by
  by_cases ho : st.status = .open
  · rw [feed_open side m st c ho]
    exact drainServer_rest_less m _
  · rw [feed_not_open side m st c ho]; exact hs

theorem settled_feedAll (side : Side) (m : Int) :
    ∀ (cs : List Bytes) (st : Conn), Settled m st → Settled m (feedAll side m st cs).1
  | [], _, h => h
  | c :: cs, st, h => settled_feedAll side m cs _ (settled_feed side m st c h)

theorem feedAll_flatten (side : Side) (m : Int) :
    ∀ (cs : List Bytes) (st : Conn), Settled m st →
      (feedAll side m st cs).2 = (feed side m st cs.flatten).2 ∧
      (feedAll side m st cs).1.status = (feed side m st cs.flatten).1.status ∧
      ((feedAll side m st cs).1.status = .open →
        (feedAll side m st cs).1 = (feed side m st cs.flatten).1) ∧
      (feedAll side m st cs).1.buf <+: (feed side m st cs.flatten).1.buf := by
  intro cs
  induction cs with
  | nil =>
    rintro ⟨buf, status⟩ hs
    by_cases ho : status = .open
    · subst ho
      rw [feed_open side m _ _ rfl, List.flatten_nil, List.append_nil, hs rfl]
      simp [feedAll]
    · rw [feed_not_open side m _ _ ho]
      simp [feedAll]
  | cons c cs ih =>
    intro st hs
    by_cases ho : st.status = .open
    · simp only [feedAll, List.flatten_cons]
      have hst := settled_feed side m st c hs
      rw [feed_open side m st (c ++ cs.flatten) ho, ← List.append_assoc]
      rw [feed_open side m st c ho] at hst ⊢
      -- the run on `st.buf ++ c ++ cs.flatten` is the run on `st.buf ++ c` followed by the run on its rest
      -- and `cs.flatten`: if the first leaves the connection open this is the induction hypothesis at the
      -- state after `c`; if it closes it, neither side reads any further
      rw [drainServer_append m (st.buf ++ c)]
      cases hS : (drainServer m (st.buf ++ c)).2.2 with
      | «open» =>
        obtain ⟨h1, h2, h3, h4⟩ := ih ⟨_, .open⟩ (hS ▸ hst)
        rw [feed_open side m _ _ rfl] at h1 h2 h3 h4
        exact ⟨by rw [h1], h2, h3, h4⟩
      | closed =>
        rw [feedAll_not_open side m _ (by simp), drainServer_closed_append m _ hS]
        simp
      | panicked => exact absurd hS (drainServer_ne_panicked m _)
    · rw [feedAll_not_open side m st ho, feed_not_open side m st _ ho]
      simp

theorem feedAll_init_open {side : Side} {m : Int} {cs : List Bytes} {r : Bytes} {ps : List Bytes}
    (h : drainServer m cs.flatten = (r, ps, .open)) :
    feedAll side m Conn.init cs = (⟨r, .open⟩, ps) := by
  obtain ⟨h1, h2, h3, _⟩ := feedAll_flatten side m cs Conn.init (settled_init m)
  rw [feed_init, h] at h1 h2 h3
  exact Prod.ext (h3 h2) h1

theorem feed_conserve (side : Side) (m : Int) (st : Conn) (c : Bytes) (h : st.status = .open) :
    (feed side m st c).2.flatten ++ (feed side m st c).1.buf = st.buf ++ c := by
  rw [feed_open side m st c h]
  exact drainServer_conserve m _

theorem feedAll_conserve (side : Side) (m : Int) :
    ∀ (cs : List Bytes) (st : Conn), st.status = .open →
      ∃ k, k ≤ cs.length ∧
        (feedAll side m st cs).2.flatten ++ (feedAll side m st cs).1.buf
          = st.buf ++ (cs.take k).flatten ∧
        ((feedAll side m st cs).1.status = .open → k = cs.length) := by
  intro cs
  induction cs with
  | nil => intro st _; exact ⟨0, Nat.le_refl _, by simp [feedAll], fun _ => rfl⟩
  | cons c cs ih =>
    intro st ho
    have hc := feed_conserve side m st c ho
    simp only [feedAll]
    by_cases ho' : (feed side m st c).1.status = .open
    · obtain ⟨k, hk, he, hf⟩ := ih _ ho'
      refine ⟨k + 1, by simp only [List.length_cons]; omega, ?_, ?_⟩
      · simp only [List.flatten_append, List.append_assoc, List.take_succ_cons, List.flatten_cons]
        rw [he, ← List.append_assoc, hc, List.append_assoc]
      · intro h; simp only [List.length_cons]; rw [hf h]
    · rw [feedAll_not_open side m _ ho']
      refine ⟨1, by simp only [List.length_cons]; omega, ?_, ?_⟩
      · simp only [List.append_nil, List.take_succ_cons, List.take_zero, List.flatten_cons,
          List.flatten_nil]
        exact hc
      · intro h; exact absurd h ho'

theorem feedTrace_eq (side : Side) (m : Int) :
    ∀ (cs : List Bytes) (st : Conn) (n : Nat),
      ((feedTrace side m st n cs).1, (feedTrace side m st n cs).2.1) = feedAll side m st cs := by
  intro cs
  induction cs with
  | nil => intro st n; rfl
  | cons c cs ih =>
    intro st n
    simp only [feedTrace, feedAll]
    have := ih (feed side m st c).1 (n + (feed side m st c).2.length)
    rw [← this]

theorem session_eq_map (side : Side) (m : Int) :
    ∀ (conns : List (List Bytes)) (prev : Conn),
      session side m prev conns = conns.map (feedAll side m Conn.init) := by
  intro conns
  induction conns with
  | nil => intro _; rfl
  | cons cs rest ih =>
    intro prev
    simp only [session, reconnect, List.map_cons]
    rw [ih]

end Tars.Frame
