import TarsModel.Proofs.SchemaVal

/-!
# A checker for `EnvWF`

Well-formedness of a concrete schema is a finite fact: `envWFb` evaluates it entry by entry, and
`EnvWF.of_check` turns the verdict into the proposition (every answer of `Env.find` is an entry).
-/
namespace Tars

instance (ty : Ty) (v : Val) : Decidable (ScalarOK ty v) := by
  unfold ScalarOK; split <;> infer_instance

instance (fs : List Field) : Decidable (TagsAsc fs) := by
  unfold TagsAsc; infer_instance

instance (ty : Ty) (dflt : Option Val) : Decidable (DfltOK ty dflt) :=
  match dflt with
  | none => isTrue trivial
  | some d => inferInstanceAs (Decidable (ty.isAtom = true ∧ ScalarOK ty d))

def tyOKb (env : Env) (rk : String → Nat) : Nat → Ty → Bool
  | _, .vec e => tyOKb env rk (env.length + 1) e
  | bound, .arr _ e => e != .i8 && e != .u8 && tyOKb env rk bound e
  | _, .map k v => tyOKb env rk (env.length + 1) k && tyOKb env rk (env.length + 1) v
  | bound, .struct name => (env.find name).isSome && decide (rk name < bound)
  | _, _ => true

theorem tyOKb_sound (env : Env) (rk : String → Nat) :
    ∀ (ty : Ty) (bound : Nat), tyOKb env rk bound ty = true → TyOK env rk bound ty := by
  intro ty
  induction ty with
  | vec e ih => intro b h; simp only [tyOKb] at h; simp only [TyOK]; exact ih _ h
  | arr n e ih =>
    intro b h
    simp only [tyOKb, Bool.and_eq_true, bne_iff_ne, ne_eq] at h
    simp only [TyOK]; exact ⟨h.1.1, h.1.2, ih _ h.2⟩
  | map k v ihk ihv =>
    intro b h
    simp only [tyOKb, Bool.and_eq_true] at h
    simp only [TyOK]; exact ⟨ihk _ h.1, ihv _ h.2⟩
  | struct name =>
    intro b h
    simp only [tyOKb, Bool.and_eq_true, decide_eq_true_eq, Option.isSome_iff_exists] at h
    simp only [TyOK]; exact h
  | _ => intro _ _; simp [TyOK]

def fieldOKb (env : Env) (rk : String → Nat) (bound : Nat) (f : Field) : Bool :=
  decide (f.tag ≤ 255) && tyOKb env rk bound f.ty && decide (DfltOK f.ty f.dflt)

def envWFb (env : Env) (rk : String → Nat) : Bool :=
  env.all fun p => decide (rk p.1 ≤ env.length) && decide (TagsAsc p.2) &&
    p.2.all (fieldOKb env rk (rk p.1))

theorem EnvWF.of_check {env : Env} {rk : String → Nat} (h : envWFb env rk = true) : EnvWF env rk := by
  intro name fs hfs
  have := List.all_eq_true.mp h (name, fs) (Env.find_mem hfs)
  simp only [Bool.and_eq_true, decide_eq_true_eq, List.all_eq_true] at this
  refine ⟨this.1.1, this.1.2, fun f hf => ?_⟩
  have hf := this.2 f hf
  simp only [fieldOKb, Bool.and_eq_true, decide_eq_true_eq] at hf
  exact ⟨hf.1.1, tyOKb_sound env rk _ _ hf.1.2, hf.2⟩

end Tars
