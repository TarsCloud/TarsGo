/-
  What both rings of C14 share: Go-map laws, sorting, binary search, clockwise successors, what
  `FindInt32` computes on sorted keys, and the lookup theory of a ring that tracks a holder relation
  (`Tracks`).  Core Lean only.
-/
import TarsModel.Model.ConHashSpec

namespace Tars.ConHash

variable {H : Type}

/-! ## Go-map laws -/

theorem mget_mset {α : Type} (m : List (Nat × α)) (k : Nat) (v : α) (k' : Nat) :
    mget (mset m k v) k' = if k = k' then some v else mget m k' := by
  fun_induction mset m k v <;> grind [mget]

theorem mget_mdel {α : Type} (m : List (Nat × α)) (k k' : Nat) :
    mget (mdel m k) k' = if k = k' then none else mget m k' := by
  fun_induction mdel m k <;> grind [mget]

theorem mem_mkeys {α : Type} (m : List (Nat × α)) (k : Nat) :
    k ∈ mkeys m ↔ (mget m k).isSome = true := by
  induction m with
  | nil => exact ⟨nofun, nofun⟩
  | cons kv m ih =>
    show k ∈ kv.1 :: mkeys m ↔ (if kv.1 = k then some kv.2 else mget m k).isSome = true
    rw [List.mem_cons, ih]
    split
    · next h => exact ⟨fun _ => rfl, fun _ => Or.inl h.symm⟩
    · next h => exact ⟨fun h' => h'.resolve_left (Ne.symm h), Or.inr⟩

/-- `u` has to be idempotent because `ps` may hold a key more than once -/
theorem get_foldl {S α : Type} (get : S → Nat → Option α) (f : S → Nat → S) (u : Option α → Option α)
    (hu : ∀ x, u (u x) = u x) (hf : ∀ s p q, get (f s p) q = if p = q then u (get s p) else get s q)
    (ps : List Nat) (s : S) (q : Nat) :
    get (ps.foldl f s) q = if q ∈ ps then u (get s q) else get s q := by
  induction ps generalizing s with
  | nil => rfl
  | cons p ps ih =>
    rw [List.foldl_cons, ih, hf]
    by_cases hpq : p = q
    · subst hpq; simp [hu]
    · simp [hpq, Ne.symm hpq]

theorem mget_foldl_mset {α : Type} (ps : List Nat) (m : List (Nat × α)) (e : α) (k : Nat) :
    mget (ps.foldl (fun m p => mset m p e) m) k = if k ∈ ps then some e else mget m k :=
  get_foldl mget _ (fun _ => some e) (fun _ => rfl) (fun m p q => mget_mset m p e q) ps m k

theorem mget_foldl_mdel {α : Type} (ps : List Nat) (m : List (Nat × α)) (k : Nat) :
    mget (ps.foldl mdel m) k = if k ∈ ps then none else mget m k :=
  get_foldl mget _ (fun _ => none) (fun _ => rfl) mget_mdel ps m k

/-! ## Sorting -/

def SortedArr (a : Array Nat) : Prop :=
  ∀ x y (hx : x < a.size) (hy : y < a.size), x ≤ y → a[x] ≤ a[y]

theorem mem_sortKeys (a : Array Nat) (p : Nat) : p ∈ sortKeys a ↔ p ∈ a := by
  simp [sortKeys, List.mem_mergeSort]

theorem sortedArr_sortKeys (a : Array Nat) : SortedArr (sortKeys a) := by
  have hp := List.pairwise_mergeSort (le := fun x y : Nat => decide (x ≤ y))
    (fun a b c h1 h2 => decide_eq_true (Nat.le_trans (of_decide_eq_true h1) (of_decide_eq_true h2)))
    (fun a b => by rw [Bool.or_eq_true, decide_eq_true_eq, decide_eq_true_eq]; exact Nat.le_total a b) a.toList
  intro x y hx hy hxy
  rcases Nat.lt_or_eq_of_le hxy with hlt | rfl
  · exact of_decide_eq_true (List.pairwise_iff_getElem.1 hp x y hx hy hlt)
  · exact Nat.le_refl _

/-! ## Binary search -/

theorem search_spec (a : Array Nat) (key : Nat) (hs : SortedArr a) (i j : Nat) (hj : j ≤ a.size) :
    (∀ x (hx : x < a.size), i ≤ x → x < search a key i j hj → a[x] < key) ∧
    (∀ x (hx : x < a.size), search a key i j hj ≤ x → x < j → key ≤ a[x]) := by
  fun_induction search a key i j hj with
  | case1 i j hj h m hm hc ih =>
    refine ⟨ih.1, fun x hx hsx hxj => ?_⟩
    by_cases hxm : x < m
    · exact ih.2 x hx hsx hxm
    · exact Nat.le_trans hc (hs m x hm hx (Nat.le_of_not_lt hxm))
  | case2 i j hj h m hm hc ih =>
    refine ⟨fun x hx hix hxs => ?_, ih.2⟩
    by_cases hxm : x ≤ m
    · exact Nat.lt_of_le_of_lt (hs x m hx hm hxm) (Nat.lt_of_not_le hc)
    · exact ih.1 x hx (Nat.lt_of_not_le hxm) hxs
  | case3 i j hj h =>
    exact ⟨fun x _ h1 h2 => absurd (Nat.lt_of_le_of_lt h1 h2) (Nat.lt_irrefl _),
      fun x _ h1 h2 => absurd (Nat.lt_of_le_of_lt h1 h2) h⟩

/-! ## Successor -/

theorem IsSucc.le {P : Nat → Prop} {k p p' : Nat} (h : IsSucc P k p) (h' : IsSucc P k p') : p ≤ p' := by
  obtain ⟨hp, h⟩ := h
  obtain ⟨hp', h'⟩ := h'
  rcases h with ⟨h1, h2⟩ | ⟨_, h2⟩
  · rcases h' with ⟨h1', _⟩ | ⟨h1', _⟩
    · exact h2 p' hp' h1'
    · exact absurd (h1' p hp) (Nat.not_lt_of_le h1)
  · exact h2 p' hp'

theorem IsSucc.unique {P : Nat → Prop} {k p p' : Nat} (h : IsSucc P k p) (h' : IsSucc P k p') : p = p' :=
  Nat.le_antisymm (h.le h') (h'.le h)

theorem IsSucc.mono {P Q : Nat → Prop} (hQP : ∀ q, Q q → P q) {k p : Nat} (h : IsSucc P k p) (hq : Q p) : IsSucc Q k p := by
  obtain ⟨_, h⟩ := h
  refine ⟨hq, ?_⟩
  rcases h with ⟨h1, h2⟩ | ⟨h1, h2⟩
  · exact Or.inl ⟨h1, fun q hq => h2 q (hQP q hq)⟩
  · exact Or.inr ⟨fun q hq => h1 q (hQP q hq), fun q hq => h2 q (hQP q hq)⟩

theorem IsSucc.congr {P Q : Nat → Prop} (hPQ : ∀ q, P q ↔ Q q) {k p : Nat} (h : IsSucc P k p) : IsSucc Q k p :=
  h.mono (fun q => (hPQ q).2) ((hPQ p).1 h.1)

/-! ## Lookup in a sorted ring -/

theorem findInt32_empty (r : Ring H) (k : Nat) (h : r.sortedKeys.size = 0) : findInt32 r k = .notFound := by
  unfold findInt32; simp [h]

theorem findInt32_spec (r : Ring H) (hs : SortedArr r.sortedKeys) (k : Nat) :
    (r.sortedKeys.size = 0 ∧ findInt32 r k = .notFound) ∨
    ∃ p, IsSucc (· ∈ r.sortedKeys) k p ∧
      findInt32 r k = (match mget r.hashRing p with | some e => .ep e | none => .zeroEp) := by
  by_cases h0 : r.sortedKeys.size = 0
  · exact Or.inl ⟨h0, findInt32_empty r k h0⟩
  right
  obtain ⟨hlo, hhi⟩ := search_spec r.sortedKeys k hs 0 r.sortedKeys.size (Nat.le_refl _)
  unfold findInt32
  simp only [h0, ↓reduceDIte]
  refine ⟨_, ⟨Array.getElem_mem _, ?_⟩, rfl⟩
  by_cases hge : search r.sortedKeys k 0 r.sortedKeys.size (Nat.le_refl _) ≥ r.sortedKeys.size <;>
    simp only [hge, ↓reduceIte]
  · -- every key is below `k`: wrap to index 0, the least key
    refine Or.inr ⟨fun q hq => ?_, fun q hq => ?_⟩
    all_goals obtain ⟨x, hx, rfl⟩ := Array.mem_iff_getElem.1 hq
    · exact hlo x hx (Nat.zero_le _) (Nat.lt_of_lt_of_le hx hge)
    · exact hs 0 x _ hx (Nat.zero_le _)
  · have hlt := Nat.lt_of_not_le hge
    refine Or.inl ⟨hhi _ hlt (Nat.le_refl _) hlt, fun q hq hkq => ?_⟩
    obtain ⟨x, hx, rfl⟩ := Array.mem_iff_getElem.1 hq
    by_cases hxs : x < search r.sortedKeys k 0 r.sortedKeys.size (Nat.le_refl _)
    · exact absurd (hlo x hx (Nat.zero_le _) hxs) (Nat.not_lt_of_le hkq)
    · exact hs _ x hlt hx (Nat.le_of_not_lt hxs)

theorem findInt32_of_succ (r : Ring H) (hs : SortedArr r.sortedKeys) (k p : Nat)
    (hsucc : IsSucc (· ∈ r.sortedKeys) k p) :
    findInt32 r k = (match mget r.hashRing p with | some e => .ep e | none => .zeroEp) := by
  rcases findInt32_spec r hs k with ⟨h0, _⟩ | ⟨p', hp', hf⟩
  · exact absurd (Array.eq_empty_of_size_eq_zero h0 ▸ hsucc.1) (Array.not_mem_empty p)
  · rw [hf, hp'.unique hsucc]

/-! ## Rings that track a holder relation

`Pt p`: `p` is a ring point of the current set; `own e p`: `e` is the endpoint that should hold `p`.
All `FindInt32` needs to know of a ring is that `hashRing` sends a point only to its holder, misses no
point, and `sortedKeys` is its sorted domain; what the relation is — membership in the current set, the
tie-break of the repaired ring — does not matter.  `Owner` and `OwnerF` of the specifications are both
`Routes` by definition. -/

/-- `sortedKeys` may hold a key several times -/
def KeysOK (r : Ring H) : Prop := ∀ p, p ∈ r.sortedKeys ↔ (mget r.hashRing p).isSome = true

/-- what every history keeps, whatever the endpoints; it makes the zero-endpoint answer of `FindInt32`
    unreachable (`InvK.lookup`) -/
def InvK (r : Ring H) : Prop := SortedArr r.sortedKeys ∧ KeysOK r

structure Tracks (r : Ring H) (Pt : Nat → Prop) (own : Ep H → Nat → Prop) : Prop where
  inv : InvK r
  sound : ∀ {p e}, mget r.hashRing p = some e → own e p
  complete : ∀ {p}, Pt p → (mget r.hashRing p).isSome = true
  pt : ∀ {e p}, own e p → Pt p
  uniq : ∀ {e e' p}, own e p → own e' p → e = e'

/-- key `k` goes to `e`: `e` holds the clockwise successor of `k` -/
def Routes (Pt : Nat → Prop) (own : Ep H → Nat → Prop) (k : Nat) (e : Ep H) : Prop :=
  ∃ p, IsSucc Pt k p ∧ own e p

theorem InvK.new (ew : Bool) : InvK (Ring.new ew : Ring H) :=
  ⟨fun x y hx => absurd hx (Nat.not_lt_zero x), fun p => by simp [Ring.new, mget]⟩

theorem InvK.sort {r : Ring H} (hk : KeysOK r) : InvK { r with sortedKeys := sortKeys r.sortedKeys } :=
  ⟨sortedArr_sortKeys _, fun p => (mem_sortKeys _ p).trans (hk p)⟩

theorem InvK.lookup {r : Ring H} (hK : InvK r) (k : Nat) :
    (r.sortedKeys.size = 0 ∧ findInt32 r k = .notFound) ∨
    ∃ p e, IsSucc (· ∈ r.sortedKeys) k p ∧ mget r.hashRing p = some e ∧ findInt32 r k = .ep e := by
  rcases findInt32_spec r hK.1 k with h | ⟨p, hp, hf⟩
  · exact Or.inl h
  · obtain ⟨e, he⟩ := Option.isSome_iff_exists.1 ((hK.2 p).1 hp.1)
    exact Or.inr ⟨p, e, hp, he, by rw [hf, he]⟩

theorem findInt32_at_point {r : Ring H} (hK : InvK r) {p : Nat} {e : Ep H}
    (h : mget r.hashRing p = some e) : findInt32 r p = .ep e := by
  have hs : IsSucc (· ∈ r.sortedKeys) p p :=
    ⟨(hK.2 p).2 (by rw [h]; rfl), Or.inl ⟨Nat.le_refl _, fun q _ hq => hq⟩⟩
  rw [findInt32_of_succ r hK.1 p p hs, h]

section Tracks
variable {r r' : Ring H} {Pt Pt' : Nat → Prop} {own own' : Ep H → Nat → Prop}

theorem Tracks.mem_keys (h : Tracks r Pt own) (p : Nat) : p ∈ r.sortedKeys ↔ Pt p :=
  (h.inv.2 p).trans ⟨fun hs => let ⟨_, he⟩ := Option.isSome_iff_exists.1 hs; h.pt (h.sound he), h.complete⟩

theorem Tracks.lookup (h : Tracks r Pt own) (k : Nat) :
    ((∀ p, ¬ Pt p) ∧ findInt32 r k = .notFound) ∨ ∃ e, Routes Pt own k e ∧ findInt32 r k = .ep e := by
  rcases h.inv.lookup k with ⟨h0, hf⟩ | ⟨p, e, hs, he, hf⟩
  · refine Or.inl ⟨fun p hp => ?_, hf⟩
    have := (h.mem_keys p).2 hp
    rw [Array.eq_empty_of_size_eq_zero h0] at this
    exact absurd this (Array.not_mem_empty p)
  · exact Or.inr ⟨e, ⟨p, hs.congr h.mem_keys, h.sound he⟩, hf⟩

theorem Tracks.findInt32_eq_ep (h : Tracks r Pt own) {k : Nat} {e : Ep H} :
    findInt32 r k = .ep e ↔ Routes Pt own k e := by
  rcases h.lookup k with ⟨hn, hf⟩ | ⟨e', ⟨p', hs', hp'⟩, hf⟩
  · rw [hf]
    exact ⟨(nomatch ·), fun ⟨p, _, hp⟩ => absurd (h.pt hp) (hn p)⟩
  · rw [hf]
    constructor
    · intro x; cases x; exact ⟨p', hs', hp'⟩
    · rintro ⟨p, hs, hp⟩
      cases hs'.unique hs
      rw [h.uniq hp' hp]

theorem Tracks.findInt32_eq_notFound (h : Tracks r Pt own) (k : Nat) (hn : ∀ p, ¬ Pt p) :
    findInt32 r k = .notFound := by
  rcases h.lookup k with ⟨_, hf⟩ | ⟨_, ⟨p, _, hp⟩, _⟩
  · exact hf
  · exact absurd (h.pt hp) (hn p)

/-- the lookup specification in the shape of `C14_lookup_spec` and `C14_fix_lookup_spec` -/
theorem Tracks.lookup_spec (h : Tracks r Pt own) (k : Nat) :
    (∀ e, Routes Pt own k e → findInt32 r k = .ep e) ∧ ((∀ p, ¬ Pt p) → findInt32 r k = .notFound) ∧
    ((∃ p, Pt p) → ∃ e, Routes Pt own k e) := by
  refine ⟨fun _ => h.findInt32_eq_ep.2, h.findInt32_eq_notFound k, fun ⟨p, hp⟩ => ?_⟩
  rcases h.lookup k with ⟨hn, _⟩ | ⟨e, hr, _⟩
  · exact absurd hp (hn p)
  · exact ⟨e, hr⟩

theorem Tracks.findInt32_congr (h : Tracks r Pt own) (h' : Tracks r' Pt' own') (hPt : ∀ p, Pt p ↔ Pt' p)
    (hown : ∀ e p, own e p → own' e p) (k : Nat) : findInt32 r k = findInt32 r' k := by
  rcases h.lookup k with ⟨hn, hf⟩ | ⟨e, ⟨p, hs, hp⟩, hf⟩
  · rw [hf, h'.findInt32_eq_notFound k fun p hp => hn p ((hPt p).2 hp)]
  · rw [hf, h'.findInt32_eq_ep.2 ⟨p, hs.congr hPt, hown e p hp⟩]

theorem Tracks.shrink (h : Tracks r Pt own) (h' : Tracks r' Pt' own') (hsub : ∀ p, Pt' p → Pt p)
    {k : Nat} {e : Ep H} (hf : findInt32 r k = .ep e) (hkeep : ∀ p, own e p → own' e p) :
    findInt32 r' k = .ep e := by
  obtain ⟨p, hs, hp⟩ := h.findInt32_eq_ep.1 hf
  exact h'.findInt32_eq_ep.2 ⟨p, hs.mono hsub (h'.pt (hkeep p hp)), hkeep p hp⟩

theorem Tracks.grow (h : Tracks r Pt own) (h' : Tracks r' Pt' own') (ep : Ep H)
    (hsub : ∀ p, Pt p → Pt' p) (hnew : ∀ e p, own' e p → own e p ∨ e = ep) (k : Nat) :
    findInt32 r' k = findInt32 r k ∨ findInt32 r' k = .ep ep := by
  rcases h'.lookup k with ⟨hn, hf⟩ | ⟨e, ⟨p, hs, hp⟩, hf⟩
  · exact Or.inl (hf.trans (h.findInt32_eq_notFound k fun p hp => hn p (hsub p hp)).symm)
  · rcases hnew e p hp with hold | rfl
    · exact Or.inl (hf.trans (h.findInt32_eq_ep.2 ⟨p, hs.mono hsub (h.pt hold), hold⟩).symm)
    · exact Or.inr hf

end Tracks

end Tars.ConHash
