import TarsModel.Proofs.ShortLoops
import TarsModel.Proofs.ShortMembers

/-!
  C06, member level: the cut statement `TR` for every kind of value (scalar, vector / byte vector /
  array, map, nested struct) and the induction over the value that ties them together (`tr_all`).
-/
namespace Tars
open Consts WFField Skip

theorem scalarBody_fails {ty : Ty} {v : Val} (hv : ScalarOK ty v) (tag : Nat) :
    Fails (scalarBody ty (wireScalar ty v tag).ty) (wireScalar ty v tag).body := by
  -- bool, int, f32, f64, str; for a bool and the two floats `wireScalar` computes to `intField` of
  -- 0/1 and to the fixed-width field, so the statements of WireCut apply as they stand
  rcases hv.shape with ⟨b, rfl, rfl⟩ | ⟨i, rfl⟩ | ⟨b, rfl, rfl⟩ | ⟨b, rfl, rfl⟩ | ⟨s, rfl, rfl⟩
  · exact (intBody_fails tag _ (minWidth_le_one (by cases b <;> simp))).map _
  · rw [wireScalar_int]
    obtain ⟨w, f, hb, hw, _⟩ := scalarBody_int hv
    rw [hb]
    exact (intBody_fails tag i hw).map f
  · exact (f32Body_eq ▸ fixedBody_fails (width := f32Width) (ty := tyFLOAT) rfl b).map _
  · exact (f64Body_eq ▸ fixedBody_fails (width := f64Width) (ty := tyDOUBLE) rfl b).map _
  · simp only [wireScalar]
    split
    · exact (strBody_fails (ty := tySTRING4) rfl s hv).map _
    · have h1 : be 1 s.length ++ s = (string1 tag s).body := by simp [be, body]
      exact (h1 ▸ strBody_fails (ty := tySTRING1) rfl s (by simp only [Nat.pow_one]; omega)).map _

theorem tr_leaf (env : Env) (rk : String → Nat) (v : Val) (hl : v.isLeaf = true) : TR env rk v := by
  intro fuel tag req ty dflt old r q htag _ hd hwt ho hcut hfuel hr
  have hv := (WT_leaf hl).mp hwt
  obtain ⟨F, rfl⟩ : ∃ F, fuel = F + 1 := ⟨fuel - 1, by omega⟩
  rw [encVar_eq_render env v tag req ty dflt hwt] at hcut
  have hcut := hcut.of_ite
  rw [wireVar_leaf env tag ty hl, render, wireScalar_tag tag hv] at hcut
  refine cut_front (ty_lt _) (ty_ne_structEnd _) htag hcut hr hd ho fun q1 r1 hq hq1 hr1 => ?_
  rw [memberBody_atom env F old ((Total.isAtom_eq ty).trans (scalarOK_isAtom hv))]
  exact scalarBody_fails hv tag r1 q1 hr1 hq1

theorem bytesBody_fails (env : Env) (F : Nat) (old : Val) (bs : Bytes) (hn : bs.length < 2 ^ 31) :
    Fails (vecBody env F .i8 old tySimpleList)
      (writeHead tyBYTE 0 ++ (writeInt32 (wrapS 32 bs.length) 0 ++ bs)) := fun r q hr hq => by
  unfold vecBody
  simp +decide only [if_false, if_true]
  rcases cut_seq (skipTo_hit _ 0 true (by decide) (by decide) (by decide)) (skipTo_head_fails _) hr hq
    with ⟨e, r', h⟩ | ⟨q1, _, h, hr1, hq1⟩
  · exact ⟨e, r', by simp only [h]⟩
  simp only [h]
  rcases cut_seq (readLen_reads hn) (readLen_fails hn) hr1 hq1 with ⟨e, r', h⟩ | ⟨q2, _, h, hr2, hq2⟩
  · exact ⟨e, r', by simp only [h]⟩
  simp only [h]
  obtain ⟨e, r', h⟩ := readSlice8_fails (Total.oldBytes old) bs _ q2 hr2 hq2
  exact ⟨e, r', by simp only [h]⟩

theorem tr_list (env : Env) (rk : String → Nat) (hE : EnvWF env rk) (vs : List Val)
    (ih : ∀ v ∈ vs, TR env rk v) : TR env rk (.list vs) := by
  intro fuel tag req ty dflt old r q htag hty hd hwt ho hcut hfuel hr
  obtain ⟨F, rfl⟩ : ∃ F, fuel = F + 1 := ⟨fuel - 1, by omega⟩
  cases ty <;> simp only [WT] at hwt
  case vec e =>
    simp only [TyOK] at hty
    rw [encVar] at hcut
    have hcut := hcut.of_ite
    by_cases c2 : e = .i8
    · -- SimpleList: BYTE head, length, then the bytes
      subst c2
      simp only [if_true, List.append_assoc] at hcut
      -- the count on the wire is that of the values; `bytesBody_fails` speaks of the bytes
      rw [← int8Bytes_length vs] at hwt hcut
      exact cut_front (by decide) (by decide) htag hcut hr hd ho
        fun q1 r1 _ hq1 hr1 => bytesBody_fails env F _ _ hwt.1 r1 q1 hr1 hq1
    · -- LIST: length, then the elements
      simp only [c2, if_false, List.append_assoc] at hcut
      refine cut_front (by decide) (by decide) htag hcut hr hd ho fun q1 r1 hq hq1 hr1 => ?_
      subst hq
      rw [memberBody_vec, vecBody]
      simp +decide only [if_true]
      rcases len_then_check hwt.1 hq1 hr1 with ⟨er, r', he⟩ | ⟨q2, r2, rfl, hq2, hl, hr2, hck⟩
      · rw [he]; exact ⟨er, r', rfl⟩
      rw [hl]
      simp only
      by_cases hc : vs.length ≤ q2.length
      · rw [hck, if_pos hc]
        simp only [Int.toNat_natCast]
        exact decElems_cut env rk hE e hty vs ih hwt.2 F [] _ q2 hq2
          (fuel_behind_len hfuel) hr2
      · rw [hck, if_neg hc]; exact ⟨_, _, rfl⟩
  case arr n e =>
    have := dflt_none_of_nonatom hd (by rfl)
    subst this
    simp only [TyOK] at hty
    obtain ⟨hvn, hn31, hwts⟩ := hwt
    subst hvn
    obtain ⟨os, rfl, hos, hro⟩ := ready_arr ho
    rw [encVar] at hcut
    have hcut := hcut.of_ite
    simp only [hty.1, if_false, List.append_assoc] at hcut
    refine cut_front (by decide) (by decide) htag hcut hr hd ho fun q1 r1 hq hq1 hr1 => ?_
    subst hq
    rw [memberBody_arr, arrBody]
    simp +decide only [if_true]
    rcases len_then_check hn31 hq1 hr1 with ⟨er, r', he⟩ | ⟨q2, r2, rfl, hq2, hl, hr2, _⟩
    · rw [he]; exact ⟨er, r', rfl⟩
    rw [hl]
    simpa [Total.oldList] using decArr_cut env rk hE e hty.2.2 vs ih hwts F vs.length 0 [] os _ q2 rfl (by omega)
      (by omega) hro hq2 (fuel_behind_len hfuel) hr2

theorem tr_map (env : Env) (rk : String → Nat) (hE : EnvWF env rk) (kvs : List (Val × Val))
    (ih : ∀ p ∈ kvs, TR env rk p.1 ∧ TR env rk p.2) : TR env rk (.map kvs) := by
  intro fuel tag req ty dflt old r q htag hty hd hwt ho hcut hfuel hr
  obtain ⟨F, rfl⟩ : ∃ F, fuel = F + 1 := ⟨fuel - 1, by omega⟩
  cases ty <;> simp only [WT] at hwt
  rename_i k v
  simp only [TyOK] at hty
  rw [encVar] at hcut
  have hcut := hcut.of_ite
  simp only [List.append_assoc] at hcut
  refine cut_front (by decide) (by decide) htag hcut hr hd ho fun q1 r1 hq hq1 hr1 => ?_
  subst hq
  rw [memberBody_map, mapBody, if_neg (by simp)]
  rcases len_then_check hwt.1 hq1 hr1 with ⟨er, r', he⟩ | ⟨q2, r2, rfl, hq2, hl, hr2, hck⟩
  · rw [he]; exact ⟨er, r', rfl⟩
  rw [hl]
  simp only
  by_cases hc : kvs.length ≤ q2.length
  · rw [hck, if_pos hc]
    exact decPairs_cut env rk hE k v hty.1 hty.2 kvs ih hwt.2.2 F [] _ q2 hq2
      (fuel_behind_len hfuel) hr2
  · rw [hck, if_neg hc]; exact ⟨_, _, rfl⟩

theorem tr_struct (env : Env) (rk : String → Nat) (hE : EnvWF env rk) (vs : List Val)
    (ih : ∀ v ∈ vs, TR env rk v) : TR env rk (.struct vs) := by
  intro fuel tag req ty dflt old r q htag hty hd hwt ho hcut hfuel hr
  obtain ⟨F, rfl⟩ : ∃ F, fuel = F + 1 := ⟨fuel - 1, by omega⟩
  cases ty <;> try (simp only [WT] at hwt; done)
  rename_i name
  have := dflt_none_of_nonatom hd (by rfl)
  subst this
  simp only [WT] at hwt
  cases hfs : env.find name with
  | none => simp [hfs] at hwt
  | some fs =>
    simp only [hfs] at hwt
    obtain ⟨os, rfl, hos⟩ := ready_struct hfs ho
    rw [encVar] at hcut
    simp only [hfs, List.append_assoc] at hcut
    refine cut_front (by decide) (by decide) htag hcut hr hd ho fun q1 r1 hq hq1 hr1 => ?_
    subst hq
    have hK : (env.width + 3) * 1 ≤ (env.width + 3) * (writeHead tyStructBegin tag).length :=
      Nat.mul_le_mul_left _ (writeHead_length_pos tyStructBegin tag)
    simp only [List.length_append, Nat.mul_add] at hfuel
    obtain ⟨G, rfl⟩ : ∃ G, F = G + 1 := ⟨F - 1, by omega⟩
    rw [memberBody_struct (G+1) os hfs, blockBody, if_neg (by simp)]
    have hq1' : q1 <+: encMembers env fs vs :=
      (List.prefix_concat_iff.1 hq1.1).resolve_left fun e => Nat.lt_irrefl _ (e ▸ hq1.2)
    have hold := resetDefault_twice_oldOK hE G fs os (hE.memberOK hfs) hos
    have hw := Env.find_width hfs
    rcases decMembers_prefix env rk hE vs ih fs _ (G+1) _ q1 (hE.memberOK hfs) (hE.tagsAsc hfs) hwt hold
      hq1' (by omega) hr1 with ⟨e, r', he⟩ | ⟨k, r', _, _, _, hrest, hdec⟩
    · rw [he]; exact ⟨e, r', rfl⟩
    · rw [hdec]
      simp only
      rw [skipToStructEnd_eof r' hrest]
      exact ⟨_, _, rfl⟩

theorem tr_all (env : Env) (rk : String → Nat) (hE : EnvWF env rk) : ∀ v, TR env rk v :=
  Val.ind_leaf (tr_leaf env rk) (fun vs ih => tr_list env rk hE vs ih) (fun kvs ih => tr_map env rk hE kvs ih)
    (fun vs ih => tr_struct env rk hE vs ih)

end Tars
