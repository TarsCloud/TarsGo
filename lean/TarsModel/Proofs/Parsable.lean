import TarsModel.Proofs.Skip

/-!
# Fields a strict parser can read

`parsable` is `WFField.wf` without the doubling of a MAP's count: `wf` asks `2 * count < 2^31`
because `skipFieldMap` computes `length*2` in int32, a parser that reads entry by entry only needs
`count < 2^31`, and that is all a well-typed Go map guarantees.  A parsable field whose rendering
is shorter than 2^31 bytes is well formed (`wf_of_parsable`): a map entry takes at least two bytes.
No schema.
-/
namespace Tars
open Consts WFField Skip

mutual
def parsable : WFField → Bool
  | .byte t _ | .short t _ | .int t _ | .long t _ | .float t _ | .double t _ | .zero t => decide (t < 256)
  | .string1 t s => decide (t < 256) && decide (s.length ≤ 255)
  | .string4 t s => decide (t < 256) && decide (s.length < 2 ^ 32)
  | .map t kvs => decide (t < 256) && decide (kvs.length < 2 ^ 31) && parsablePairs kvs
  | .list t es => decide (t < 256) && decide (es.length < 2 ^ 31) && parsableElems es
  | .simpleList t bs => decide (t < 256) && decide (bs.length < 2 ^ 31)
  | .struct t ms => decide (t < 256) && parsableMembers ms
def parsableElems : List WFField → Bool
  | [] => true
  | e :: es => decide (e.tag = 0) && parsable e && parsableElems es
def parsableMembers : List WFField → Bool
  | [] => true
  | m :: ms => parsable m && parsableMembers ms
def parsablePairs : List (WFField × WFField) → Bool
  | [] => true
  | (k, v) :: rest =>
    decide (k.tag = 0) && decide (v.tag = 1) && parsable k && parsable v && parsablePairs rest
end

theorem parsable_tag_lt (f : WFField) (h : parsable f = true) : f.tag < 256 := by
  cases f <;> simp only [parsable, Bool.and_eq_true, decide_eq_true_eq] at h <;>
    simp only [WFField.tag] <;> omega

theorem intField_parsable (tag : Nat) (i : Int) (h : tag < 256) : parsable (intField tag i) = true := by
  unfold intField; split <;> simp [parsable, h]

/-! ## lengths of renderings -/

theorem length_le_renderList : ∀ (es : List WFField), es.length ≤ (renderList es).length
  | [] => Nat.le_refl _
  | e :: es => by
    have := render_length_pos e
    have := length_le_renderList es
    simp only [renderList_cons, List.length_cons, List.length_append]; omega

/-- a map entry is two fields, each at least its head byte -/
theorem two_mul_length_le_renderPairs : ∀ (kvs : List (WFField × WFField)),
    2 * kvs.length ≤ (renderPairs kvs).length
  | [] => Nat.le_refl _
  | (k, v) :: kvs => by
    have := render_length_pos k
    have := render_length_pos v
    have := two_mul_length_le_renderPairs kvs
    simp only [renderPairs_cons, List.length_cons, List.length_append]; omega

/-! ## a parsable field within the frame limit is well formed -/

mutual
theorem wf_of_parsable (f : WFField) (hp : parsable f = true) (hl : (render f).length < 2 ^ 31) :
    f.wf = true := by
  cases f with
  | map t kvs =>
    simp only [parsable, Bool.and_eq_true, decide_eq_true_eq] at hp
    simp only [render, body, List.length_append] at hl
    have := two_mul_length_le_renderPairs kvs
    simp only [wf, Bool.and_eq_true, decide_eq_true_eq]
    exact ⟨⟨hp.1.1, by omega⟩, wfPairs_of_parsable kvs hp.2 (by omega)⟩
  | list t es =>
    simp only [parsable, Bool.and_eq_true, decide_eq_true_eq] at hp
    simp only [render, body, List.length_append] at hl
    simp only [wf, Bool.and_eq_true, decide_eq_true_eq]
    exact ⟨hp.1, wfElems_of_parsable es hp.2 (by omega)⟩
  | struct t ms =>
    simp only [parsable, Bool.and_eq_true, decide_eq_true_eq] at hp
    simp only [render, body, List.length_append] at hl
    simp only [wf, Bool.and_eq_true, decide_eq_true_eq]
    exact ⟨hp.1, wfMembers_of_parsable ms hp.2 (by omega)⟩
  | _ => exact hp
theorem wfElems_of_parsable (es : List WFField) (hp : parsableElems es = true)
    (hl : (renderList es).length < 2 ^ 31) : wfElems es = true := by
  cases es with
  | nil => rfl
  | cons e es =>
    simp only [parsableElems, Bool.and_eq_true] at hp
    simp only [renderList_cons, List.length_append] at hl
    simp only [wfElems, Bool.and_eq_true]
    exact ⟨⟨hp.1.1, wf_of_parsable e hp.1.2 (by omega)⟩, wfElems_of_parsable es hp.2 (by omega)⟩
theorem wfMembers_of_parsable (ms : List WFField) (hp : parsableMembers ms = true)
    (hl : (renderList ms).length < 2 ^ 31) : wfMembers ms = true := by
  cases ms with
  | nil => rfl
  | cons m ms =>
    simp only [parsableMembers, Bool.and_eq_true] at hp
    simp only [renderList_cons, List.length_append] at hl
    simp only [wfMembers, Bool.and_eq_true]
    exact ⟨wf_of_parsable m hp.1 (by omega), wfMembers_of_parsable ms hp.2 (by omega)⟩
theorem wfPairs_of_parsable (kvs : List (WFField × WFField)) (hp : parsablePairs kvs = true)
    (hl : (renderPairs kvs).length < 2 ^ 31) : wfPairs kvs = true := by
  cases kvs with
  | nil => rfl
  | cons p kvs =>
    obtain ⟨k, v⟩ := p
    simp only [parsablePairs, Bool.and_eq_true] at hp
    simp only [renderPairs_cons, List.length_append] at hl
    simp only [wfPairs, Bool.and_eq_true]
    exact ⟨⟨⟨hp.1.1.1, wf_of_parsable k hp.1.1.2 (by omega)⟩, wf_of_parsable v hp.1.2 (by omega)⟩,
      wfPairs_of_parsable kvs hp.2 (by omega)⟩
end

end Tars
