import TarsModel.Model.ServerConn
import TarsModel.Proofs.ListAux

/-!
One connection record of the shutdown LTS (C12): the moves a handler closure and a connection
goroutine can make (`HMove`, `CStep`: every transition function of the model is an instance of one
of their constructors), the invariant of one dispatched request (`ReqInv`: kept by every `HMove`) and of
one record (`ConnInv`: kept by every `CStep`).
-/
namespace Tars.ServerConn

/-! ### the moves of one connection record -/

def RPc.inLoop : RPc → Bool
  | .top | .reading | .parse | .sending _ => true
  | _ => false

/-- inside the inner loop of `recv` over `currBuffer` -/
def RPc.inParse : RPc → Bool
  | .parse | .sending _ => true
  | _ => false

/-- the connection goroutine is between `t.conns.Store` and the end of its deferred close -/
def RPc.serving : RPc → Bool
  | .backlog | .unreg | .closed => false
  | _ => true

theorem RPc.serving_of_inLoop {pc : RPc} (h : pc.inLoop = true) : pc.serving = true := by
  cases pc <;> first | rfl | cases h

/-- no goroutine serves the connection: it has returned, or `Accept` has not handed the connection out
yet (what `allConnGoroutinesDone` tests of each record) -/
def Conn.gone (k : Conn) : Prop := k.rpc = .closed ∨ k.rpc = .backlog

/-- `HMove cfg s k q st d`: the handler closure of request `q` of connection `k` goes from `q.st` to
`st` and lowers `numInvoke` by `d`. Which moves exist depends on the variant: with a pool a queued job
goes through the dispatcher's hand, the decrement is early or late, the early return is counted or
leaks. -/
inductive HMove (cfg : Cfg) (s : State) (k : Conn) (q : Req) : HSt → Nat → Prop
  | start : poolOn cfg = false → q.st = .queued → HMove cfg s k q .running 0
  | hand : poolOn cfg = true → s.held.isSome = true → q.st = .queued → HMove cfg s k q .handed 0
  | startP : q.st = .handed → HMove cfg s k q .running 0
  | fin : cfg.decEarly = false → q.st = .running → HMove cfg s k q .finished 0
  | finEarly : cfg.decEarly = true → q.st = .running → HMove cfg s k q .writePending 1
  | lateWrite : q.st = .writePending → HMove cfg s k q (.doneLate (q.noReply || !k.srvClosed)) 0
  | write : q.st = .finished → HMove cfg s k q (.wrote (!k.srvClosed)) 0
  | skip : cfg.decDeferred = true → q.st = .finished → HMove cfg s k q (.wrote true) 0
  | leak : cfg.decDeferred = false → q.st = .finished → HMove cfg s k q .leaked 0
  | dec (ok : Bool) : q.st = .wrote ok → HMove cfg s k q (.done ok) 1

/-- `CStep cfg s k k'`: what one action of the LTS in state `s` can do to the connection record `k`
from inside the connection (its client, its goroutine, its handlers). The two functions applied from
the shutdown side, `cNotify` and `cCloseByIdles`, are not in it. -/
inductive CStep (cfg : Cfg) (s : State) (k : Conn) : Conn → Prop
  /-- the client and the clock: `send`, `sendNR`, `age`, `recvRsp`, `recvMsg`, `recvEof` -/
  | env (wire sent nrIds : List Rid) (stale : Bool) (got : List Rid) (gotMsg sawEof : Bool) :
      CStep cfg s k { k with wire, sent, nrIds, stale, got, gotMsg, sawEof }
  | accept : s.apc = .accepting → k.rpc = .backlog → CStep cfg s k { k with rpc := .unreg }
  | register : k.rpc = .unreg → CStep cfg s k { k with rpc := .top, registered := true }
  /-- inside the receive loop: `stamp`, `read`, a read that timed out, `enqueue`. The last premise is
  what keeps `ConnInv.bufNil`: outside the inner loop `currBuffer` is empty, or was and is untouched. -/
  | loop (rpc : RPc) (buf wire : List Rid) (stale : Bool) : k.rpc.inLoop = true → rpc.inLoop = true →
      (rpc.inParse = false → buf = [] ∨ (k.rpc.inParse = false ∧ buf = k.buf)) →
      CStep cfg s k { k with rpc, buf, wire, stale }
  /-- `recv` returns; its deferred function starts the ticker -/
  | readReturn (tickAfterPoll : Bool) : k.rpc = .reading →
      CStep cfg s k { k with rpc := .drainWait, tickAfterPoll }
  /-- one `handleConn` call -/
  | dispatch (r : Rid) (rest : List Rid) (rpc : RPc) : k.rpc = .parse → k.buf = r :: rest →
      rpc.inLoop = true → (rpc.inParse = false → rest = []) →
      CStep cfg s k { k with
        buf := rest, numInvoke := k.numInvoke + 1, rpc,
        reqs := k.reqs ++ [{ id := r, st := .queued, dispOpen := !k.srvClosed, noReply := k.nrIds.contains r }] }
  | drainTick : k.rpc = .drainWait →
      ¬ (cfg.drainFirstTick = true ∧ k.tickAfterPoll = true ∧ s.firstPoll = false) →
      CStep cfg s k { k with rpc := .draining }
  | drainClose : k.rpc = .draining → k.numInvoke = 0 →
      CStep cfg s k { k with rpc := .closed, srvClosed := true, registered := false, stale := true }
  | handler (i : Nat) (q : Req) (st : HSt) (d : Nat) : k.reqs[i]? = some q → HMove cfg s k q st d →
      CStep cfg s k { k with reqs := k.reqs.set i { q with st := st }, numInvoke := k.numInvoke - d }

variable {cfg : Cfg} {s : State} {k k' : Conn}

theorem cSend_cstep {nr : Bool} {r : Rid} (h : cSend nr r k = some k') : CStep cfg s k k' := by
  unfold cSend at h; split at h <;> cases h
  exact .env ..

theorem cAge_cstep (h : cAge k = some k') : CStep cfg s k k' := by
  cases h; exact .env k.wire k.sent k.nrIds true k.got k.gotMsg k.sawEof

theorem cRecvRsp_cstep {i : Nat}
    (h : cRecvRsp i k = some k') : CStep cfg s k k' := by
  unfold cRecvRsp at h; split at h <;> try cases h
  split at h <;> cases h
  exact .env k.wire k.sent k.nrIds k.stale _ k.gotMsg k.sawEof

theorem cRecvMsg_cstep (h : cRecvMsg k = some k') :
    CStep cfg s k k' := by
  unfold cRecvMsg at h; split at h <;> cases h
  exact .env k.wire k.sent k.nrIds k.stale k.got true k.sawEof

theorem cRecvEof_cstep (h : cRecvEof k = some k') :
    CStep cfg s k k' := by
  unfold cRecvEof at h; split at h <;> cases h
  exact .env k.wire k.sent k.nrIds k.stale k.got k.gotMsg true

theorem cAccept_cstep (ha : s.apc = .accepting)
    (h : cAccept k = some k') : CStep cfg s k k' := by
  unfold cAccept at h; split at h <;> cases h
  exact .accept ha ‹_›

theorem cRegister_cstep (h : cRegister k = some k') :
    CStep cfg s k k' := by
  unfold cRegister at h; split at h <;> cases h
  exact .register ‹_›

theorem cStamp_cstep (h : cStamp k = some k') :
    CStep cfg s k k' := by
  unfold cStamp at h; split at h <;> cases h
  rename_i hpc
  exact .loop _ k.buf k.wire false (by rw [hpc]; rfl) rfl fun _ => .inr ⟨by rw [hpc]; rfl, rfl⟩

theorem cRead_cstep {n : Nat} (h : cRead n k = some k') :
    CStep cfg s k k' := by
  unfold cRead at h; split at h <;> try cases h
  split at h <;> cases h
  rename_i hpc _
  exact .loop _ _ _ k.stale (by rw [hpc]; rfl) rfl nofun

theorem cReadErr_cstep {p b f : Bool}
    (h : cReadErr p b f k = some k') : CStep cfg s k k' := by
  unfold cReadErr at h; split at h <;> try cases h
  split at h <;> cases h
  · exact .readReturn p ‹_›
  · rename_i hpc _
    exact .loop _ k.buf k.wire k.stale (by rw [hpc]; rfl) rfl fun _ => .inr ⟨by rw [hpc]; rfl, rfl⟩

theorem cDrainTick_cstep (hg : ¬ (cfg.drainFirstTick = true ∧ k.tickAfterPoll = true ∧ s.firstPoll = false))
    (h : cDrainTick k = some k') : CStep cfg s k k' := by
  unfold cDrainTick at h; split at h <;> cases h
  exact .drainTick ‹_› hg

theorem cDispatch_cstep (h : cDispatch (poolOn cfg) k = some k') : CStep cfg s k k' := by
  unfold cDispatch at h; split at h <;> cases h
  rename_i r rest hpc hbuf
  refine .dispatch r rest _ hpc hbuf ?_ ?_
  · split
    · rfl
    · split <;> rfl
  · split
    · nofun
    · split
      · exact fun _ => ‹_›
      · nofun

theorem cEnqueued_cstep {i : Nat}
    (h : cEnqueued k = some (k', i)) : CStep cfg s k k' := by
  unfold cEnqueued at h; split at h <;> cases h
  rename_i hpc
  refine .loop _ k.buf k.wire k.stale (by rw [hpc]; rfl) ?_ ?_
  · split <;> rfl
  · split
    · exact fun _ => .inl ‹_›
    · nofun

def cEnqueued' (k : Conn) : Option Conn := (cEnqueued k).map Prod.fst

theorem cDrainClose_cstep (h : cDrainClose k = some k') :
    CStep cfg s k k' := by
  unfold cDrainClose at h; split at h <;> try cases h
  split at h <;> cases h
  exact .drainClose ‹_› ‹_›

theorem cSetSt_cstep {i : Nat} {frm to : HSt}
    (hm : ∀ q, q.st = frm → HMove cfg s k q to 0)
    (h : cSetSt i frm to k = some k') : CStep cfg s k k' := by
  unfold cSetSt at h; split at h <;> try cases h
  split at h <;> cases h
  exact .handler i _ to 0 ‹_› (hm _ ‹_›)

theorem cStart_cstep {i : Nat} (hp : poolOn cfg = false) (h : cStart i k = some k') : CStep cfg s k k' :=
  cSetSt_cstep (fun _ => .start hp) h

theorem cHand_cstep {i : Nat} (hp : poolOn cfg = true) (hh : s.held.isSome = true) (h : cHand i k = some k') :
    CStep cfg s k k' :=
  cSetSt_cstep (fun _ => .hand hp hh) h

theorem cStartP_cstep {i : Nat} (h : cStartP i k = some k') : CStep cfg s k k' :=
  cSetSt_cstep (fun _ => .startP) h

theorem cFin_cstep {i : Nat} (he : cfg.decEarly = false) (h : cFin i k = some k') : CStep cfg s k k' :=
  cSetSt_cstep (fun _ => .fin he) h

theorem cWrite_cstep {i : Nat} (h : cWrite i k = some k') :
    CStep cfg s k k' := by
  unfold cWrite at h; split at h <;> try cases h
  split at h <;> try cases h
  exact cSetSt_cstep (fun _ => .write) h

theorem cSkip_cstep {i : Nat}
    (h : cSkip cfg.decDeferred i k = some k') : CStep cfg s k k' := by
  unfold cSkip at h; split at h <;> try cases h
  split at h <;> try cases h
  cases hd : cfg.decDeferred with
  | true => rw [hd] at h; exact cSetSt_cstep (fun _ => .skip hd) h
  | false => rw [hd] at h; exact cSetSt_cstep (fun _ => .leak hd) h

theorem cDec_cstep {i : Nat} (h : cDec i k = some k') :
    CStep cfg s k k' := by
  unfold cDec at h; split at h <;> try cases h
  split at h <;> cases h
  exact .handler i _ _ 1 ‹_› (.dec _ ‹_›)

theorem cFinEarly_cstep {i : Nat} (he : cfg.decEarly = true)
    (h : cFinEarly i k = some k') : CStep cfg s k k' := by
  unfold cFinEarly at h; split at h <;> try cases h
  split at h <;> cases h
  exact .handler i _ _ 1 ‹_› (.finEarly he ‹_›)

theorem cLateWrite_cstep {i : Nat}
    (h : cLateWrite i k = some k') : CStep cfg s k k' := by
  unfold cLateWrite at h; split at h <;> try cases h
  split at h <;> cases h
  exact .handler i _ _ 0 ‹_› (.lateWrite ‹_›)

/-! ### the invariant of one dispatched request -/

def notDone (q : Req) : Bool := !q.st.isDone

/-- the handler states the variant `cfg` has -/
def HSt.possible (cfg : Cfg) : HSt → Bool
  | .handed => poolOn cfg
  | .leaked => !cfg.decDeferred
  | .writePending | .doneLate _ => cfg.decEarly
  | _ => true

/-- What holds of one request of a connection record; `closed`: the server has closed the connection. -/
structure ReqInv (cfg : Cfg) (closed : Bool) (q : Req) : Prop where
  possible : q.st.possible cfg = true
  /-- while the server has not closed the connection no response write has failed -/
  openOk : closed = false → q.st.ok = true
  /-- the safety clause, unless `CloseIdles` is the non-atomic one or the decrement comes before the
  write: once the server has closed the connection, a request that was dispatched while it was open has
  been executed, its response written to the open connection and its handler has finished -/
  safe : cfg.ci ≠ .asFound → cfg.decEarly = false → closed = true → q.dispOpen = true → q.st = .done true
  /-- when `CloseIdles` only wakes, `handleConn` never counts a request on a closed connection -/
  allOpen : cfg.ci = .kickOnly → q.dispOpen = true

variable {q : Req} {closed : Bool}

/-- the request `handleConn` appends -/
theorem ReqInv.queued (r : Rid) (nr : Bool) (hk : cfg.ci = .kickOnly → closed = false) :
    ReqInv cfg closed { id := r, st := .queued, dispOpen := !closed, noReply := nr } :=
  ⟨rfl, fun _ => rfl, fun _ _ hc hd => by simp [hc] at hd, fun hci => by simp [hk hci]⟩

theorem HMove.count {st : HSt} {d : Nat}
    (h : HMove cfg s k q st d) : (notDone q).toNat = (notDone { q with st := st }).toNat + d := by
  cases h <;> simp [notDone, HSt.isDone, *]

theorem HMove.reqInv {st : HSt} {d : Nat} (h : HMove cfg s k q st d) (hq : ReqInv cfg k.srvClosed q) :
    ReqInv cfg k.srvClosed { q with st := st } := by
  obtain ⟨hp, ho, hs, ha⟩ := hq
  refine ⟨?_, fun hc => ?_, fun hci hde hc hd => ?_, ha⟩
  · clear ho hs ha
    cases h <;> simp_all [HSt.possible]
  · have := ho hc
    clear ho hs ha hp
    cases h with
    | dec ok => cases ok <;> simp_all [HSt.ok]
    | _ => simp_all [HSt.ok]
  · -- the request is `done true` already, and no move leaves `done`
    have := hs hci hde hc hd
    clear ho hs ha hp
    cases h <;> simp_all

/-- The server closes the connection: safe if it is the non-atomic `CloseIdles` that does it (nothing
is claimed then) or if the request's decrement has run. -/
theorem ReqInv.close (hq : ReqInv cfg closed q) (h : cfg.ci ≠ .asFound → notDone q = false) :
    ReqInv cfg true q := by
  refine ⟨hq.possible, nofun, fun hci hde _ hd => ?_, hq.allOpen⟩
  cases closed with
  | true => exact hq.safe hci hde rfl hd
  | false =>
    -- the decrement has run and is not the early one: the state is `done ok`, and no write had failed
    have hnd := h hci
    have hok := hq.openOk rfl
    have hp := hq.possible
    cases hst : q.st with
    | done ok => cases ok <;> simp_all [HSt.ok]
    | _ => simp_all [notDone, HSt.isDone, HSt.possible]

/-! ### the invariant of one connection record -/

/-- the connection goroutine has got past `t.conns.Store` -/
def Conn.started (k : Conn) : Prop := k.rpc ≠ .backlog ∧ k.rpc ≠ .unreg

structure ConnInv (cfg : Cfg) (k : Conn) : Prop where
  /-- `numInvoke` counts exactly the dispatched requests whose deferred decrement has not run -/
  count : k.numInvoke = k.reqs.countP notDone
  reqs : ∀ q ∈ k.reqs, ReqInv cfg k.srvClosed q
  /-- the goroutine ends with the deferred close: drained, closed -/
  closedPc : k.rpc = .closed → k.srvClosed = true ∧ k.numInvoke = 0
  /-- when `CloseIdles` only wakes, the only `conn.Close()` is that one -/
  ownClose : cfg.ci = .kickOnly → k.srvClosed = true → k.rpc = .closed
  /-- `currBuffer` holds packages only inside the inner loop of `recv` -/
  bufNil : k.rpc.inParse = false → k.buf = []
  /-- before `t.conns.Store` nothing has been read -/
  fresh : (k.rpc = .backlog ∨ k.rpc = .unreg) → k.reqs = [] ∧ k.registered = false
  /-- the entry is in the table from `t.conns.Store` to `t.conns.Delete`: a connection that is not in
  the table has a goroutine that has not stored it yet or has finished -/
  regPc : k.registered = false → k.rpc.serving = false

/-- what never goes back in a connection record -/
structure ConnMono (k k' : Conn) : Prop where
  closedM : k.srvClosed = true → k'.srvClosed = true
  notifiedM : k.notified = true → k'.notified = true
  startedM : k.started → k'.started

theorem connInv_new : ConnInv cfg Conn.new := by
  constructor <;> simp [Conn.new, RPc.serving]

theorem ConnInv.numInvoke_pos (hi : ConnInv cfg k) {i : Nat} (hq : k.reqs[i]? = some q)
    (hnd : q.st.isDone = false) : 0 < k.numInvoke := by
  rw [hi.count]
  exact List.countP_pos_iff.mpr ⟨q, List.mem_of_getElem? hq, by simp [notDone, hnd]⟩

theorem ConnInv.numInvoke_zero (hi : ConnInv cfg k) (h : k.gone) : k.numInvoke = 0 := by
  rcases h with h | h
  · exact (hi.closedPc h).2
  · rw [hi.count, (hi.fresh (.inl h)).1]; rfl

theorem ConnInv.notDone_of_zero (hi : ConnInv cfg k) (hz : k.numInvoke = 0) : ∀ q ∈ k.reqs, notDone q = false :=
  fun q hq => by simpa using List.countP_eq_zero.mp (hi.count ▸ hz) q hq

theorem ConnInv.started_of_registered (hi : ConnInv cfg k) (hr : k.registered = true) : k.started := by
  constructor <;> intro hpc
  · have := (hi.fresh (Or.inl hpc)).2; rw [hr] at this; cases this
  · have := (hi.fresh (Or.inr hpc)).2; rw [hr] at this; cases this

theorem ConnInv.closed_of_unregistered (hi : ConnInv cfg k) (hr : k.registered = false)
    (hs : k.started) : k.srvClosed = true := by
  have hpc := hi.regPc hr
  cases h : k.rpc with
  | backlog => exact absurd h hs.1
  | unreg => exact absurd h hs.2
  | closed => exact (hi.closedPc h).1
  | _ => rw [h] at hpc; cases hpc

theorem ConnInv.open_of_pc (hi : ConnInv cfg k) (hpc : k.rpc ≠ .closed) (hci : cfg.ci = .kickOnly) :
    k.srvClosed = false :=
  Bool.eq_false_iff.mpr fun hc => hpc (hi.ownClose hci hc)

/-- a move of the connection goroutine before its deferred close -/
theorem ConnInv.of_recv (hi : ConnInv cfg k) {pc : RPc} {buf wire : List Rid} {stale registered tickAfterPoll : Bool}
    (hpc : k.rpc ≠ .closed) (hpc' : pc ≠ .closed) (hb : pc.inParse = false → buf = [])
    (hf : (pc = .backlog ∨ pc = .unreg) → k.reqs = [] ∧ registered = false)
    (hg : registered = false → pc.serving = false) :
    ConnInv cfg { k with rpc := pc, buf, wire, stale, registered, tickAfterPoll } :=
  ⟨hi.count, hi.reqs, fun h => absurd h hpc',
    fun hci (h : k.srvClosed = true) => (by rw [hi.open_of_pc hpc hci] at h; cases h), hb, hf, hg⟩

theorem CStep.inv (h : CStep cfg s k k') (hi : ConnInv cfg k) : ConnInv cfg k' := by
  cases h with
  | env => exact ⟨hi.count, hi.reqs, hi.closedPc, hi.ownClose, hi.bufNil, hi.fresh, hi.regPc⟩
  | accept _ hpc =>
    exact hi.of_recv (by rw [hpc]; nofun) nofun (fun _ => hi.bufNil (by rw [hpc]; rfl))
      (fun _ => hi.fresh (.inl hpc)) fun _ => rfl
  | register hpc =>
    exact hi.of_recv (by rw [hpc]; nofun) nofun (fun _ => hi.bufNil (by rw [hpc]; rfl))
      (fun h => by simp at h) nofun
  | loop pc buf _ _ hpc hpc' hb =>
    have hs := RPc.serving_of_inLoop hpc
    have hs' := RPc.serving_of_inLoop hpc'
    refine hi.of_recv (fun h => by rw [h] at hs; cases hs) (fun (h : pc = _) => by subst h; cases hs')
      (fun h => ?_) (fun (h : pc = _ ∨ pc = _) => by rcases h with h | h <;> subst h <;> cases hs')
      fun (hr : k.registered = false) => by rw [hi.regPc hr] at hs; cases hs
    rcases hb h with hb | ⟨hp, hb⟩
    · exact hb
    · exact hb.trans (hi.bufNil hp)
  | readReturn _ hpc | drainTick hpc =>
    exact hi.of_recv (by rw [hpc]; nofun) nofun (fun _ => hi.bufNil (by rw [hpc]; rfl))
      (fun h => by simp at h) fun (hr : k.registered = false) => by have := hi.regPc hr; rw [hpc] at this; cases this
  | dispatch r rest pc hpc hbuf hpc' hb =>
    have hs := RPc.serving_of_inLoop hpc'
    refine ⟨?_, fun q hq => ?_, ?_, fun hci => ?_, hb, ?_, ?_⟩
    · show k.numInvoke + 1 = (k.reqs ++ [_]).countP notDone
      simp [List.countP_append, notDone, HSt.isDone, hi.count]
    · rcases List.mem_append.mp hq with hq | hq
      · exact hi.reqs q hq
      · cases List.mem_singleton.mp hq
        exact .queued r _ (hi.open_of_pc (by rw [hpc]; nofun))
    · intro (h : pc = .closed); subst h; cases hs
    · intro (hc : k.srvClosed = true)
      rw [hi.open_of_pc (by rw [hpc]; nofun) hci] at hc; cases hc
    · intro (h : pc = .backlog ∨ pc = .unreg); rcases h with h | h <;> subst h <;> cases hs
    · intro (hr : k.registered = false)
      have := hi.regPc hr; rw [hpc] at this; cases this
  | drainClose hpc hz =>
    exact ⟨hi.count, fun q hq => (hi.reqs q hq).close fun _ => hi.notDone_of_zero hz q hq,
      fun _ => ⟨rfl, hz⟩, fun _ _ => rfl, fun _ => hi.bufNil (by rw [hpc]; rfl), nofun, fun _ => rfl⟩
  | handler i q st d hq hm =>
    have hc := countP_set_add notDone { q with st := st } hq
    have hm' := hm.count
    refine ⟨?_, fun x hx => ?_, ?_, hi.ownClose, hi.bufNil, ?_, hi.regPc⟩
    · have := hi.count
      show k.numInvoke - d = (k.reqs.set i { q with st := st }).countP notDone
      omega
    · rcases List.mem_or_eq_of_mem_set hx with hx | rfl
      · exact hi.reqs x hx
      · exact hm.reqInv (hi.reqs q (List.mem_of_getElem? hq))
    · intro (hpc : k.rpc = .closed)
      have := hi.closedPc hpc
      exact ⟨this.1, show k.numInvoke - d = 0 by omega⟩
    · intro hpc
      have := (hi.fresh hpc).1
      rw [this] at hq; cases hq

theorem CStep.mono (h : CStep cfg s k k') : ConnMono k k' := by
  cases h with
  | env | handler => exact ⟨id, id, id⟩
  | accept _ hpc => exact ⟨id, id, fun h => absurd hpc h.1⟩
  | drainClose => exact ⟨fun _ => rfl, id, fun _ => ⟨nofun, nofun⟩⟩
  | register | readReturn | drainTick => exact ⟨id, id, fun _ => ⟨nofun, nofun⟩⟩
  | loop pc _ _ _ _ hpc' | dispatch _ _ pc _ _ hpc' =>
    refine ⟨id, id, fun _ => ⟨?_, ?_⟩⟩
    · intro (h : pc = .backlog); subst h; cases hpc'
    · intro (h : pc = .unreg); subst h; cases hpc'

theorem CStep.gone (h : CStep cfg s k k') (ha : s.apc ≠ .accepting) (hk : k.gone) : k'.gone := by
  cases h with
  | env | handler => exact hk
  | accept ha' => exact absurd ha' ha
  | register hpc | loop _ _ _ _ hpc | readReturn _ hpc | drainTick hpc | dispatch _ _ _ hpc
  | drainClose hpc => rcases hk with h | h <;> rw [h] at hpc <;> cases hpc

/-! ### the two functions applied from the shutdown side -/

/-- `sendCloseMsg` on one table entry writes only the notification flag and its ghosts -/
theorem cNotify_eq (k : Conn) : ∃ n m l,
    cNotify k = { k with notified := n, missedClosed := m, lateReg := l, sawNotify := true } ∧
    (k.notified = true → n = true) ∧ (n = true ∨ m = true ∨ l = true) ∧
    (m = true → k.missedClosed = true ∨ k.srvClosed = true) := by
  unfold cNotify
  split
  · exact ⟨true, k.missedClosed, k.lateReg, rfl, fun _ => rfl, .inl rfl, .inl⟩
  · split
    · rename_i hc
      exact ⟨k.notified, true, k.lateReg, rfl, id, .inr (.inl rfl), fun _ => .inr hc⟩
    · exact ⟨k.notified, k.missedClosed, true, rfl, id, .inr (.inr rfl), .inl⟩

theorem cNotify_reqs (k : Conn) : (cNotify k).reqs = k.reqs := by
  obtain ⟨_, _, _, h, _⟩ := cNotify_eq k; rw [h]

theorem cNotify_rpc (k : Conn) : (cNotify k).rpc = k.rpc := by
  obtain ⟨_, _, _, h, _⟩ := cNotify_eq k; rw [h]

theorem Conn.gone.cNotify (h : k.gone) : (cNotify k).gone := by
  rw [Conn.gone, cNotify_rpc]; exact h

theorem cNotify_srvClosed (k : Conn) : (cNotify k).srvClosed = k.srvClosed := by
  obtain ⟨_, _, _, h, _⟩ := cNotify_eq k; rw [h]

theorem cNotify_registered (k : Conn) : (cNotify k).registered = k.registered := by
  obtain ⟨_, _, _, h, _⟩ := cNotify_eq k; rw [h]

theorem connInv_cNotify (hi : ConnInv cfg k) : ConnInv cfg (cNotify k) := by
  obtain ⟨_, _, _, h, _⟩ := cNotify_eq k
  rw [h]; exact ⟨hi.count, hi.reqs, hi.closedPc, hi.ownClose, hi.bufNil, hi.fresh, hi.regPc⟩

theorem connMono_cNotify (k : Conn) : ConnMono k (cNotify k) := by
  obtain ⟨_, _, _, h, hn, _⟩ := cNotify_eq k
  rw [h]; exact ⟨id, hn, id⟩

/-- `CloseIdles` closes a connection itself only as found, or in the same step in which it sees
`numInvoke = 0` -/
theorem connInv_cCloseByIdles (hi : ConnInv cfg k)
    (hg : cfg.ci = .asFound ∨ (cfg.ci = .atomic ∧ k.numInvoke = 0)) : ConnInv cfg (cCloseByIdles k) :=
  ⟨hi.count,
    fun q hq => (hi.reqs q hq).close fun hci => hi.notDone_of_zero (hg.resolve_left hci).2 q hq,
    fun hc => ⟨rfl, (hi.closedPc hc).2⟩,
    fun hci => (by rcases hg with h | ⟨h, _⟩ <;> rw [hci] at h <;> cases h),
    hi.bufNil, hi.fresh, hi.regPc⟩

theorem connMono_cCloseByIdles (k : Conn) : ConnMono k (cCloseByIdles k) :=
  ⟨fun _ => rfl, id, id⟩

end Tars.ServerConn
