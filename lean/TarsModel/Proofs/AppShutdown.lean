import TarsModel.Proofs.ServerConnStep
import TarsModel.Model.AppShutdown

/-!
`application.graceShutdown` over a list of independent server LTSs (C12): `astep` as a relation
(`AStep`); every component stays a reachable server state (`AInv`); when the server is passed as
an argument, goroutine j calls `Shutdown` on adapter j (`ArgInv`); an adapter no goroutine will call
stays in the state "Shutdown not called" (`Skipped`).
-/
namespace Tars.AppShutdown
open Tars.ServerConn

theorem isRun (v : Capture) (cfg : Cfg) : Lts.IsRun (astep v cfg) (arunFrom v cfg) :=
  ⟨fun _ => rfl, fun s a _ => by rw [arunFrom]; cases astep v cfg s a <;> rfl⟩

/-- `astep` as a relation: a loop iteration spawns a goroutine, a goroutine calls `Shutdown` on the
server it was given or on the one the loop variable names now, or one adapter's server makes a step of
its own other than `shutdownCall` -/
inductive AStep (v : Capture) (cfg : Cfg) (s : AState) : AAction → AState → Prop
  | iter (g : GoR) : s.i < s.servers.length → g.target = none → (v = .argument → g.arg = some s.i) →
      AStep v cfg s .iter { s with i := s.i + 1, loopVar := some s.i, gos := s.gos ++ [g] }
  | call (j : Nat) (g : GoR) (t : Nat) (st st' : State) : s.gos[j]? = some g → g.target = none →
      (∀ t', g.arg = some t' → t = t') → s.servers[t]? = some st →
      (st' = st ∨ step cfg st .shutdownCall = some st') →
      AStep v cfg s (.call j)
        { s with gos := s.gos.set j { g with target := some t }, servers := s.servers.set t st',
                 shutdownOn := s.shutdownOn ++ [t] }
  | srv (k : Nat) (b : Action) (st st' : State) : b ≠ .shutdownCall → s.servers[k]? = some st →
      step cfg st b = some st' → AStep v cfg s (.srv k b) { s with servers := s.servers.set k st' }

theorem AStep.of_astep {v : Capture} {cfg : Cfg} {s s' : AState} {a : AAction} (h : astep v cfg s a = some s') :
    AStep v cfg s a s' := by
  cases a with
  | iter =>
    simp only [astep] at h
    split at h <;> cases h
    exact .iter _ ‹_› rfl fun hv => by rw [hv]
  | call j =>
    simp only [astep] at h
    split at h <;> try cases h
    rename_i g hg
    split at h <;> try cases h
    rename_i t ht1 ht2
    split at h <;> cases h
    rename_i st hst
    refine .call j g t st _ hg ht1 ?_ hst ?_
    · intro t' ha
      rw [ha] at ht2; exact (Option.some.inj ht2).symm
    · cases step cfg st .shutdownCall with
      | none => exact .inl rfl
      | some y => exact .inr rfl
  | srv k b =>
    simp only [astep] at h
    split at h <;> try cases h
    split at h <;> try cases h
    cases hs : step cfg _ b with
    | none => rw [hs] at h; cases h
    | some y => rw [hs] at h; cases h; exact .srv k b _ y ‹_› ‹_› hs

structure AInv (cfg : Cfg) (s : AState) : Prop where
  len : s.gos.length = s.i
  reach : ∀ (k : Nat) (st : State), s.servers[k]? = some st → Reachable cfg st

theorem ainv_init (cfg : Cfg) (n : Nat) : AInv cfg (init n) := by
  refine ⟨rfl, ?_⟩
  intro k st h
  simp [init, List.getElem?_replicate] at h
  rw [← h.2]; exact Reachable.init

theorem ainv_step {v : Capture} {cfg : Cfg} {s s' : AState} {a : AAction} (hI : AInv cfg s)
    (h : AStep v cfg s a s') : AInv cfg s' := by
  cases h with
  | iter => exact ⟨by simp [hI.len], hI.reach⟩
  | call j g t st st' _ _ _ hst hst' =>
    refine ⟨by simp [hI.len], forall_set hI.reach ?_⟩
    rcases hst' with rfl | hsc
    · exact hI.reach t _ hst
    · exact Reachable.step _ (hI.reach t st hst) hsc
  | srv k b st st' _ hst hs =>
    exact ⟨hI.len, forall_set hI.reach (Reachable.step _ (hI.reach k st hst) hs)⟩

structure GoBound (shutdownOn : List Nat) (j : Nat) (g : GoR) : Prop where
  arg : g.arg = some j
  target : g.target = none ∨ g.target = some j
  called : g.target ≠ none → j ∈ shutdownOn

structure ArgInv (s : AState) : Prop where
  bound : ∀ (j : Nat) (g : GoR), s.gos[j]? = some g → GoBound s.shutdownOn j g

theorem arginv_init (n : Nat) : ArgInv (init n) := ⟨fun j g h => by simp [init] at h⟩

theorem arginv_step {cfg : Cfg} {s s' : AState} {a : AAction} (hA : AInv cfg s) (hI : ArgInv s)
    (h : AStep .argument cfg s a s') : ArgInv s' := by
  cases h with
  | iter g _ hg1 hg2 =>
    exact ⟨forall_append hI.bound ⟨hA.len ▸ hg2 rfl, .inl hg1, absurd hg1⟩⟩
  | call j g t st st' hg _ harg =>
    have hj := (hI.bound j g hg).arg
    cases harg j hj
    refine ⟨fun j' g' hg' => ?_⟩
    rcases getElem?_set_cases hg' with ⟨rfl, rfl⟩ | ⟨_, hx'⟩
    · exact ⟨hj, .inr rfl, fun _ => by simp⟩
    · obtain ⟨h1, h2, h3⟩ := hI.bound j' g' hx'
      exact ⟨h1, h2, fun ht => by simp [h3 ht]⟩
  | srv => exact ⟨hI.bound⟩

theorem ainv_run {cfg : Cfg} {n : Nat} {acts : List AAction} {s : AState}
    (h : arun .argument cfg n acts = some s) : AInv cfg s ∧ ArgInv s :=
  (isRun _ cfg).inv (P := fun t => AInv cfg t ∧ ArgInv t)
    (fun hP hs => ⟨ainv_step hP.1 (.of_astep hs), arginv_step hP.1 hP.2 (.of_astep hs)⟩)
    ⟨ainv_init cfg n, arginv_init n⟩ h

structure Skipped (s : AState) (k : Nat) : Prop where
  loopOver : s.i = s.servers.length
  allCalled : ∀ g ∈ s.gos, g.target ≠ none
  idle : ∃ st, s.servers[k]? = some st ∧ st.spc = .idle

theorem skipped_step {v : Capture} {cfg : Cfg} {s s' : AState} {k : Nat} {a : AAction}
    (hs : Skipped s k) (h : AStep v cfg s a s') : Skipped s' k := by
  cases h with
  | iter _ hlt => have := hs.loopOver; omega
  | call j g _ _ _ hg ht => exact absurd ht (hs.allCalled g (List.mem_of_getElem? hg))
  | srv k' b st st' hne hst hb =>
    obtain ⟨st0, hk, hidle⟩ := hs.idle
    refine ⟨by simp [hs.loopOver], hs.allCalled, ?_⟩
    by_cases hkk : k' = k
    · subst hkk
      cases hst.symm.trans hk
      exact ⟨st', getElem?_set_of_some hst, (GStep.of_step hb).idle hidle hne⟩
    · exact ⟨st0, by rw [List.getElem?_set_ne hkk]; exact hk, hidle⟩

theorem skipped_run {v : Capture} {cfg : Cfg} {k : Nat} {acts : List AAction} {s s' : AState}
    (hs : Skipped s k) (h : arunFrom v cfg s acts = some s') : Skipped s' k :=
  (isRun v cfg).inv (fun hs h => skipped_step hs (.of_astep h)) hs h

end Tars.AppShutdown
