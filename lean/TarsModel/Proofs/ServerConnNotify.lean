import TarsModel.Proofs.ServerConnInv

/-!
The order of the close message and the deferred close (C12).
With the kick-only `CloseIdles` only a connection's own deferred drain closes it, and that drain tests
`numInvoke` only after a tick of a ticker created when the receive loop returned. If that was after
`Shutdown` had created its ticker, the poller's first call (which sends the close message) comes first.
-/
namespace Tars.ServerConn

/-- the notification-order facts about one connection, relative to the globals `firstPoll`,
`fpNotified`, `listenClosed` -/
structure NConn (fp fpn : Bool) (lc : Nat) (k : Conn) : Prop where
  /-- a drain whose ticker is younger than the poller's tests `numInvoke` only after the poller's first tick -/
  drainAfterPoll : k.tickAfterPoll = true → (k.rpc = .draining ∨ k.rpc = .closed) → fp = true
  /-- what `sendCloseMsg` can have found: it notified, or the connection was closed, or not yet in the table -/
  sawCases : k.sawNotify = true → k.notified = true ∨ k.missedClosed = true ∨ k.lateReg = true
  /-- found closed although its drain waited for the first poll: the first poll had not sent the message -/
  missedLate : k.missedClosed = true → k.tickAfterPoll = true → fpn = false
  /-- once `sendCloseMsg` has run it has seen every accepted connection -/
  sawAll : lc = 2 → k.rpc ≠ .backlog → k.sawNotify = true
  /-- `sendCloseMsg` found it closed: it is -/
  missedIsClosed : k.missedClosed = true → k.srvClosed = true

structure NInv (s : State) : Prop where
  /-- `fpNotified` records that the close message was out by the end of the first poll -/
  fpSent : s.firstPoll = true → s.fpNotified = true → s.listenClosed = 2
  /-- `isListenClosed` is set when the accept loop leaves -/
  leftAccept : s.listenClosed ≠ 0 → s.apc ≠ .accepting
  conns : ∀ (c : Nat) (k : Conn), s.conns[c]? = some k → NConn s.firstPoll s.fpNotified s.listenClosed k

theorem NConn.frame {fp fpn : Bool} {lc : Nat} {k k' : Conn} (hn : NConn fp fpn lc k)
    (ht : k'.tickAfterPoll = k.tickAfterPoll) (hm : k'.missedClosed = k.missedClosed)
    (hl : k'.lateReg = k.lateReg) (hs : k'.sawNotify = k.sawNotify) (hno : k'.notified = k.notified)
    (hpc : (k'.rpc = .draining ∨ k'.rpc = .closed) → (k.rpc = .draining ∨ k.rpc = .closed))
    (hcl : k.srvClosed = true → k'.srvClosed = true) (hb : lc = 2 → k'.rpc ≠ .backlog → k.rpc ≠ .backlog) :
    NConn fp fpn lc k' :=
  ⟨fun h hr => hn.drainAfterPoll (ht ▸ h) (hpc hr), by rw [hs, hno, hm, hl]; exact hn.sawCases, by rw [hm, ht]; exact hn.missedLate,
    fun h2 hr => hs ▸ hn.sawAll h2 (hb h2 hr), fun h => hcl (hn.missedIsClosed (hm ▸ h))⟩

/-- The two moves with content: the drain test is reached only after the poller's first tick if the
drain ticker is the younger one (`drainTick`), and a connection `sendCloseMsg` found closed has finished
its drain, so it is not the one whose `recv` returns and starts a ticker (`readReturn`). -/
theorem CStep.nconn {cfg : Cfg} {s : State} {k k' : Conn} (hdt : cfg.drainFirstTick = true)
    (h : CStep cfg s k k') (hK : k.srvClosed = true → k.rpc = .closed) (hleft : s.listenClosed ≠ 0 → s.apc ≠ .accepting)
    (hn : NConn s.firstPoll s.fpNotified s.listenClosed k) :
    NConn s.firstPoll s.fpNotified s.listenClosed k' := by
  cases h with
  | env | handler => exact hn.frame rfl rfl rfl rfl rfl id id fun _ => id
  | accept ha => exact hn.frame rfl rfl rfl rfl rfl nofun id fun h2 => absurd ha (hleft (by rw [h2]; nofun))
  | register hpc => exact hn.frame rfl rfl rfl rfl rfl nofun id fun _ _ => by rw [hpc]; nofun
  | loop pc _ _ _ hpc hpc' | dispatch _ _ pc hpc _ hpc' =>
    refine hn.frame rfl rfl rfl rfl rfl (fun (h : pc = .draining ∨ pc = .closed) => ?_) id
      fun _ _ hb => by rw [hb] at hpc; cases hpc
    rcases h with h | h <;> rw [h] at hpc' <;> cases hpc'
  | drainClose hpc => exact hn.frame rfl rfl rfl rfl rfl (fun _ => .inl hpc) (fun _ => rfl) fun _ _ => by rw [hpc]; nofun
  | readReturn _ hpc =>
    refine ⟨nofun, hn.sawCases, fun hm => ?_, fun h2 _ => hn.sawAll h2 (by rw [hpc]; nofun), hn.missedIsClosed⟩
    have := hK (hn.missedIsClosed hm); rw [hpc] at this; cases this
  | drainTick hpc hg =>
    refine ⟨fun ht _ => ?_, hn.sawCases, hn.missedLate, fun h2 _ => hn.sawAll h2 (by rw [hpc]; nofun), hn.missedIsClosed⟩
    exact Bool.not_eq_false _ ▸ fun hfp => hg ⟨hdt, ht, hfp⟩

/-- the table after `sendCloseMsg`, for any new values of `firstPoll` / `fpNotified`: a connection found
closed whose drain waited for the first poll shows that the first poll is over; `hfpn`: a first poll that is
over had not sent the message (it is being sent now) -/
theorem nconn_notify {fp fpn fp' fpn' : Bool} {lc : Nat} {k : Conn} (hK : k.srvClosed = true → k.rpc = .closed)
    (hn : NConn fp fpn lc k) (hfp : fp = true → fp' = true) (hfpn : fp = true → fpn' = false) :
    NConn fp' fpn' 2 (cNotify k) := by
  obtain ⟨n, m, l, h, _, hsaw, hmiss⟩ := cNotify_eq k
  rw [h]
  have hc : m = true → k.srvClosed = true := fun hm => (hmiss hm).elim hn.missedIsClosed id
  exact ⟨fun ht hr => hfp (hn.drainAfterPoll ht hr), fun _ => hsaw,
    fun hm ht => hfpn (hn.drainAfterPoll ht (.inr (hK (hc hm)))), fun _ _ => rfl, hc⟩

theorem ninv_step {cfg : Cfg} (hci : cfg.ci = .kickOnly) (hdt : cfg.drainFirstTick = true) {s s' : State}
    {a : Action} (hI : GInv cfg s) (hN : NInv s) (h : GStep cfg s a s') : NInv s' := by
  have hK : ∀ (c : Nat) (k : Conn), s.conns[c]? = some k → k.srvClosed = true → k.rpc = .closed :=
    fun c k hk => (hI.conns c k hk).ownClose hci
  -- a first `CloseIdles` call that had sent the close message has not happened yet when it is sent
  have hnf : s.listenClosed = 1 → s.firstPoll = true → s.fpNotified = false :=
    fun hl a => Bool.eq_false_iff.mpr fun b => by have := hN.fpSent a b; omega
  cases h with
  | pTake | shutdownCall | setClosed | onShutdownRet | ctxExpire | pStop | ciGone | ciBusy | ciHold | ciEnd =>
    exact ⟨hN.fpSent, hN.leftAccept, hN.conns⟩
  | relCall | relRet => exact ⟨hN.fpSent, fun _ => nofun, hN.conns⟩
  | connect =>
    exact ⟨hN.fpSent, hN.leftAccept,
      forall_append hN.conns ⟨nofun, nofun, nofun, fun _ h => absurd rfl h, nofun⟩⟩
  | conn _ c k k' _ _ _ hk hs =>
    exact ⟨hN.fpSent, hN.leftAccept,
      forall_set hN.conns (hs.nconn hdt (hK c k hk) hN.leftAccept (hN.conns c k hk) :)⟩
  | acceptExit ha =>
    have hl0 : s.listenClosed = 0 := Decidable.byContradiction fun hl => hN.leftAccept hl ha
    refine ⟨fun a b => by have := hN.fpSent a b; omega, fun _ => ?_, fun c k hk => ?_⟩
    · show (if poolOn cfg then APc.afterLoop else APc.returned) ≠ .accepting
      split <;> nofun
    · have hn := hN.conns c k hk
      exact ⟨hn.drainAfterPoll, hn.sawCases, hn.missedLate, nofun, hn.missedIsClosed⟩
  | closeMsg hl =>
    exact ⟨fun _ _ => rfl, fun _ => hN.leftAccept (by rw [hl]; nofun), forall_map fun c k hk =>
      nconn_notify (hK c k hk) (hN.conns c k hk) id (hnf hl)⟩
  | ciNotify _ hl =>
    exact ⟨fun _ _ => rfl, fun _ => hN.leftAccept (by rw [hl]; nofun), forall_map fun c k hk =>
      nconn_notify (hK c k hk) (hN.conns c k hk) (fun _ => rfl) fun hfp => by
        simp only [hfp, if_true]; exact hnf hl hfp⟩
  | ciBegin =>
    refine ⟨fun _ (hb : (if s.firstPoll then s.fpNotified else s.listenClosed == 2) = true) => ?_, hN.leftAccept,
      fun c k hk => ?_⟩
    · cases hfp : s.firstPoll with
      | true => rw [hfp] at hb; exact hN.fpSent hfp hb
      | false => rw [hfp] at hb; exact of_decide_eq_true hb
    · have hn := hN.conns c k hk
      refine ⟨fun _ _ => rfl, hn.sawCases, fun hm ht => ?_, hn.sawAll, hn.missedIsClosed⟩
      have hfp := hn.drainAfterPoll ht (.inr (hK c k hk (hn.missedIsClosed hm)))
      simp only [hfp, if_true]
      exact hn.missedLate hm ht
  | ciCloseNow _ _ _ _ _ _ _ h => rw [hci] at h; cases h
  | ciClose _ p _ hp hh => rw [hI.noHold (by rw [hci]; nofun) p hp] at hh; cases hh

theorem ninv_reachable {cfg : Cfg} (hci : cfg.ci = .kickOnly) (hdt : cfg.drainFirstTick = true) {s : State}
    (hr : Reachable cfg s) : NInv s := by
  induction hr with
  | init => exact ⟨nofun, fun h => absurd rfl h, fun c k hk => by simp [init] at hk⟩
  | step a hr' hs ih => exact ninv_step hci hdt (ginv_reachable hr') ih (GStep.of_step hs)

end Tars.ServerConn
