import TarsModel.Proofs.ClientConn

/-! What holds of the client-connection LTS of C11 for both variants on every schedule: a write to a
connection the client already knew to be closed when the call was issued can only come from the
sender of an OLD connection (one that has been replaced by a `ReConnect`). -/
namespace Tars.ClientConn

def DeadOld (s : State) (m : Msg) : Prop := ∀ j ∈ m.dead, j + 1 < s.conns.length

/-- A connection the client has closed is an old one once the flag is cleared; a call that has not
passed `ReConnect` only remembers closed connections; a request past `ReConnect` — with the call,
queued, parked, held by a sender or written — only remembers old ones. -/
structure Inv0 (s : State) : Prop where
  knownOld : ∀ (k : Nat) (c : Conn), s.conns[k]? = some c → c.known = true →
    s.isClosed = true ∨ k + 1 < s.conns.length
  begun : ∀ m, (m, CallPc.begun) ∈ s.calls → DeadKnown s m
  later : ∀ m pc, (m, pc) ∈ s.calls → pc ≠ .begun → DeadOld s m
  onWay : OnWay (DeadOld s) s
  attemptsOld : ∀ m k, (m, k) ∈ s.attempts → DeadOld s m
  locked : s.unlockedDial = false

macro "inv0_case" h:ident : tactic => `(tactic|
  (simp only [step] at $h:ident
   repeat' (split at $h:ident)
   all_goals first
     | (cases $h:ident; done)
     | (cases $h:ident
        constructor
        all_goals simp only [setConn, closeConn, knownAt, Later, List.getElem?_set, List.length_set, isCur, afterDequeue]
        all_goals grind [Inv0, Later, knownAt, SPc.hand, isCur, afterDequeue])))

theorem Inv0.set {s : State} {k : Nat} {c c' : Conn} (hi : Inv0 s) (hc : s.conns[k]? = some c)
    (hk : c'.known = c.known) : ∀ j d, (s.conns.set k c')[j]? = some d → d.known = true →
      s.isClosed = true ∨ j + 1 < (s.conns.set k c').length := by
  rw [List.length_set]
  exact forall_set hi.knownOld fun h => hi.knownOld k c hc (hk ▸ h)

theorem Inv0.close {v : Variant} {s : State} {k : Nat} {c c' : Conn} (hi : Inv0 s) (hc : s.conns[k]? = some c) :
    ∀ j d, (closeConn v s k c').conns[j]? = some d → d.known = true →
      (closeConn v s k c').isClosed = true ∨ j + 1 < (closeConn v s k c').conns.length := by
  rw [closeConn_isClosed, closeConn_conns, List.length_set]
  refine forall_set (fun j d hd hdk => (hi.knownOld j d hd hdk).imp_left fun h => by simp [h]) fun _ => ?_
  by_cases h : isCur s k = true
  · exact .inl (by simp [h])
  · exact .inr (old_of_not_isCur hc h)

theorem inv0_step {v s s' a} (hi : Inv0 s) (h : Step v s a s') : Inv0 s' := by
  obtain ⟨hk, hlen⟩ := h.grows
  have old : ∀ {m}, DeadOld s m → DeadOld s' m := fun h j hj => Nat.lt_of_lt_of_le (h j hj) hlen
  have ho : OnWay (DeadOld s') s' :=
    (hi.onWay.step h fun _ m hf => hi.later m _ (findCall_mem hf) nofun).mono fun _ => old
  have hatt : ∀ m k, (m, k) ∈ s.attempts → DeadOld s' m := fun m k h => old (hi.attemptsOld m k h)
  have hbegun : ∀ m, (m, CallPc.begun) ∈ s.calls → DeadKnown s' m := fun m h => (hi.begun m h).mono hk
  have hlater : ∀ m pc, (m, pc) ∈ s.calls → pc ≠ .begun → DeadOld s' m :=
    fun m pc h hp => old (hi.later m pc h hp)
  have hsetB : ∀ {m pc}, pc ≠ .begun → ∀ x, (x, CallPc.begun) ∈ (setCall s m pc).calls →
      DeadKnown s' x := by
    intro m pc hp x hx
    rcases mem_setCall hx with ⟨_, h⟩ | hx
    · exact absurd h.symm hp
    · exact hbegun x hx
  have hsetL : ∀ {m pc}, DeadOld s' m → ∀ x pc', (x, pc') ∈ (setCall s m pc).calls → pc' ≠ .begun →
      DeadOld s' x := by
    intro m pc hm x pc' hx hp
    rcases mem_setCall hx with ⟨rfl, _⟩ | hx
    · exact hm
    · exact hlater x pc' hx hp
  cases h with
  | callBegin =>
    refine ⟨hi.knownOld, fun x hx => ?_, fun x pc hx hp => ?_, ho, hatt, hi.locked⟩
    · rcases List.mem_append.mp hx with hx | hx
      · exact hbegun x hx
      · cases List.mem_singleton.mp hx; exact (deadKnown_new s _).mono hk
    · rcases List.mem_append.mp hx with hx | hx
      · exact hlater x pc hx hp
      · cases List.mem_singleton.mp hx; exact absurd rfl hp
  | dial hf =>
    -- a new connection is dialled: every earlier connection becomes an old one
    refine ⟨?_, hsetB nofun, hsetL fun j hj => ?_, ho, hatt, hi.locked⟩
    · simp only [List.length_append, List.length_singleton]
      exact forall_append (fun j d hd _ => .inr (Nat.succ_lt_succ (lt_of_getElem? hd))) nofun
    · exact List.length_append ▸ Nat.succ_lt_succ (knownAt_lt (hi.begun _ (findCall_mem hf) j hj))
  | noDial hf hcl =>
    -- the flag is not set: everything the call knew to be closed is already old
    refine ⟨hi.knownOld, hsetB nofun, hsetL fun j hj => ?_, ho, hatt, hi.locked⟩
    obtain ⟨c, hc, hck⟩ := knownAt_iff.mp (hi.begun _ (findCall_mem hf) j hj)
    exact (hi.knownOld j c hc hck).resolve_left hcl
  | markReconnected hf | callEnq hf =>
    exact ⟨hi.knownOld, hsetB nofun, hsetL (hlater _ _ (findCall_mem hf) nofun), ho, hatt, hi.locked⟩
  | callFail | callRet =>
    exact ⟨hi.knownOld, fun x hx => hbegun x (mem_dropCall hx), fun x pc hx => hlater x pc (mem_dropCall hx),
      ho, hatt, hi.locked⟩
  | obsAccept | obsRecv => exact ⟨hi.knownOld, hbegun, hlater, ho, hatt, hi.locked⟩
  | conn hc h =>
    have hatt' : ∀ m j, (m, j) ∈ s'.attempts → DeadOld s' m :=
      h.attempts hatt fun m hs => old (hi.onWay.at hc hs)
    cases h with
    | rClose | sIdleClose | sFailClose => exact ⟨hi.close hc, hbegun, hlater, ho, hatt', hi.locked⟩
    | _ => exact ⟨hi.set hc rfl, hbegun, hlater, ho, hatt', hi.locked⟩

theorem inv0_start (b : Bool) : Inv0 { idleOK := b } :=
  ⟨fun _ _ h => (nomatch h), nofun, nofun, ⟨nofun, nofun, fun _ _ h => (nomatch h)⟩, nofun, rfl⟩

theorem inv0_reachable {v cap s} (h : Reachable v cap s) : Inv0 s := by
  induction h with
  | init => exact inv0_start true
  | initNoIdle => exact inv0_start false
  | step a _ hs ih => exact inv0_step ih (.of_step ih.locked hs)

end Tars.ClientConn
