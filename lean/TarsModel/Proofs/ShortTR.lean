import TarsModel.Proofs.WireCut
import TarsModel.Proofs.SchemaTop

/-!
  C06, member level: what the generated read of ONE member does on a proper prefix of the member's
  field (`CutRes`, `TR`).  Every member read is `SkipToNoCheck` plus a switch on the wire type
  (`decVar_eq_readWith`); the analysis of the head is the same for every kind (`cut_front`).
-/
namespace Tars
open Consts

theorem decVar_no_head (env : Env) (F : Nat) (ty : Ty) (old : Val) (hok : Evolve.targetOk env ty old = true)
    {r : Reader} {q : Bytes} (tag : Nat) (req : Bool) (h : r.rest = q) (hq : q = [] ∨ HalfHead q) :
    ∃ r', r'.rest = [] ∧ decVar env (F+1) tag req ty old r =
      if req then (.error .require, r') else (.ok (Evolve.absentVal env F ty old), r') := by
  obtain ⟨r', hrest, hs⟩ := skipToNoCheck_no_head tag req h hq
  refine ⟨r', hrest, ?_⟩
  rw [decVar_eq_readWith env F ty old hok]; unfold readWith; rw [hs]
  cases req <;> rfl

/-- what the generated read of one member may do on a proper prefix `q` of the member's field (the
    input ends behind `q`): report an error, or — only for an optional member, and only when not
    even the head is complete (`q` empty or the first byte of a two-byte head) — treat the member
    as absent and leave the input exhausted -/
def CutRes (env : Env) (fuel tag : Nat) (req : Bool) (ty : Ty) (old : Val) (r : Reader) (q : Bytes) : Prop :=
  (∃ e r', decVar env fuel tag req ty old r = (.error e, r')) ∨
  (req = false ∧ (q = [] ∨ HalfHead q) ∧
    ∃ r', decVar env fuel tag req ty old r = (.ok (Evolve.absentVal env (fuel - 1) ty old), r') ∧
      r'.rest = [])

/-- the statement about a truncated read of one member/element holding `v` (counterpart of the
    round trip `RT`).  Fuel: `env.width + 3` units per byte left are enough for every call depth
    the remaining input can cause (`fuelOK_all`, as for `decFuel`); the loops above a member add
    their own `+ 1` / `+ 2` / `+ fs.length` for the calls that consume no input -/
def TR (env : Env) (rk : String → Nat) (v : Val) : Prop :=
  ∀ (fuel tag : Nat) (req : Bool) (ty : Ty) (dflt : Option Val) (old : Val) (r : Reader) (q : Bytes),
    tag < 256 → TyOK env rk (env.length + 1) ty → DfltOK ty dflt → WT env ty v →
    OldOK env ty dflt old → Cut q (encVar env tag req ty dflt v) →
    (env.width + 3) * q.length + 1 ≤ fuel → r.rest = q →
    CutRes env fuel tag req ty old r q

theorem cutRes_req_error {env : Env} {fuel tag : Nat} {ty : Ty} {old : Val} {r : Reader} {q : Bytes}
    (h : CutRes env fuel tag true ty old r q) :
    ∃ e r', decVar env fuel tag true ty old r = (.error e, r') := by
  rcases h with h | ⟨h, _⟩
  · exact h
  · cases h

/-- the part of the cut analysis that is the same for every member kind: nothing, or only half of
    the head is there; otherwise the member runs its body behind the head (`decVar_hit`) and the
    kind-specific argument `hbody` about that body applies -/
theorem cut_front {env : Env} {F tag : Nat} {req : Bool} {ty : Ty} {old : Val} {r : Reader}
    {q : Bytes} {hty : Nat} {rest : Bytes} (h16 : hty < 16) (hne : hty ≠ tyStructEnd) (htag : tag < 256)
    (hcut : Cut q (writeHead hty tag ++ rest)) (hr : r.rest = q)
    {dflt : Option Val} (hd : DfltOK ty dflt) (ho : OldOK env ty dflt old)
    (hbody : ∀ (q1 : Bytes) (r1 : Reader), q = writeHead hty tag ++ q1 → Cut q1 rest → r1.rest = q1 →
      ∃ e r', memberBody env F ty old hty r1 = (.error e, r')) :
    CutRes env (F+1) tag req ty old r q := by
  have hok := targetOk_of_oldOK hd ho
  rcases hcut.append with hhead | ⟨q1, rfl, hq1⟩
  · have hq := halfHead_of_cut h16 hhead
    obtain ⟨r', hrest, hdec⟩ := decVar_no_head env F ty old hok tag req hr hq
    cases req with
    | true => exact .inl ⟨_, r', hdec⟩
    | false => exact .inr ⟨rfl, hq, r', hdec, hrest⟩
  · left
    rw [decVar_hit env F ty old hok r hty tag req q1 h16 hne htag hr]
    exact hbody q1 _ rfl hq1 (r.rest_adv hr)

/-! ### a length prefix cut short -/

theorem len_then_check {r : Reader} {n : Nat} {q1 body : Bytes} (hn : n < 2 ^ 31)
    (hq1 : Cut q1 (writeInt32 (wrapS 32 n) 0 ++ body)) (hr : r.rest = q1) :
    (∃ e r', readLen r = (.error e, r')) ∨
    ∃ q2 r2, q1 = writeInt32 (wrapS 32 n) 0 ++ q2 ∧ Cut q2 body ∧ readLen r = (.ok (n : Int), r2) ∧
      r2.rest = q2 ∧
      checkLength (n : Int) r2 = if n ≤ q2.length then (.ok (), r2) else (.error .eof, r2) := by
  rcases cut_seq (readLen_reads hn) (readLen_fails hn) hr hq1 with h | ⟨q2, rfl, hl, hr2, hq2⟩
  · exact .inl h
  · exact .inr ⟨q2, _, rfl, hq2, hl, hr2, by rw [checkLength_eq, hr2]⟩

/-- the fuel bound of `TR`, behind a head and a count: both are at least one byte long, which pays
    for the `+ 2` of the element loops -/
theorem fuel_behind_len {env : Env} {ty tag : Nat} {x : Int} {q2 : Bytes} {F : Nat}
    (h : (env.width + 3) * (writeHead ty tag ++ (writeInt32 x 0 ++ q2)).length + 1 ≤ F + 1) :
    (env.width + 3) * q2.length + 2 ≤ F := by
  have h1 := writeHead_length_pos ty tag
  have h2 := (writeInt32_headAt x 0).length_pos
  have hK : (env.width + 3) * (q2.length + 2)
      ≤ (env.width + 3) * (writeHead ty tag ++ (writeInt32 x 0 ++ q2)).length :=
    Nat.mul_le_mul_left _ (by simp only [List.length_append]; omega)
  rw [Nat.mul_add] at hK
  omega

end Tars
