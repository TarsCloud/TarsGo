/-
  `analysisPath` on the path strings `/n1/…/nk` and `/n1/…/nk<key>`.
-/
import TarsModel.Proofs.ConfBasic

namespace Tars.Conf
open Tars

theorem split_noSep (sep : Byte) (a rest cur : Txt) (acc : List Txt) (h : sep ∉ a) :
    splitInitLast sep (a ++ rest) cur acc = splitInitLast sep rest (a.reverse ++ cur) acc := by
  induction a generalizing cur with
  | nil => rfl
  | cons c a ih =>
    rw [List.cons_append, splitInitLast, if_neg (List.ne_of_not_mem_cons h).symm, ih _ (List.not_mem_of_not_mem_cons h),
      List.reverse_cons, List.append_assoc]
    rfl

theorem split_end (sep : Byte) (a cur : Txt) (acc : List Txt) (h : sep ∉ a) :
    splitInitLast sep a cur acc = (acc.reverse, cur.reverse ++ a) := by
  have := split_noSep sep a [] cur acc h
  rw [List.append_nil] at this
  rw [this, splitInitLast, List.reverse_append, List.reverse_reverse]

theorem split_domPath (p : List Txt) (z cur : Txt) (acc : List Txt)
    (hp : ∀ n ∈ p, slashCh ∉ n) (hz : slashCh ∉ z) :
    ∃ init last, init ++ [last] = cur.reverse :: p ∧
      splitInitLast slashCh (domPath p ++ z) cur acc = (acc.reverse ++ init, last ++ z) := by
  induction p generalizing cur acc with
  | nil => exact ⟨[], cur.reverse, rfl, by rw [List.append_nil]; exact split_end slashCh z cur acc hz⟩
  | cons n p ih =>
    obtain ⟨init, last, hi, hs⟩ := ih n.reverse (cur.reverse :: acc) fun x hx => hp x (List.mem_cons_of_mem _ hx)
    refine ⟨cur.reverse :: init, last, by rw [List.cons_append, hi, List.reverse_reverse], ?_⟩
    rw [domPath, List.append_assoc, List.cons_append, splitInitLast, if_pos rfl,
      split_noSep _ _ _ _ _ (hp n List.mem_cons_self), List.append_nil, hs, List.reverse_cons, List.append_assoc]
    rfl

theorem pathName_spec (n : Txt) (h : pathName n = true) : n ≠ [] ∧ slashCh ∉ n ∧ ltCh ∉ n := by
  simp only [pathName, Bool.and_eq_true] at h
  exact ⟨fun e => (by rw [e] at h; exact nomatch h.1.1), not_contains h.1.2, not_contains h.2⟩

theorem filter_nonempty (q : List Txt) (h : ∀ n ∈ q, n ≠ []) :
    (([] : Txt) :: q).filter (fun item => !item.isEmpty) = q := by
  rw [List.filter_cons_of_neg (by simp), List.filter_eq_self]
  intro n hn
  cases n with
  | nil => exact absurd rfl (h _ hn)
  | cons _ _ => rfl

theorem split_names (p : List Txt) (z : Txt) (hp : ∀ n ∈ p, pathName n = true) (hz : slashCh ∉ z) :
    ∃ init last, init ++ [last] = [] :: p ∧ ltCh ∉ last ∧
      splitInitLast slashCh (domPath p ++ z) [] [] = (init, last ++ z) := by
  obtain ⟨init, last, hi, hs⟩ := split_domPath p z [] [] (fun n hn => (pathName_spec n (hp n hn)).2.1) hz
  refine ⟨init, last, hi, ?_, hs⟩
  have : last ∈ ([] : Txt) :: p := hi ▸ List.mem_append_right _ List.mem_cons_self
  rcases List.mem_cons.mp this with h | h
  · rw [h]; exact List.not_mem_nil
  · exact (pathName_spec _ (hp _ h)).2.2

theorem analysisPath_domPath (p : List Txt) (hp : ∀ n ∈ p, pathName n = true) :
    analysisPath (domPath p) = p := by
  obtain ⟨init, last, hi, hl, h1⟩ := split_names p [] hp List.not_mem_nil
  rw [List.append_nil, List.append_nil] at h1
  have h2 := split_end ltCh last [] [] hl
  unfold analysisPath
  simp only [h1, h2, List.reverse_nil, List.nil_append, hi]
  exact filter_nonempty p fun n hn => (pathName_spec n (hp n hn)).1

theorem analysisPath_keyPath (p : List Txt) (k : Txt) (hp : ∀ n ∈ p, pathName n = true) (hk : pathKey k = true) :
    analysisPath (keyPath p k) = p ++ [k] := by
  rw [pathKey, Bool.and_eq_true] at hk
  obtain ⟨hkne, hks, hkl⟩ := pathName_spec k hk.1
  have hz : slashCh ∉ ltCh :: (k ++ [gtCh]) := by
    rw [List.mem_cons, List.mem_append, List.mem_singleton]
    exact fun h => h.elim (by decide) fun h => h.elim hks (by decide)
  obtain ⟨init, last, hi, hl, h1⟩ := split_names p _ hp hz
  have h2 : splitInitLast ltCh (last ++ ltCh :: (k ++ [gtCh])) [] [] = ([last], k ++ [gtCh]) := by
    have hk2 : ltCh ∉ k ++ [gtCh] := by
      rw [List.mem_append, List.mem_singleton]
      exact fun h => h.elim hkl (by decide)
    rw [split_noSep _ _ _ _ _ hl, splitInitLast, if_pos rfl, split_end _ _ _ _ hk2, List.append_nil,
      List.reverse_reverse]
    rfl
  have h3 : trim [gtCh] (k ++ [gtCh]) = k :=
    trim_core' [gtCh] [] k [gtCh] (allIn_nil _) (fun b hb => by rw [List.mem_singleton.mp hb]; decide) hk.2
  have ek : keyPath p k = domPath p ++ ltCh :: (k ++ [gtCh]) := List.append_assoc _ _ _
  rw [ek]
  unfold analysisPath
  simp only [h1, h2, h3]
  rw [show init ++ [last, k] = init ++ [last] ++ [k] by simp, hi]
  apply filter_nonempty
  intro n hn
  rcases List.mem_append.mp hn with h | h
  · exact (pathName_spec n (hp n h)).1
  · exact List.mem_singleton.mp h ▸ hkne

end Tars.Conf
