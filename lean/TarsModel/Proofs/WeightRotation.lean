/-
  With equal static weights the cycle built by `BuildStaticWeightList` is a strict rotation — provided
  the tie-break key (`Endpoint.String()`) is injective on the list, i.e. the comparator of `sort.Slice`
  is a total order on the slots.
-/
import TarsModel.Proofs.WeightBuild
import Mathlib.Data.List.Rotate

namespace Tars.Sel

theorem sortDesc_unique {l S : List Slot} (hk : (l.map (·.key)).Nodup) (hp : S.Perm l)
    (hS : S.Pairwise fun a b => slotLe b a = true) : sortDesc l = S := by
  refine List.Perm.eq_of_pairwise (le := fun a b => slotLe b a = true) (fun a b ha hb h1 h2 => ?_)
    (sortDesc_pairwise l) hS ((sortDesc_perm l).trans hp.symm)
  rw [slotLe_iff] at h1 h2
  refine Keyed.eq_of_key_eq hk ((sortDesc_perm l).mem_iff.1 ha) (hp.mem_iff.1 hb) ?_
  rcases h1 with h1 | ⟨_, h1⟩ <;> rcases h2 with h2 | ⟨_, h2⟩
  · omega
  · omega
  · omega
  · exact List.le_antisymm h2 h1

/-- the order looks at the difference of the running weights only -/
theorem slotLe_congr {a b a' b' : Slot} (h : slotLe a b = true) (hc : a'.cur - b'.cur = a.cur - b.cur)
    (ha : a'.key = a.key) (hb : b'.key = b.key) : slotLe a' b' = true := by
  rw [slotLe_iff, ha, hb]
  exact ((slotLe_iff a b).1 h).imp (by omega) (And.imp_left (by omega))

/-! ### the rotation invariant of the loop -/

/-- what the loop picks in its `j`-th iteration when it serves `σ` in rotation -/
def pickAt (σ : List Nat) (j : Nat) : Nat := (σ[j % σ.length]?).getD 0

/-- lowered by `t`, slot `a` is not above `b` -/
def Within (t : Int) (a b : Slot) : Prop := slotLe { a with cur := a.cur - t } b = true

/-- One weight `c`, distinct keys, and in the sorted order every slot is within `t` of every later one.
Then the head, once lowered by `t`, belongs behind all the others (they were within `t` of it), and the
others are within `t` of it there (they were not above it): an iteration moves the head to the end. -/
structure RotInv (t c : Int) (l : List Slot) : Prop where
  hw : ∀ s ∈ l, s.w = c
  hk : (l.map (·.key)).Nodup
  near : (sortDesc l).Pairwise (Within t)

theorem RotInv.step {t c : Int} {l : List Slot} (inv : RotInv t c l) {p : Slot} {rest : List Slot}
    (hsort : sortDesc l = p :: rest) :
    sortDesc (roundStep t p rest) = rest.map bump ++ [{ p with cur := p.cur - t + p.w }] ∧
      RotInv t c (roundStep t p rest) := by
  have hpl : (p :: rest).Perm l := hsort ▸ sortDesc_perm l
  obtain ⟨hwp, hwr⟩ := List.forall_mem_cons.1 fun s hs => inv.hw s (hpl.mem_iff.1 hs)
  obtain ⟨hp, hr⟩ := List.pairwise_cons.1 (hsort ▸ (sortDesc_pairwise l).and inv.near)
  have hk : ((roundStep t p rest).map (·.key)).Nodup := by
    rw [roundStep, List.map_cons, map_key_bump]; exact (hpl.map _).nodup_iff.2 inv.hk
  -- everybody but the head moves up by the same `c`: the four facts are `slotLe_congr`
  have hnew : (rest.map bump ++ [{ p with cur := p.cur - t + p.w }]).Pairwise
      fun a b => slotLe b a = true ∧ Within t a b := by
    refine List.pairwise_append.2 ⟨List.pairwise_map.2 (hr.imp_of_mem fun ha hb h => ?_),
      List.pairwise_singleton _ _, fun a ha b hb => ?_⟩
    · have := hwr _ ha; have := hwr _ hb
      exact ⟨slotLe_congr h.1 (by dsimp only [bump]; omega) rfl rfl,
        slotLe_congr h.2 (by dsimp only [bump]; omega) rfl rfl⟩
    · obtain ⟨q, hq, rfl⟩ := List.mem_map.1 ha
      obtain rfl := List.mem_singleton.1 hb
      have := hwr q hq
      exact ⟨slotLe_congr (hp q hq).2 (by dsimp only [bump]; omega) rfl rfl,
        slotLe_congr (hp q hq).1 (by dsimp only [bump]; omega) rfl rfl⟩
  have hS := sortDesc_unique hk List.perm_append_comm (hnew.imp And.left)
  refine ⟨hS, fun s hs => ?_, hk, hS ▸ hnew.imp And.right⟩
  rcases List.mem_cons.1 hs with rfl | hs
  · exact hwp
  · obtain ⟨q, hq, rfl⟩ := List.mem_map.1 hs; exact hwr q hq

theorem RotInv.rounds_eq {t c : Int} {l : List Slot} (inv : RotInv t c l) (hl : l ≠ []) (n : Nat) :
    (rounds t n l []).reverse = (List.range n).map (pickAt ((sortDesc l).map (·.idx))) := by
  generalize hσ : (sortDesc l).map (·.idx) = σ
  obtain ⟨_, _, _, h⟩ := rounds_invariant (t := t)
    (I := fun l acc => RotInv t c l ∧ (sortDesc l).map (·.idx) = σ.rotate acc.length ∧
      acc.reverse = (List.range acc.length).map (pickAt σ))
    (fun l acc p rest ⟨inv, hrot, hacc⟩ hsort => by
      obtain ⟨hS, inv'⟩ := inv.step hsort
      rw [hsort, List.map_cons] at hrot
      -- the head of `σ.rotate k` is `σ[k mod N]`
      have hpos : 0 < σ.length := by
        rw [← List.length_rotate (l := σ) (n := acc.length), ← hrot]; exact Nat.succ_pos _
      have hpick : p.idx = pickAt σ acc.length := by
        have := List.getElem?_rotate (l := σ) (n := acc.length) hpos
        rw [← hrot, Nat.zero_add] at this
        rw [pickAt, ← this]; rfl
      refine ⟨inv', ?_, ?_⟩
      · rw [hS, List.map_append, map_idx_bump, List.length_cons, ← List.rotate_rotate, ← hrot,
          List.rotate_cons_succ, List.rotate_zero]
        rfl
      · rw [List.length_cons, List.range_succ, List.map_append, List.reverse_cons, hacc, hpick]
        rfl)
    n l [] ⟨inv, hσ.trans (List.rotate_zero σ).symm, rfl⟩
  rwa [rounds_length n hl] at h

/-! ### equal weights -/

theorem sumW_const {l : List Slot} {c : Int} (h : ∀ s ∈ l, s.w = c) : sumW l = c * l.length := by
  rw [sumW_eq, List.map_congr_left h, sum_map_const]

theorem split_all_pos {r mx : Int} {es : List Ep} (b : Nat) (h : ∀ e ∈ es, 0 < scaled r mx e.weight) :
    split r mx es b = ([], (es.zipIdx b).map fun p => slotOf r mx p.1 p.2) := by
  have hall : ∀ p ∈ es.zipIdx b, hasSlot r mx p = true := fun p hp =>
    decide_eq_true (h p.1 (List.zipIdx_map_fst b es ▸ List.mem_map_of_mem hp))
  rw [split_eq, List.filter_eq_self.2 hall, List.filter_eq_nil_iff.2 fun p hp => by simp [hall p hp]]
  rfl

theorem build_equal (v : Variant) {eps : List Ep} {W : Int} (hne : eps ≠ []) (hst : AllStatic eps)
    (hW : ∀ e ∈ eps, e.weight = W) (hpos : 0 < W) (h32 : W ≤ maxInt32)
    (hkeys : (eps.map Ep.str).Nodup) :
    ∃ cap σ, buildStaticWeightList v eps
        = .ok cap ((List.range (10 * eps.length)).map (pickAt σ)) ∧
      σ.Perm (List.range eps.length) := by
  have hb := build_const_eq v hne hst hW hpos h32
  have hsc : ∀ e ∈ eps, scaled 10 W e.weight = 10 := by
    intro e he
    rw [hW e he, scaled_pos_eq (by omega) (by omega), Int.mul_ediv_cancel_left _ (by omega)]
  -- every endpoint gets a slot of weight 10
  generalize hslots : ((eps.zipIdx 0).map fun p => slotOf 10 W p.1 p.2) = slots
  have hsp : split 10 W eps 0 = ([], slots) :=
    hslots ▸ split_all_pos 0 fun e he => by rw [hsc e he]; omega
  have hslot : ∀ s ∈ slots, s.cur = 10 ∧ s.w = 10 := by
    intro s hs
    obtain ⟨e, _, he, _, rfl⟩ := mem_split_slots.1 (show s ∈ (split 10 W eps 0).2 by rw [hsp]; exact hs)
    have := hsc e (List.zipIdx_map_fst 0 eps ▸ List.mem_map_of_mem (f := Prod.fst) he)
    exact ⟨this, this⟩
  have hidx : slots.map (·.idx) = List.range eps.length := by
    rw [← hslots, List.map_map, List.range_eq_range', ← List.zipIdx_map_snd 0 eps]; rfl
  have hkey : slots.map (·.key) = eps.map Ep.str := by
    rw [← hslots, List.map_map, ← List.zipIdx_map_fst 0 eps, List.map_map, List.zipIdx_map_fst]; rfl
  have hslen : slots.length = eps.length := by rw [← List.length_map (f := (·.idx)), hidx, List.length_range]
  have hlen : 0 < eps.length := List.length_pos_iff.2 hne
  have hT : sumW slots = 10 * (eps.length : Int) := by
    rw [sumW_const fun s hs => (hslot s hs).2, hslen]
  have hA0p := sortDesc_perm slots
  have hsne : slots ≠ [] := fun e => by rw [e, List.length_nil] at hslen; omega
  have hTpos : 0 < sumW slots := by rw [hT]; omega
  -- initially all running weights are equal, and `0 < t`
  have inv0 : RotInv (sumW slots) 10 slots :=
    ⟨fun s hs => (hslot s hs).2, hkey ▸ hkeys, List.pairwise_of_forall_mem_list fun a ha b hb => by
      have := (hslot a (hA0p.mem_iff.1 ha)).1
      have := (hslot b (hA0p.mem_iff.1 hb)).1
      exact (slotLe_iff _ _).2 (Or.inl (by dsimp only; omega))⟩
  refine ⟨_, (sortDesc slots).map (·.idx), hb.trans (congrArg _ ?_), ?_⟩
  · rw [weightList, hsp, List.nil_append, Int.zero_add, inv0.rounds_eq hsne, hT]
    rfl
  · rw [← hidx]
    exact hA0p.map _

end Tars.Sel
