/-
  The `strings.Fields` model on blank-separated words.  `fields` always agrees with its
  `unicode.IsSpace` path (`fields_eq_unicode`), so the work is done once, on `fieldsUniAux`, for words of
  arbitrary bytes (non-ASCII, malformed UTF-8 included).  A word is what `strings.Fields` itself returns
  as its own single field (`FieldTok`); main result `fields_pairs`: blank-separated words are exactly
  the fields.
-/
import TarsModel.Model.Endpoint

namespace Tars.Endpoint
open Tars

def Blank (s : Bytes) : Prop := ∀ b ∈ s, isAsciiSpace b = true

/-- a non-empty ASCII string without blank space; every such string is a `FieldTok` (`Tok.fieldTok`) -/
def Tok (t : Bytes) : Prop := t ≠ [] ∧ ∀ b ∈ t, isAsciiSpace b = false ∧ b.val < 128

theorem isAsciiSpace_lt {b : Byte} (h : isAsciiSpace b = true) : b.val < 128 := by
  unfold isAsciiSpace at h
  simp only [Bool.or_eq_true, Bool.and_eq_true, decide_eq_true_eq] at h
  omega

theorem Blank.nil : Blank [] := fun _ hb => nomatch hb

theorem Blank.cons_iff {c : Byte} {s : Bytes} : Blank (c :: s) ↔ isAsciiSpace c = true ∧ Blank s :=
  List.forall_mem_cons

theorem Blank.cons (c : Byte) (s : Bytes) (hc : isAsciiSpace c = true) (hs : Blank s) : Blank (c :: s) :=
  Blank.cons_iff.mpr ⟨hc, hs⟩

theorem Tok.single (c : Byte) (h : isAsciiSpace c = false ∧ c.val < 128) : Tok [c] :=
  ⟨List.cons_ne_nil c [], List.forall_mem_cons.mpr ⟨h, fun _ hb => nomatch hb⟩⟩

theorem Tok.cons (c : Byte) (t : Bytes) (h : isAsciiSpace c = false ∧ c.val < 128) (ht : Tok t) : Tok (c :: t) :=
  ⟨List.cons_ne_nil c t, List.forall_mem_cons.mpr ⟨h, ht.2⟩⟩

theorem Tok.append {a b : Bytes} (ha : Tok a) (hb : Tok b) : Tok (a ++ b) :=
  ⟨by simp [ha.1], fun x hx => (List.mem_append.mp hx).elim (ha.2 x) (hb.2 x)⟩

/-! ## the decoder -/

theorem decodeRune_ascii (b : Byte) (rest : Bytes) (h : b.val < 128) : decodeRune b rest = (b.val, 0) := by
  unfold decodeRune; simp [h]

theorem isSpaceRune_ascii (b : Byte) (h : b.val < 128) : isSpaceRune b.val = isAsciiSpace b := by
  have e : ∀ n, 128 ≤ n → (b.val = n) = False := fun n hn => eq_false (by omega)
  have e' : (8192 ≤ b.val) = False := eq_false (by omega)
  simp only [isSpaceRune, isAsciiSpace, e, e', Nat.reduceLeDiff, decide_false, Bool.or_false, Bool.false_and]

/-- what may follow a word: nothing, or something that starts with an ASCII byte -/
def AsciiStart (r : Bytes) : Prop := ∀ b ∈ r.head?, b.val < 128

/-- The decoder never looks past an ASCII byte.  Either `rest` holds the three bytes the decoder may
    look at, or the ASCII byte stands where a continuation byte is wanted and both sides fail. -/
theorem decodeRune_append (c : Byte) (rest r : Bytes) (hr : AsciiStart r) :
    decodeRune c (rest ++ r) = decodeRune c rest := by
  cases r with
  | nil => rw [List.append_nil]
  | cons b r =>
    have hb : b.val < 128 := hr b rfl
    have nb : isCont b = false := by
      unfold isCont; simp only [Bool.and_eq_false_iff, decide_eq_false_iff_not]; omega
    have nlo : ∀ {p : Prop} [Decidable p] {m n : Nat}, 128 ≤ m → 128 ≤ n → ¬ (if p then m else n) ≤ b.val := by
      intro p _ m n hm hn; split <;> omega
    rcases rest with _ | ⟨b1, _ | ⟨b2, _ | ⟨b3, t⟩⟩⟩
    · rcases r with _ | ⟨b2, _ | ⟨b3, r⟩⟩ <;> simp [decodeRune, nb, nlo]
    · rcases r with _ | ⟨b3, r⟩ <;> simp [decodeRune, nb]
    · simp [decodeRune, nb]
    · rfl

theorem ite_le_iff {p : Prop} [Decidable p] {a b n : Nat} :
    (if p then a else b) ≤ n ↔ (p → a ≤ n) ∧ (¬ p → b ≤ n) := by
  split <;> simp [*]

theorem decodeRune_width (c : Byte) (rest : Bytes) : (decodeRune c rest).2 ≤ rest.length := by
  rcases rest with _ | ⟨b1, _ | ⟨b2, _ | ⟨b3, t⟩⟩⟩ <;>
    simp only [decodeRune, apply_ite Prod.snd, ite_le_iff, List.length_cons, Nat.zero_le, Nat.le_add_left,
      implies_true, and_self]

/-! ## one step of the splitting loop -/

theorem fieldsUniAux_nil (cur : Bytes) : fieldsUniAux [] cur = if cur = [] then [] else [cur] := by
  rw [fieldsUniAux.eq_def]

theorem fieldsUniAux_cons (b : Byte) (rest cur : Bytes) :
    fieldsUniAux (b :: rest) cur =
      if isSpaceRune (decodeRune b rest).1 then
        (if cur = [] then fieldsUniAux (rest.drop (decodeRune b rest).2) []
         else cur :: fieldsUniAux (rest.drop (decodeRune b rest).2) [])
      else fieldsUniAux (rest.drop (decodeRune b rest).2) (cur ++ b :: rest.take (decodeRune b rest).2) := by
  conv => lhs; rw [fieldsUniAux.eq_def]

theorem fieldsUniAux_ascii (b : Byte) (rest cur : Bytes) (h : b.val < 128) :
    fieldsUniAux (b :: rest) cur =
      if isAsciiSpace b then (if cur = [] then fieldsUniAux rest [] else cur :: fieldsUniAux rest [])
      else fieldsUniAux rest (cur ++ [b]) := by
  rw [fieldsUniAux_cons, decodeRune_ascii b rest h, isSpaceRune_ascii b h]
  rfl

theorem fieldsAux_eq_uni (s cur : Bytes) (h : allAscii s = true) : fieldsAux s cur = fieldsUniAux s cur := by
  induction s generalizing cur with
  | nil => rw [fieldsUniAux_nil]; rfl
  | cons b s ih =>
    rw [allAscii, List.all_cons, Bool.and_eq_true, decide_eq_true_eq] at h
    rw [fieldsUniAux_ascii b s cur h.1, fieldsAux, ih _ h.2, ih _ h.2]

theorem fields_eq_unicode (s : Bytes) : fields s = fieldsUnicode s := by
  unfold fields
  split
  · exact fieldsAux_eq_uni s [] ‹_›
  · rfl

/-! ## words -/

/-- a host / bind value: any byte string — ASCII or not, valid UTF-8 or not — that `strings.Fields`
    itself returns as its own single field, i.e. that is non-empty and contains no blank space in
    Go's sense (`unicode.IsSpace` on the runes Go decodes): the values that can be written as one
    word.  (The empty value, which only the `-h=` spelling could express, is not included.) -/
def FieldTok (t : Bytes) : Prop := fields t = [t]

theorem length_fieldsUniAux (s cur : Bytes) : (fieldsUniAux s cur).flatten.length ≤ cur.length + s.length := by
  fun_induction fieldsUniAux s cur <;>
    simp only [List.flatten_cons, List.flatten_nil, List.length_append, List.length_take, List.length_drop,
      List.length_cons, List.length_nil] at * <;> omega

/-- If the fields of `t`, with `cur0` already collected, are the single field `cur0 ++ t`, then `t` is
    collected as a whole whatever was collected before it and whatever follows: a white-space rune in `t`
    would have been dropped and the fields would be shorter; and the decoder, which found none with
    nothing behind `t`, reads the same runes with `r` behind it. -/
theorem fieldsUniAux_single (t cur0 : Bytes) (h : fieldsUniAux t cur0 = [cur0 ++ t]) (r cur : Bytes)
    (hr : AsciiStart r) : fieldsUniAux (t ++ r) cur = fieldsUniAux r (cur ++ t) := by
  fun_induction fieldsUniAux t cur0 generalizing cur with
  | case1 => rw [List.nil_append, List.append_nil]
  | case2 => rw [List.nil_append, List.append_nil]
  | case3 b rest rw _ _ =>
    have := length_fieldsUniAux (rest.drop rw.2) []
    rw [h] at this
    simp only [List.flatten_cons, List.flatten_nil, List.length_append, List.length_drop, List.length_cons,
      List.length_nil] at this
    omega
  | case4 cur0 b rest rw _ _ _ =>
    have := congrArg List.length (List.cons.inj h).1
    simp only [List.length_append, List.length_cons] at this
    omega
  | case5 cur0 b rest rw hsp ih =>
    have hw := decodeRune_width b rest
    rw [List.cons_append, fieldsUniAux_cons, decodeRune_append b rest r hr, if_neg hsp,
      List.drop_append_of_le_length hw, List.take_append_of_le_length hw,
      ih (by rw [h, List.append_assoc, List.cons_append, List.take_append_drop]), List.append_assoc,
      List.cons_append, List.take_append_drop]

theorem FieldTok.ne_nil {t : Bytes} (h : FieldTok t) : t ≠ [] := by
  rintro rfl; cases h

theorem fieldsUniAux_fieldTok (t r cur : Bytes) (ht : FieldTok t) (hr : AsciiStart r) :
    fieldsUniAux (t ++ r) cur = fieldsUniAux r (cur ++ t) :=
  fieldsUniAux_single t [] ((fields_eq_unicode t).symm.trans ht) r cur hr

theorem fieldsUniAux_tok (a r cur : Bytes) (ha : ∀ b ∈ a, isAsciiSpace b = false ∧ b.val < 128) :
    fieldsUniAux (a ++ r) cur = fieldsUniAux r (cur ++ a) := by
  induction a generalizing cur with
  | nil => rw [List.nil_append, List.append_nil]
  | cons b a ih =>
    obtain ⟨hb, ha⟩ := List.forall_mem_cons.mp ha
    rw [List.cons_append, fieldsUniAux_ascii _ _ _ hb.2, hb.1, if_neg Bool.false_ne_true, ih _ ha,
      List.append_assoc, List.singleton_append]

/-- an ASCII blank-free prefix keeps a word a word (`-h=` in front of a host) -/
theorem fieldTok_append (a t : Bytes) (ha : Tok a) (ht : t = [] ∨ FieldTok t) : FieldTok (a ++ t) := by
  rw [FieldTok, fields_eq_unicode, fieldsUnicode, fieldsUniAux_tok a t [] ha.2, List.nil_append]
  rcases ht with rfl | ht
  · rw [fieldsUniAux_nil, if_neg ha.1, List.append_nil]
  · have := fieldsUniAux_fieldTok t [] a ht (fun _ hb => nomatch hb)
    rw [List.append_nil] at this
    rw [this, fieldsUniAux_nil, if_neg (by simp [ha.1])]

theorem Tok.fieldTok {t : Bytes} (h : Tok t) : FieldTok t := by
  simpa using fieldTok_append t [] h (Or.inl rfl)

/-! ## blanks -/

theorem fieldsUniAux_blank_nil (s r : Bytes) (h : Blank s) : fieldsUniAux (s ++ r) [] = fieldsUniAux r [] := by
  induction s with
  | nil => rfl
  | cons b s ih =>
    obtain ⟨hb, hs⟩ := Blank.cons_iff.mp h
    rw [List.cons_append, fieldsUniAux_ascii _ _ _ (isAsciiSpace_lt hb), if_pos hb, if_pos rfl, ih hs]

theorem fieldsUniAux_blank (s r cur : Bytes) (h : Blank s) (hs : s ≠ []) (hc : cur ≠ []) :
    fieldsUniAux (s ++ r) cur = cur :: fieldsUniAux r [] := by
  cases s with
  | nil => exact absurd rfl hs
  | cons b s =>
    obtain ⟨hb, hs'⟩ := Blank.cons_iff.mp h
    rw [List.cons_append, fieldsUniAux_ascii _ _ _ (isAsciiSpace_lt hb), if_pos hb, if_neg hc,
      fieldsUniAux_blank_nil s r hs']

theorem fieldsUniAux_trail (trail cur : Bytes) (h : Blank trail) (hc : cur ≠ []) :
    fieldsUniAux trail cur = [cur] := by
  cases trail with
  | nil => rw [fieldsUniAux_nil, if_neg hc]
  | cons b s =>
    rw [← List.append_nil (b :: s), fieldsUniAux_blank _ _ _ h (List.cons_ne_nil b s) hc, fieldsUniAux_nil,
      if_pos rfl]

theorem Blank.asciiStart {s : Bytes} (h : Blank s) : AsciiStart s :=
  fun b hb => isAsciiSpace_lt (h b (List.mem_of_mem_head? hb))

theorem AsciiStart.append {s : Bytes} (h : AsciiStart s) (hne : s ≠ []) (r : Bytes) : AsciiStart (s ++ r) := by
  cases s with
  | nil => exact absurd rfl hne
  | cons b s => exact h

/-! ## blank-separated words -/

def Spaced (ps : List (Bytes × Bytes)) : Prop := ∀ p ∈ ps, Blank p.1 ∧ p.1 ≠ [] ∧ FieldTok p.2

theorem renderPairs_cons (p : Bytes × Bytes) (ps : List (Bytes × Bytes)) (trail : Bytes) :
    renderPairs (p :: ps) ++ trail = p.1 ++ (p.2 ++ (renderPairs ps ++ trail)) := by
  simp [renderPairs]

theorem renderPairs_asciiStart (ps : List (Bytes × Bytes)) (trail : Bytes) (hps : Spaced ps) (ht : Blank trail) :
    AsciiStart (renderPairs ps ++ trail) := by
  cases ps with
  | nil => exact ht.asciiStart
  | cons p ps =>
    obtain ⟨hb, hne, _⟩ := hps p List.mem_cons_self
    rw [renderPairs_cons]
    exact hb.asciiStart.append hne _

theorem fieldsUniAux_pairs (ps : List (Bytes × Bytes)) (trail cur : Bytes) (hps : Spaced ps) (ht : Blank trail)
    (hc : cur ≠ []) : fieldsUniAux (renderPairs ps ++ trail) cur = cur :: ps.map (·.2) := by
  induction ps generalizing cur with
  | nil => exact fieldsUniAux_trail trail cur ht hc
  | cons p ps ih =>
    obtain ⟨⟨hb, hne, htok⟩, hps'⟩ := List.forall_mem_cons.mp hps
    rw [renderPairs_cons, fieldsUniAux_blank _ _ _ hb hne hc,
      fieldsUniAux_fieldTok _ _ _ htok (renderPairs_asciiStart ps trail hps' ht), List.nil_append,
      ih p.2 hps' htok.ne_nil]
    rfl

theorem fields_pairs (first : Bytes) (ps : List (Bytes × Bytes)) (trail : Bytes) (hf : FieldTok first)
    (hps : Spaced ps) (ht : Blank trail) : fields (first ++ renderPairs ps ++ trail) = first :: ps.map (·.2) := by
  rw [fields_eq_unicode, fieldsUnicode, List.append_assoc,
    fieldsUniAux_fieldTok _ _ _ hf (renderPairs_asciiStart ps trail hps ht)]
  exact fieldsUniAux_pairs ps trail first hps ht hf.ne_nil

/-! ## a string that starts with a non-blank ASCII byte has a field -/

theorem fieldsUniAux_ne_nil (s cur : Bytes) (hc : cur ≠ []) : fieldsUniAux s cur ≠ [] := by
  fun_induction fieldsUniAux s cur with
  | case1 => exact absurd rfl hc
  | case2 => exact List.cons_ne_nil _ _
  | case3 => exact absurd rfl hc
  | case4 => exact List.cons_ne_nil _ _
  | case5 cur b rest rw _ ih => exact ih (by simp)

theorem fields_ne_nil (c : Byte) (r : Bytes) (hc : isAsciiSpace c = false ∧ c.val < 128) :
    fields (c :: r) ≠ [] := by
  rw [fields_eq_unicode, fieldsUnicode, fieldsUniAux_ascii c r [] hc.2, hc.1, if_neg Bool.false_ne_true]
  exact fieldsUniAux_ne_nil _ _ (List.cons_ne_nil c [])

end Tars.Endpoint
