/-
  The line scanner on rendered text; `procLine` on the lines of the grammar.
-/
import TarsModel.Proofs.ConfBasic

namespace Tars.Conf
open Tars

theorem scan_noNl (max : Nat) (l rest cur : Txt) (acc : List Txt) (h : nlCh ∉ l) :
    scanLines max (l ++ rest) cur acc = scanLines max rest (l.reverse ++ cur) acc := by
  induction l generalizing cur with
  | nil => rfl
  | cons c l ih =>
    rw [List.cons_append, scanLines, if_neg (List.ne_of_not_mem_cons h).symm, ih _ (List.not_mem_of_not_mem_cons h),
      List.reverse_cons, List.append_assoc]
    rfl

theorem scan_nl (max : Nat) (rest cur : Txt) (acc : List Txt) :
    scanLines max (nlCh :: rest) cur acc =
      if max ≤ cur.length then (acc.reverse, true) else scanLines max rest [] (lineOfRev cur :: acc) := by
  rw [scanLines, if_pos rfl]

theorem lineOfRev_reverse (l : Txt) (h : crCh ∉ l) : lineOfRev l.reverse = l := by
  rcases List.eq_nil_or_concat l with rfl | ⟨r, c, rfl⟩
  · rfl
  · have hc : c ≠ crCh := fun e => h (by simp [e])
    simp [lineOfRev, hc]

theorem scan_line (max : Nat) (l rest : Txt) (acc : List Txt) (hnl : nlCh ∉ l) (hcr : crCh ∉ l)
    (hlen : l.length < max) :
    scanLines max (l ++ nlCh :: rest) [] acc = scanLines max rest [] (l :: acc) := by
  rw [scan_noNl _ _ _ _ _ hnl, scan_nl, List.append_nil, List.length_reverse, if_neg (Nat.not_le.mpr hlen),
    lineOfRev_reverse l hcr]

theorem scan_tail (max : Nat) (tail : Txt) (acc : List Txt) (hnl : nlCh ∉ tail) (hcr : crCh ∉ tail)
    (hlen : tail.length < max) :
    scanLines max tail [] acc = (acc.reverse ++ (if tail = [] then [] else [tail]), false) := by
  have := scan_noNl max tail [] [] acc hnl
  rw [List.append_nil, List.append_nil] at this
  rw [this, scanLines, List.length_reverse, if_neg (Nat.not_le.mpr hlen), lineOfRev_reverse tail hcr]
  cases tail <;> simp

theorem scan_text {α : Type} (max : Nat) (f : α → Txt) (ls : List α) (tail : Txt) (acc : List Txt)
    (h : ∀ l ∈ ls, nlCh ∉ f l ∧ crCh ∉ f l ∧ (f l).length < max)
    (ht : nlCh ∉ tail ∧ crCh ∉ tail ∧ tail.length < max) :
    scanLines max ((ls.map (fun l => f l ++ [nlCh])).flatten ++ tail) [] acc
      = (acc.reverse ++ ls.map f ++ (if tail = [] then [] else [tail]), false) := by
  induction ls generalizing acc with
  | nil => simpa using scan_tail max tail acc ht.1 ht.2.1 ht.2.2
  | cons l ls ih =>
    obtain ⟨h1, h2, h3⟩ := h l List.mem_cons_self
    rw [List.map_cons, List.flatten_cons, List.append_assoc, List.append_assoc, List.singleton_append,
      scan_line _ _ _ _ h1 h2 h3, ih _ fun x hx => h x (List.mem_cons_of_mem _ hx), List.reverse_cons, List.map_cons,
      List.append_assoc, List.append_assoc, List.append_assoc]
    rfl

theorem procLine_skip_empty (text : Txt) (cur : Elem) (ht : trim trimSet text = []) :
    procLine text cur = cur := by
  unfold procLine; simp only [ht]

theorem procLine_skip_hash (text : Txt) (cur : Elem) (r : Txt) (ht : trim trimSet text = hashCh :: r) :
    procLine text cur = cur := by
  unfold procLine; simp only [ht, if_true]

theorem procLine_comment (pre t : Txt) (cur : Elem) (hpre : isWs pre = true) :
    procLine (pre ++ hashCh :: t) cur = cur := by
  apply procLine_skip_hash _ _ (trimRight trimSet t)
  rw [trim, trimRight_stop _ _ hash_notin_trim]
  exact trimLeft_stop (isWs_allIn hpre) fun c hc => Option.some.inj hc ▸ hash_notin_trim

theorem procLine_blank (w : Txt) (cur : Elem) (h : isWs w = true) : procLine w cur = cur :=
  procLine_skip_empty _ _ (trim_allIn (isWs_allIn h))

theorem procLine_of_trim (text : Txt) (cur : Elem) (c : Byte) (r k0 rest k : Txt)
    (ht : trim trimSet text = c :: r) (hc : c ≠ hashCh)
    (hs : ((c :: r).takeWhile (fun b => b != eqCh), (c :: r).dropWhile (fun b => b != eqCh)) = (k0, rest))
    (hk : trim trimSet k0 = k) (hkne : k ≠ []) :
    procLine text cur = (cur.addLine (c :: r)).addChild k (newLeaf k (valueOf rest)) := by
  have hke : k.isEmpty = false := by cases k with | nil => exact absurd rfl hkne | cons _ _ => rfl
  cases hs
  subst hk
  unfold procLine
  simp only [ht, if_neg hc, hke, Bool.false_eq_true, if_false]

theorem procLine_entry (text : Txt) (cur : Elem) (key mid rest : Txt)
    (ht : trim trimSet text = key ++ mid ++ rest) (hmid : isWs mid = true)
    (hr : rest = [] ∨ rest.head? = some eqCh)
    (hkne : key ≠ []) (hkeq : eqCh ∉ key) (hke : noEdge trimSet key = true) (hkh : key.head? ≠ some hashCh) :
    procLine text cur = (cur.addLine (key ++ mid ++ rest)).addChild key (newLeaf key (valueOf rest)) := by
  have hs := span_first (key ++ mid) rest eqCh
    (fun hm => (List.mem_append.mp hm).elim hkeq (isWs_no hmid (by decide))) hr
  have hk : trim trimSet (key ++ mid) = key := trim_core' trimSet [] key mid (allIn_nil _) (isWs_allIn hmid) hke
  cases key with
  | nil => exact absurd rfl hkne
  | cons c kt => exact procLine_of_trim text cur c (kt ++ mid ++ rest) _ rest _ ht (fun e => hkh (e ▸ rfl)) hs hk hkne

theorem procLine_kv_val (pre key mid w v post : Txt) (cur : Elem)
    (hpre : isWs pre = true) (hmid : isWs mid = true) (hw : isWs w = true) (hpost : isWs post = true)
    (hkne : key ≠ []) (hkeq : eqCh ∉ key) (hke : noEdge trimSet key = true)
    (hkh : key.head? ≠ some hashCh) (hve : noEdge trimSet v = true) :
    procLine (pre ++ key ++ mid ++ eqCh :: (w ++ v) ++ post) cur
      = (cur.addLine (key ++ mid ++ eqCh :: (if v.isEmpty then [] else w ++ v))).addChild key (newLeaf key v) := by
  rw [List.append_assoc pre, List.append_assoc pre]
  cases v with
  | nil =>
    have ht : trim trimSet (pre ++ (key ++ mid ++ eqCh :: (w ++ [])) ++ post) = key ++ mid ++ [eqCh] := by
      rw [List.append_nil, List.append_cons (key ++ mid) eqCh w, ← List.append_assoc pre, List.append_assoc _ w post]
      exact trim_core' trimSet pre _ (w ++ post) (isWs_allIn hpre) (allIn_append (isWs_allIn hw) (isWs_allIn hpost))
        (noEdge_append mid hkne (List.cons_ne_nil _ _) hke (by decide))
    exact procLine_entry _ cur key mid [eqCh] ht hmid (.inr rfl) hkne hkeq hke hkh
  | cons c v' =>
    have ht := trim_core' trimSet pre (key ++ mid ++ eqCh :: (w ++ c :: v')) post (isWs_allIn hpre) (isWs_allIn hpost)
      (by
        have := noEdge_append (mid ++ eqCh :: w) hkne (List.cons_ne_nil c v') hke hve
        rwa [List.append_assoc, List.append_assoc, List.cons_append, ← List.append_assoc key] at this)
    have hvt : valueOf (eqCh :: (w ++ c :: v')) = c :: v' := by
      have := trim_core' trimSet w (c :: v') [] (isWs_allIn hw) (allIn_nil _) hve
      rwa [List.append_nil] at this
    rw [procLine_entry _ cur key mid _ ht hmid (.inr rfl) hkne hkeq hke hkh, hvt]
    rfl

theorem procLine_kv_noval (pre key mid post : Txt) (cur : Elem)
    (hpre : isWs pre = true) (hmid : isWs mid = true) (hpost : isWs post = true)
    (hkne : key ≠ []) (hkeq : eqCh ∉ key) (hke : noEdge trimSet key = true)
    (hkh : key.head? ≠ some hashCh) :
    procLine (pre ++ key ++ mid ++ post) cur = (cur.addLine key).addChild key (newLeaf key []) := by
  have ht : trim trimSet (pre ++ key ++ mid ++ post) = key ++ [] ++ [] := by
    have := trim_core' trimSet pre key (mid ++ post) (isWs_allIn hpre)
      (allIn_append (isWs_allIn hmid) (isWs_allIn hpost)) hke
    simpa using this
  have := procLine_entry _ cur key [] [] ht rfl (.inl rfl) hkne hkeq hke hkh
  rwa [List.append_nil, List.append_nil] at this

end Tars.Conf
