import TarsModel.Model.Schema
import TarsModel.Proofs.WireFwd

/-!
  `readScalar`, the row of the generated code that reads a scalar member into a target of the
  declared Go type, and `arrOverflow`: the first places where the schema model meets the wire-level
  guarantees of `Proofs/WireFwd.lean`.
-/
namespace Tars
open Consts

/-- the target value has the Go type the generated code declares for a scalar member -/
def ScalarShape : Ty → Val → Prop
  | .bool, .bool _ => True
  | .i8, .int _ | .u8, .int _ | .i16, .int _ | .u16, .int _ | .i32, .int _ | .u32, .int _
  | .i64, .int _ | .enum, .int _ => True
  | .f32, .f32 _ => True
  | .f64, .f64 _ => True
  | .str, .str _ => True
  | _, _ => False

theorem readScalar_ill {ty : Ty} {old : Val} (h : ¬ ScalarShape ty old) (tag : Nat) (req : Bool)
    (r : Reader) : readScalar ty old tag req r = (.error illTyped, r) := by
  unfold readScalar
  split <;> first | exact absurd trivial h | rfl

theorem readScalar_str {ty : Ty} {old : Val} {tag : Nat} {req : Bool} {r r' : Reader} {s : Bytes}
    (h : readScalar ty old tag req r = (.ok (.str s), r')) :
    ty = .str ∧ ∃ o, old = .str o ∧ readString o tag req r = (.ok s, r') := by
  unfold readScalar at h
  split at h
  case h_12 o => obtain ⟨a, ha, hv⟩ := mapRes_ok h; cases hv; exact ⟨rfl, o, rfl, ha⟩
  case h_13 => cases h
  all_goals (obtain ⟨a, _, hv⟩ := mapRes_ok h; cases hv)

/-- `arrOverflow` is unreachable from `decVar`, which enters the loop only with `len ≤ n`; all that
    is wanted of it is where it stops -/
theorem arrOverflow_sat (e : Ty) (r : Reader) :
    Sat (arrOverflow e r) (fun _ _ => False) (fun _ r' => r.Le r') := by
  unfold arrOverflow
  split
  · refine (skipToNoCheck_sat 0 true r).elim (fun _ _ h => h.1) (fun _ r1 h => ?_)
    refine .ite (fun _ => ?_) fun _ => .ite (fun _ => .ite (fun _ => ?_) fun _ => h.1) fun _ => h.1
    · refine (readLen_sat r1).elim (fun _ _ h2 => h.1.trans h2.1) (fun len r2 h2 => ?_)
      exact .ite (fun _ => h.1.trans h2.le) fun _ => h.1.trans h2.le
    · refine (skipTo_sat tyBYTE 0 true r1).elim (fun _ _ h2 => h.1.trans h2.1) (fun _ r2 h2 => ?_)
      dsimp only
      refine (readLen_sat r2).elim (fun _ _ h3 => (h.1.trans h2.1).trans h3.1) (fun _ r3 h3 => ?_)
      exact (h.1.trans h2.1).trans h3.le
  · exact .refl _
  · refine (skipTo_sat tyMAP 0 true r).elim (fun _ _ h => h.1) (fun _ r1 h => ?_)
    simp only
    refine (readLen_sat r1).elim (fun _ _ h2 => h.1.trans h2.1) (fun _ r2 h2 => ?_)
    exact h.1.trans h2.le
  · exact .refl _

end Tars
