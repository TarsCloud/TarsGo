/-! Facts about `List.set`, appending one element, `countP` and `∀` over a mapped list that the
connection-table and call-table invariants of several models share; what a fold that only adds elements
can contain; the loop rule `foldl_sim`. -/
namespace Tars

theorem set_self {α} {l : List α} {i : Nat} {c : α} (h : l[i]? = some c) : l.set i c = l := by
  obtain ⟨hi, rfl⟩ := List.getElem?_eq_some_iff.1 h
  exact List.set_getElem_self hi

theorem lt_of_getElem? {α} {l : List α} {i : Nat} {c : α} (h : l[i]? = some c) : i < l.length :=
  (List.getElem?_eq_some_iff.mp h).1

theorem getElem?_set_cases {α} {l : List α} {i j : Nat} {a x : α} (h : (l.set i a)[j]? = some x) :
    (j = i ∧ x = a) ∨ (j ≠ i ∧ l[j]? = some x) := by
  rw [List.getElem?_set] at h
  split at h
  · split at h <;> cases h
    exact .inl ⟨‹i = j›.symm, rfl⟩
  · exact .inr ⟨fun e => ‹¬ i = j› e.symm, h⟩

theorem getElem?_set_of_some {α} {l : List α} {i : Nat} {a a' : α} (h : l[i]? = some a) :
    (l.set i a')[i]? = some a' :=
  List.getElem?_set_self (lt_of_getElem? h)

theorem getElem?_append_of_some {α} {l m : List α} {i : Nat} {a : α} (h : l[i]? = some a) :
    (l ++ m)[i]? = some a := by
  rw [List.getElem?_append_left (lt_of_getElem? h)]; exact h

theorem getElem?_append_one_cases {α} {l : List α} {j : Nat} {a x : α} (h : (l ++ [a])[j]? = some x) :
    (j = l.length ∧ x = a) ∨ l[j]? = some x := by
  rcases Nat.lt_trichotomy j l.length with hj | rfl | hj
  · exact .inr (List.getElem?_append_left hj ▸ h)
  · rw [List.getElem?_concat_length] at h; cases h; exact .inl ⟨rfl, rfl⟩
  · rw [List.getElem?_eq_none (by simp; omega)] at h; cases h

theorem forall_set_of_ne {α} {P : Nat → α → Prop} {l : List α} {k : Nat} {c' : α}
    (hl : ∀ j d, j ≠ k → l[j]? = some d → P j d) (hk : P k c') :
    ∀ j d, (l.set k c')[j]? = some d → P j d := fun j d h =>
  (getElem?_set_cases h).elim (fun ⟨ej, ed⟩ => ej ▸ ed ▸ hk) fun ⟨hne, h⟩ => hl j d hne h

theorem forall_set {α} {P : Nat → α → Prop} {l : List α} {k : Nat} {c' : α}
    (hl : ∀ j d, l[j]? = some d → P j d) (hk : P k c') : ∀ j d, (l.set k c')[j]? = some d → P j d :=
  forall_set_of_ne (fun j d _ => hl j d) hk

theorem forall_append {α} {P : Nat → α → Prop} {l : List α} {x : α}
    (hl : ∀ j d, l[j]? = some d → P j d) (hx : P l.length x) : ∀ j d, (l ++ [x])[j]? = some d → P j d :=
  fun j d h => (getElem?_append_one_cases h).elim (fun ⟨ej, ed⟩ => ej ▸ ed ▸ hx) (hl j d)

/-- `List.countP_set` without the truncated subtraction -/
theorem countP_set_add {α} (p : α → Bool) {l : List α} {i : Nat} {x : α} (a : α) (h : l[i]? = some x) :
    (l.set i a).countP p + (p x).toNat = l.countP p + (p a).toNat := by
  obtain ⟨hi, rfl⟩ := List.getElem?_eq_some_iff.1 h
  have := List.boole_getElem_le_countP (p := p) hi
  rw [List.countP_set hi, Bool.toNat, Bool.toNat, Bool.cond_eq_ite, Bool.cond_eq_ite]
  omega

theorem countP_set_int {α} (p : α → Bool) {l : List α} {i : Nat} {c c' : α} (h : l[i]? = some c) :
    ((l.set i c').countP p : Int) = (l.countP p : Int) - (if p c then 1 else 0) + (if p c' then 1 else 0) := by
  have := countP_set_add p c' h
  have e (b : Bool) : (if b then 1 else 0 : Int) = b.toNat := by cases b <;> rfl
  rw [e, e]
  omega

theorem mem_foldl {α β} {f : List β → α → List β} {P : α → β → Prop}
    (hf : ∀ {acc a x}, x ∈ f acc a → x ∈ acc ∨ P a x) {l : List α} {acc : List β} {x : β}
    (h : x ∈ l.foldl f acc) : x ∈ acc ∨ ∃ a ∈ l, P a x :=
  List.foldlRecOn l f (motive := fun acc' => x ∈ acc' → x ∈ acc ∨ ∃ a ∈ l, P a x) Or.inl
    (fun _ ih a ha hx => (hf hx).elim ih fun hp => Or.inr ⟨a, ha, hp⟩) h

theorem mem_foldl_insert {β} {ins : List β → β → List β}
    (hins : ∀ {acc a x}, x ∈ ins acc a → x ∈ acc ∨ x = a) {l acc : List β} {x : β}
    (h : x ∈ l.foldl ins acc) : x ∈ acc ∨ x ∈ l :=
  (mem_foldl (P := fun y x => x = y) hins h).imp_right fun ⟨_, hy, e⟩ => e ▸ hy

theorem getElem?_set_of_val_ne {α} {l : List α} {i j : Nat} {old new x : α} (hi : l[i]? = some old)
    (hj : l[j]? = some x) (hne : old ≠ x) : (l.set i new)[j]? = some x := by
  have : i ≠ j := fun e => hne (Option.some.inj (by rw [← hi, ← hj, e]))
  rw [List.getElem?_set_ne this, hj]

theorem getElem?_toList_eq_drop {α} {l : List α} {m : Nat} (hl : l.length ≤ m + 1) :
    (l[m]?).toList = l.drop m := by
  rw [List.drop_eq_getElem?_toList_append, List.drop_eq_nil_of_le hl, List.append_nil]

theorem foldl_sim {σ τ β : Type} {I : σ → Prop} {π : σ → τ} {f : σ → β → σ} {g : τ → β → τ} (l : List β)
    (h : ∀ {s}, I s → ∀ b, I (f s b) ∧ π (f s b) = g (π s) b) {s : σ} (hs : I s) :
    I (l.foldl f s) ∧ π (l.foldl f s) = l.foldl g (π s) :=
  List.foldl_rel (r := fun s t => I s ∧ π s = t) ⟨hs, rfl⟩ fun b _ _ _ ⟨hI, e⟩ => e ▸ h hI b

theorem nodup_concat {α} {s : List α} {a : α} (hnd : s.Nodup) (h : a ∉ s) : (s ++ [a]).Nodup :=
  List.nodup_append.2 ⟨hnd, List.pairwise_singleton _ _, fun _ hx _ hy e => h (List.mem_singleton.1 hy ▸ e ▸ hx)⟩

theorem forall_map {α β} {P : Nat → β → Prop} {f : α → β} {l : List α} (hl : ∀ c k, l[c]? = some k → P c (f k)) :
    ∀ c x, (l.map f)[c]? = some x → P c x := by
  intro c x h
  rw [List.getElem?_map, Option.map_eq_some_iff] at h
  obtain ⟨k, hk, rfl⟩ := h
  exact hl c k hk

end Tars
