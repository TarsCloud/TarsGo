/-
  Acceptance of the grammar at token level: for every well-formed program `p` of the grammar,
  `parseTokens v p.toks = ok p.ast`.
-/
import TarsModel.Proofs.IdlTotal

namespace Tars.Idl

/-! ### one parser step on a state whose next token is known -/

theorem next_cons_ok (tk t : Tok) (r : List Tok) (h : t ≠ .bad) : (PS.mk tk (t :: r)).next = .ok ⟨t, r⟩ := by
  rw [next_cons, if_neg h]

theorem expect_cons (tk t : Tok) (r : List Tok) (h : t ≠ .bad) : expect t ⟨tk, t :: r⟩ = .ok ⟨t, r⟩ := by
  unfold expect
  rw [next_cons_ok _ _ _ h]
  simp

theorem expectName_cons (tk : Tok) (n : Bytes) (r : List Tok) :
    expectName ⟨tk, .name n :: r⟩ = .ok (n, ⟨.name n, r⟩) := by
  unfold expectName
  rw [next_cons_ok _ _ _ (by simp)]
  simp

theorem expectInt_cons (tk : Tok) (t : Bytes) (v : Int) (r : List Tok) :
    expectInt ⟨tk, .int t v :: r⟩ = .ok (v, ⟨.int t v, r⟩) := by
  unfold expectInt
  rw [next_cons_ok _ _ _ (by simp)]
  simp

theorem expectStr_cons (tk : Tok) (v : Bytes) (r : List Tok) :
    expectStr ⟨tk, .str v :: r⟩ = .ok (v, ⟨.str v, r⟩) := by
  unfold expectStr
  rw [next_cons_ok _ _ _ (by simp)]
  simp

section
variable {α : Type} {tk t : Tok} {r : List Tok}

/- The same steps in front of a continuation, the form in which the parser functions contain them:
rewriting with these leaves the continuation applied to the new state, and `dsimp only` then selects
the `match` alternative of the token read. -/
theorem next_bind {f : PS → Res α} (h : t ≠ .bad) : ((PS.mk tk (t :: r)).next >>= f) = f ⟨t, r⟩ := by
  rw [next_cons_ok _ _ _ h, Res.bind_ok]

theorem expect_bind {f : PS → Res α} (h : t ≠ .bad) : (expect t ⟨tk, t :: r⟩ >>= f) = f ⟨t, r⟩ := by
  rw [expect_cons _ _ _ h, Res.bind_ok]

theorem expectName_bind {n : Bytes} {f : Bytes × PS → Res α} :
    (expectName ⟨tk, .name n :: r⟩ >>= f) = f (n, ⟨.name n, r⟩) := by
  rw [expectName_cons, Res.bind_ok]

theorem expectInt_bind {x : Bytes} {v : Int} {f : Int × PS → Res α} :
    (expectInt ⟨tk, .int x v :: r⟩ >>= f) = f (v, ⟨.int x v, r⟩) := by
  rw [expectInt_cons, Res.bind_ok]
end

theorem bind_head {α β : Type} {x : Res α} {a : α} {f : α → Res β} {r : Res β} (hx : x = .ok a)
    (h : f a = r) : (x >>= f) = r := by
  rw [hx, Res.bind_ok, h]

theorem GTy.hd_ne_bad (t : GTy) : t.hd ≠ .bad := by cases t <;> simp [GTy.hd]
theorem GTy.hd_startsType (t : GTy) : t.hd.startsType = true := by cases t <;> rfl
theorem GTy.hd_ne_void (t : GTy) : t.hd ≠ .kvoid := by cases t <;> simp [GTy.hd]
theorem GTy.hd_ne_braceR (t : GTy) : t.hd ≠ .braceR := by cases t <;> simp [GTy.hd]

@[simp] theorem GTy.hd_prim (p : Prim) : (GTy.prim p).hd = .tprim p := rfl
@[simp] theorem GTy.hd_unsigned (p : Prim) : (GTy.unsigned p).hd = .kunsigned := rfl
@[simp] theorem GTy.hd_vector (t : GTy) : (GTy.vector t).hd = .tvector := rfl
@[simp] theorem GTy.hd_map (a b : GTy) : (GTy.map a b).hd = .tmap := rfl
@[simp] theorem GTy.hd_named (n : Bytes) : (GTy.named n).hd = .name n := rfl
@[simp] theorem GTy.tlK_prim (p : Prim) (k : List Tok) : (GTy.prim p).tlK k = k := rfl
@[simp] theorem GTy.tlK_unsigned (p : Prim) (k : List Tok) : (GTy.unsigned p).tlK k = .tprim p :: k := rfl
@[simp] theorem GTy.tlK_vector (t : GTy) (k : List Tok) :
    (GTy.vector t).tlK k = .shl :: t.hd :: t.tlK (.shr :: k) := rfl
@[simp] theorem GTy.tlK_map (a b : GTy) (k : List Tok) :
    (GTy.map a b).tlK k = .shl :: a.hd :: a.tlK (.comma :: b.hd :: b.tlK (.shr :: k)) := rfl
@[simp] theorem GTy.tlK_named (n : Bytes) (k : List Tok) : (GTy.named n).tlK k = k := rfl

theorem size_lt (tk tk' : Tok) (l l' : List Tok) (h : l'.length < l.length) :
    (PS.mk tk' l').size < (PS.mk tk l).size := by
  have h1 := PS.size_bounds tk' l'
  have h2 := PS.size_bounds tk l
  omega

theorem parseType_length {tk tk' : Tok} {l l' : List Tok} {a : VarType}
    (h : parseType ⟨tk, l⟩ = .ok (a, ⟨tk', l'⟩)) : l'.length ≤ l.length := by
  have h0 : (PS.mk tk' l').size ≤ _ := (parseType_sat _).of_ok h
  have h1 := PS.size_bounds tk' l'
  have h2 := PS.size_bounds tk l
  omega

theorem parseType_accept (t : GTy) (h : t.WF = true) (k : List Tok) :
    parseType ⟨t.hd, t.tlK k⟩ = .ok (t.ast, ⟨t.last, k⟩) := by
  induction t generalizing k with
  | prim p => rw [parseType]; rfl
  | named n => rw [parseType]; rfl
  | unsigned p =>
    rw [GTy.hd_unsigned, GTy.tlK_unsigned, parseType]
    dsimp only
    rw [next_bind (by simp), dif_pos (size_lt _ _ _ _ (by simp)), parseType]
    simp only [GTy.WF, Bool.or_eq_true, decide_eq_true_eq] at h
    rcases h with (h | h) | h <;> subst h <;> rfl
  | vector t ih =>
    rw [GTy.hd_vector, GTy.tlK_vector, parseType]
    dsimp only
    rw [expect_bind (by simp), next_bind t.hd_ne_bad,
      dif_pos (size_lt _ _ _ _ (by simp only [List.length_cons]; omega)), ih h, Res.bind_ok]
    dsimp only
    rw [expect_bind (by simp)]
    rfl
  | map a b iha ihb =>
    have hab : a.WF = true ∧ b.WF = true := by simpa [GTy.WF] using h
    rw [GTy.hd_map, GTy.tlK_map, parseType]
    dsimp only
    rw [expect_bind (by simp), next_bind a.hd_ne_bad,
      dif_pos (size_lt _ _ _ _ (by simp only [List.length_cons]; omega)), iha hab.1, Res.bind_ok]
    dsimp only
    rw [expect_bind (by simp), next_bind b.hd_ne_bad,
      dif_pos (size_lt _ _ _ _ (by
        have := parseType_length (iha hab.1 (.comma :: b.hd :: b.tlK (.shr :: k)))
        simp only [List.length_cons] at *; omega)), ihb hab.2, Res.bind_ok]
    dsimp only
    rw [expect_bind (by simp)]
    rfl

/-! ### loops over items -/

/-- An `ItemLoop` on the tokens of a list of items followed by `}`: every item is read as `ast g`, the
loop ends on the `}`.  The progress check compares the states before and after one item; that the
item's parser consumed input is what `Proofs/IdlTotal` shows of every successful call (`hsat`). -/
theorem ItemLoop.accept {γ β : Type} {item : PS → Res (Option β × PS)} {L : List β → PS → Res (List β × PS)}
    (hL : ItemLoop item L) (hsat : ∀ s, (item s).Sat fun r => r.2.size < s.size)
    {toksK : γ → List Tok → List Tok} {seqK : List γ → List Tok → List Tok} {ast : γ → β}
    (hnil : ∀ k, seqK [] k = k) (hcons : ∀ g gs k, seqK (g :: gs) k = toksK g (seqK gs k))
    (hclose : ∀ pre k, item ⟨pre, .braceR :: k⟩ = .ok (none, ⟨.braceR, k⟩))
    (gs : List γ) (hitem : ∀ g ∈ gs, ∀ pre k, item ⟨pre, toksK g k⟩ = .ok (some (ast g), ⟨.semi, k⟩))
    (acc : List β) (pre : Tok) (k : List Tok) :
    L acc ⟨pre, seqK gs (.braceR :: k)⟩ = .ok (acc ++ gs.map ast, ⟨.braceR, k⟩) := by
  induction gs generalizing acc pre with
  | nil =>
    rw [hnil, hL, hclose]
    simp
  | cons g gs ih =>
    have hm := hitem g List.mem_cons_self pre (seqK gs (.braceR :: k))
    rw [hcons, hL, hm, Res.bind_ok]
    dsimp only
    rw [dif_pos ((hsat _).of_ok hm), ih fun x hx => hitem x (List.mem_cons_of_mem _ hx)]
    simp

/-! ### enums -/

theorem enumLoop_close (v : Variant) (acc : List EnumMember) (pre : Tok) (k : List Tok) :
    enumLoop v acc ⟨pre, .braceR :: k⟩ = .ok (acc, ⟨.braceR, k⟩) := by
  rw [enumLoop, next_bind (by simp)]
  rfl

theorem enumLoop_member (v : Variant) (acc : List EnumMember) (pre : Tok) (m : GEnumMem) (x : Tok)
    (r : List Tok) (hx : x = .comma ∨ x = .braceR) :
    enumLoop v acc ⟨pre, m.toksK (x :: r)⟩ =
      if x = .comma then enumLoop v (acc ++ [m.ast]) ⟨.comma, r⟩
      else .ok (acc ++ [m.ast], ⟨.braceR, r⟩) := by
  have hb : x ≠ .bad := by rcases hx with rfl | rfl <;> simp
  obtain ⟨key, val⟩ := m
  cases val with
  | auto =>
    dsimp only [GEnumMem.toksK]
    rw [enumLoop, next_bind (by simp)]
    dsimp only
    rw [next_bind hb]
    rcases hx with rfl | rfl
    · dsimp only
      rw [dif_pos (size_lt _ _ _ _ (by simp only [List.length_cons]; omega))]
      rfl
    · rfl
  | int _ _ | ref _ =>
    dsimp only [GEnumMem.toksK]
    rw [enumLoop, next_bind (by simp)]
    dsimp only
    rw [next_bind (by simp), next_bind (by simp)]
    dsimp only [Res.bind_ok]
    rw [next_bind hb]
    rcases hx with rfl | rfl
    · dsimp only
      rw [dif_pos (size_lt _ _ _ _ (by simp only [List.length_cons]; omega))]
      rfl
    · rfl

theorem enumLoop_accept (v : Variant) (ms : List GEnumMem) (tr : Bool) (acc : List EnumMember)
    (pre : Tok) (k : List Tok) :
    enumLoop v acc ⟨pre, enumMemsK ms tr k⟩ = .ok (acc ++ ms.map GEnumMem.ast, ⟨.braceR, k⟩) := by
  induction ms generalizing acc pre with
  | nil => simp [enumMemsK, enumLoop_close]
  | cons m ms ih =>
    cases ms with
    | nil =>
      cases tr with
      | false =>
        simp only [enumMemsK, Bool.false_eq_true, if_false]
        rw [enumLoop_member _ _ _ _ _ _ (.inr rfl), if_neg nofun]
        simp
      | true =>
        simp only [enumMemsK, if_true]
        rw [enumLoop_member _ _ _ _ _ _ (.inl rfl), if_pos rfl, enumLoop_close]
        simp
    | cons m2 ms =>
      simp only [enumMemsK]
      rw [enumLoop_member _ _ _ _ _ _ (.inl rfl), if_pos rfl, ih]
      simp

theorem parseEnum_accept (v : Variant) (m : Module) (e : GEnum) (pre : Tok) (k : List Tok)
    (h : m.enums.any (fun x => x.name = e.name) = false) :
    parseEnum v m ⟨pre, .name e.name :: .braceL :: enumMemsK e.mems e.trailingComma (.semi :: k)⟩ =
      .ok (GDecl.addTo m (.enum e), ⟨.semi, k⟩) := by
  rw [parseEnum, expectName_bind]
  dsimp only
  rw [h, if_neg Bool.false_ne_true, expect_bind (by simp), enumLoop_accept, Res.bind_ok]
  dsimp only
  rw [expect_bind (by simp)]
  rfl

/-! ### structs -/

theorem parseDefault_accept (d : GDefault) (t : GTy) (h : d.okFor t = true) :
    parseDefault t.ast d.tok = .ok d.ast := by
  cases d <;> cases t <;> simp [GDefault.okFor] at h <;>
    simp [parseDefault, GDefault.tok, GDefault.ast, GTy.ast, Prim.isNumber, *]
  all_goals (rename_i p; cases p <;> simp_all)

theorem GDefault.tok_ne_bad (d : GDefault) : d.tok ≠ .bad := by cases d <;> simp [GDefault.tok]

theorem parseStructMember_close (pre : Tok) (k : List Tok) :
    parseStructMember ⟨pre, .braceR :: k⟩ = .ok (none, ⟨.braceR, k⟩) := by
  rw [parseStructMember, next_bind (by simp)]
  rfl

theorem parseStructMember_accept (f : GField) (h : f.WF = true) (pre : Tok) (k : List Tok) :
    parseStructMember ⟨pre, f.toksK k⟩ = .ok (some f.ast, ⟨.semi, k⟩) := by
  obtain ⟨tagText, tag, req, ty, name, suffix⟩ := f
  simp only [GField.WF, Bool.and_eq_true] at h
  dsimp only [GField.toksK, GTy.toksK]
  rw [parseStructMember, next_bind (by simp)]
  dsimp only
  rw [next_bind (by cases req <;> simp)]
  dsimp only
  refine bind_head (a := req) (by cases req <;> rfl) ?_
  rw [next_bind ty.hd_ne_bad]
  dsimp only
  rw [ty.hd_startsType, if_neg (by simp), parseType_accept ty h.1, Res.bind_ok]
  dsimp only
  rw [expectName_bind]
  dsimp only
  cases suffix with
  | plain =>
    rw [next_bind (by simp)]
    rfl
  | array lt len =>
    rw [next_bind (by simp)]
    dsimp only
    rw [expectInt_bind]
    dsimp only
    rw [expect_bind (by simp), expect_bind (by simp)]
    rfl
  | dflt d =>
    rw [next_bind (by simp)]
    dsimp only
    rw [next_bind d.tok_ne_bad, parseDefault_accept d ty h.2, Res.bind_ok,
      expect_cons _ _ _ (by simp)]
    rfl

theorem GField.toksK_cons (f : GField) (k : List Tok) : ∃ r, f.toksK k = .int f.tagText f.tag :: r :=
  ⟨_, rfl⟩

theorem structLoop_accept (fs : List GField) (h : fs.all GField.WF = true) (acc : List StructMember)
    (pre : Tok) (k : List Tok) :
    structLoop acc ⟨pre, fieldsK fs (.braceR :: k)⟩ = .ok (acc ++ fs.map GField.ast, ⟨.braceR, k⟩) :=
  structLoop_itemLoop.accept parseStructMember_sat (seqK := fieldsK) (fun _ => rfl) (fun _ _ _ => rfl)
    parseStructMember_close fs (fun f hf => parseStructMember_accept f (List.all_eq_true.1 h f hf)) acc pre k

theorem parseStruct_accept (m : Module) (st : GStruct) (pre : Tok) (k : List Tok)
    (h1 : m.structs.any (fun x => x.name = st.name) = false)
    (h2 : st.fields.all GField.WF = true)
    (h3 : dupTag (st.fields.map GField.ast) = false) :
    parseStruct m ⟨pre, .name st.name :: .braceL :: fieldsK st.fields (.braceR :: .semi :: k)⟩ =
      .ok (GDecl.addTo m (.struct st), ⟨.semi, k⟩) := by
  rw [parseStruct, expectName_bind]
  dsimp only
  rw [h1, if_neg Bool.false_ne_true, expect_bind (by simp), structLoop_accept _ h2, Res.bind_ok]
  dsimp only
  rw [expect_bind (by simp)]
  simp [GDecl.addTo, h3]

/-! ### constants, keys -/

theorem GLit.tok_ne_bad (l : GLit) : l.tok ≠ .bad := by cases l <;> simp [GLit.tok]

theorem parseConst_accept (m : Module) (c : GConst) (h : c.WF = true) (pre : Tok) (k : List Tok) :
    parseConst m ⟨pre, c.ty.toksK (.name c.name :: .eq :: c.lit.tok :: .semi :: k)⟩ =
      .ok (GDecl.addTo m (.const c), ⟨.semi, k⟩) := by
  obtain ⟨ty, name, lit⟩ := c
  have hty : ty.WF = true ∧ ∃ p, ty = .prim p ∨ ty = .unsigned p := by
    cases ty <;> cases lit <;> simp_all [GConst.WF, GTy.WF]
  obtain ⟨hty, p, rfl | rfl⟩ := hty
  all_goals
    have hpt := parseType_accept _ hty (.name name :: .eq :: lit.tok :: .semi :: k)
    dsimp only [GTy.toksK, GTy.hd_prim, GTy.tlK_prim, GTy.hd_unsigned, GTy.tlK_unsigned] at hpt ⊢
    rw [parseConst, next_bind (by simp)]
    dsimp only
    rw [hpt, Res.bind_ok]
    dsimp only
    rw [expectName_bind]
    dsimp only
    rw [expect_bind (by simp), next_bind lit.tok_ne_bad]
    dsimp only
    refine bind_head (a := lit.ast) ?_ ?_
    · cases lit <;> simp only [GConst.WF, decide_eq_true_eq, Bool.or_eq_true] at h
      case str | btrue | bfalse => cases h <;> rfl
      all_goals
        have hn : p.isNumber = true := by cases p <;> first | rfl | simp at h
        simp only [GLit.tok, GTy.ast, hn]
        rfl
    · rw [expect_bind (by simp)]
      rfl

theorem keyLoop_accept (n : Bytes) (more : List Bytes) (acc : List Bytes) (pre : Tok) (k : List Tok) :
    keyLoop acc ⟨pre, .name n :: keyMoreK more k⟩ = .ok (acc ++ n :: more, ⟨.semi, k⟩) := by
  induction more generalizing n acc pre with
  | nil =>
    rw [keyMoreK, keyLoop, expectName_bind]
    dsimp only
    rw [next_bind (by simp)]
    dsimp only
    rw [expect_bind (by simp)]
    rfl
  | cons m ms ih =>
    rw [keyMoreK, keyLoop, expectName_bind]
    dsimp only
    rw [next_bind (by simp)]
    dsimp only
    rw [dif_pos (size_lt _ _ _ _ (by simp only [List.length_cons]; omega)), ih]
    simp

theorem parseHashKey_accept (m : Module) (x : GKey) (pre : Tok) (k : List Tok) :
    parseHashKey m ⟨pre, .sqL :: .name x.name :: .comma :: .name x.first :: keyMoreK x.more k⟩ =
      .ok (GDecl.addTo m (.key x), ⟨.semi, k⟩) := by
  rw [parseHashKey, expect_bind (by simp), expectName_bind]
  dsimp only
  rw [expect_bind (by simp), keyLoop_accept]
  simp [GDecl.addTo]

/-! ### interfaces -/

theorem GParam.hd_ne_bad (p : GParam) : p.hd ≠ .bad := by
  unfold GParam.hd; split
  · simp
  · exact p.ty.hd_ne_bad

theorem argLoop_param (p : GParam) (h : p.ty.WF = true) (acc : List Arg) (x y : Tok) (r : List Tok)
    (hx : x = .comma ∧ y ≠ .bad ∨ x = .ptr ∧ y = .semi) :
    argLoop acc ⟨p.hd, p.tlK (x :: y :: r)⟩ =
      if x = .comma then argLoop (acc ++ [p.ast]) ⟨y, r⟩ else .ok (acc ++ [p.ast], ⟨.semi, r⟩) := by
  obtain ⟨isOut, ty, name⟩ := p
  have hlt := parseType_length (parseType_accept ty h (.name name :: x :: y :: r))
  have hxb : x ≠ .bad := by rcases hx with ⟨rfl, _⟩ | ⟨rfl, _⟩ <;> simp
  rw [argLoop]
  refine bind_head (a := (isOut, ⟨ty.hd, ty.tlK (.name name :: x :: y :: r)⟩)) ?_ ?_
  · cases isOut
    · have hno : ty.hd ≠ .kout := by cases ty <;> simp
      simp only [GParam.hd, GParam.tlK, Bool.false_eq_true, if_false]
      rfl
    · simp only [GParam.hd, GParam.tlK, if_true]
      rw [next_cons_ok _ _ _ ty.hd_ne_bad]
      rfl
  dsimp only
  rw [parseType_accept ty h, Res.bind_ok]
  dsimp only
  rw [next_bind (by simp)]
  dsimp only
  rw [next_bind hxb]
  dsimp only [Res.bind_ok, Res.pure_eq]
  rcases hx with ⟨rfl, hy⟩ | ⟨rfl, rfl⟩
  · rw [next_bind hy, dif_pos (size_lt _ _ _ _ (by
      cases isOut <;> simp only [GParam.tlK, List.length_cons, if_true, Bool.false_eq_true, if_false] at * <;> omega))]
    rfl
  · rw [expect_bind (by simp)]
    rfl

/-- The parser state in front of the tokens `t :: ts` is `⟨t, ts⟩`: `paramsTl` is the `ts` of a
non-empty parameter list, whose `t` is `p.hd` (`paramsK_cons`). -/
def paramsTl (p : GParam) (ps : List GParam) (k : List Tok) : List Tok := (paramsK (p :: ps) k).tail

theorem paramsK_cons (p : GParam) (ps : List GParam) (k : List Tok) :
    paramsK (p :: ps) k = p.hd :: paramsTl p ps k := by
  cases ps <;> rfl

theorem argLoop_accept (p : GParam) (ps : List GParam) (h : (p :: ps).all (fun p => p.ty.WF) = true)
    (acc : List Arg) (k : List Tok) :
    argLoop acc ⟨p.hd, paramsTl p ps k⟩ = .ok (acc ++ (p :: ps).map GParam.ast, ⟨.semi, k⟩) := by
  induction ps generalizing p acc with
  | nil =>
    have hp : p.ty.WF = true := by simpa using h
    show argLoop acc ⟨p.hd, p.tlK (.ptr :: .semi :: k)⟩ = _
    rw [argLoop_param p hp acc _ _ _ (.inr ⟨rfl, rfl⟩), if_neg nofun]
    simp
  | cons p2 ps ih =>
    have hp : p.ty.WF = true ∧ (p2 :: ps).all (fun p => p.ty.WF) = true := by
      simp only [List.all_cons, Bool.and_eq_true] at h ⊢; exact h
    show argLoop acc ⟨p.hd, p.tlK (.comma :: paramsK (p2 :: ps) k)⟩ = _
    rw [paramsK_cons, argLoop_param p hp.1 acc _ _ _ (.inl ⟨rfl, p2.hd_ne_bad⟩), if_pos rfl, ih p2 hp.2]
    simp

theorem GParam.hd_cases (p : GParam) : p.hd ≠ .shr ∧ p.hd ≠ .ptr := by
  unfold GParam.hd; split
  · simp
  · cases p.ty <;> simp

theorem parseInterfaceFun_close (pre : Tok) (k : List Tok) :
    parseInterfaceFun ⟨pre, .braceR :: k⟩ = .ok (none, ⟨.braceR, k⟩) := by
  rw [parseInterfaceFun, next_bind (by simp)]
  rfl

/-- the part of `parseInterfaceFun` after the function name and `(` -/
theorem funParams_accept (params : List GParam) (h : params.all (fun p => p.ty.WF) = true)
    (name : Bytes) (hasRet : Bool) (ret : Option VarType) (k : List Tok) :
    (do
      let s5 ← (PS.mk .ptl (paramsK params k)).next
      match s5.tk with
      | .shr => pure (some (⟨name, hasRet, ret, []⟩ : Func), s5)
      | .ptr => do
        let s6 ← expect .semi s5
        pure (some ⟨name, hasRet, ret, []⟩, s6)
      | _ => do
        let (args, s6) ← argLoop [] s5
        pure (some ⟨name, hasRet, ret, args⟩, s6) : Res (Option Func × PS)) =
      .ok (some ⟨name, hasRet, ret, params.map GParam.ast⟩, ⟨.semi, k⟩) := by
  cases params with
  | nil =>
    rw [paramsK, next_bind (by simp)]
    dsimp only
    rw [expect_bind (by simp)]
    rfl
  | cons p ps =>
    rw [paramsK_cons, next_bind p.hd_ne_bad]
    have := p.hd_cases
    split
    · rename_i heq; exact absurd heq this.1
    · rename_i heq; exact absurd heq this.2
    · rw [argLoop_accept p ps h]
      simp

theorem parseInterfaceFun_accept (f : GFunc) (h : f.WF = true) (pre : Tok) (k : List Tok) :
    parseInterfaceFun ⟨pre, f.toksK k⟩ = .ok (some f.ast, ⟨.semi, k⟩) := by
  obtain ⟨ret, name, params⟩ := f
  simp only [GFunc.WF, Bool.and_eq_true] at h
  cases ret with
  | none =>
    dsimp only [GFunc.toksK]
    rw [parseInterfaceFun, next_bind (by simp)]
    dsimp only [Res.bind_ok, Res.pure_eq]
    rw [if_pos rfl, Res.bind_ok]
    dsimp only
    rw [expectName_bind]
    dsimp only
    rw [expect_bind (by simp)]
    exact funParams_accept params h.2 name false none k
  | some t =>
    dsimp only [GFunc.toksK, GTy.toksK]
    rw [parseInterfaceFun, next_bind t.hd_ne_bad]
    split
    · rename_i heq; exact absurd heq t.hd_ne_braceR
    · dsimp only
      rw [if_neg t.hd_ne_void, t.hd_startsType, if_neg (by simp), parseType_accept t h.1]
      dsimp only [Res.bind_ok, Res.pure_eq]
      rw [expectName_bind]
      dsimp only
      rw [expect_bind (by simp)]
      exact funParams_accept params h.2 name true (some t.ast) k

theorem funLoop_accept (fs : List GFunc) (h : fs.all GFunc.WF = true) (acc : List Func)
    (pre : Tok) (k : List Tok) :
    funLoop acc ⟨pre, funcsK fs (.braceR :: k)⟩ = .ok (acc ++ fs.map GFunc.ast, ⟨.braceR, k⟩) :=
  funLoop_itemLoop.accept parseInterfaceFun_sat (seqK := funcsK) (fun _ => rfl) (fun _ _ _ => rfl)
    parseInterfaceFun_close fs (fun f hf => parseInterfaceFun_accept f (List.all_eq_true.1 h f hf)) acc pre k

theorem parseInterface_accept (m : Module) (i : GInterface) (pre : Tok) (k : List Tok)
    (h1 : m.interfaces.any (fun x => x.name = i.name) = false)
    (h2 : i.funcs.all GFunc.WF = true) :
    parseInterface m ⟨pre, .name i.name :: .braceL :: funcsK i.funcs (.braceR :: .semi :: k)⟩ =
      .ok (GDecl.addTo m (.interface i), ⟨.semi, k⟩) := by
  rw [parseInterface, expectName_bind]
  dsimp only
  rw [h1, if_neg Bool.false_ne_true, expect_bind (by simp), funLoop_accept _ h2, Res.bind_ok]
  dsimp only
  rw [expect_bind (by simp)]
  rfl

/-! ### declarations, module, file -/

/-- first token and rest of a declaration, for the same purpose as `paramsTl` (`GDecl.toksK_eq`) -/
def GDecl.kw (d : GDecl) : Tok := (d.toksK []).headD .eof

def GDecl.tlK (d : GDecl) (k : List Tok) : List Tok := (d.toksK k).tail

theorem GDecl.toksK_eq (d : GDecl) (k : List Tok) : d.toksK k = d.kw :: d.tlK k := by
  cases d <;> rfl

theorem segmentItem_accept (v : Variant) (m : Module) (d : GDecl) (h : d.WF m = true) (k : List Tok) :
    segmentItem v m ⟨d.kw, d.tlK k⟩ = .ok (d.addTo m, ⟨.semi, k⟩) := by
  cases d with
  | enum e =>
    simp only [GDecl.WF, Bool.and_eq_true, Bool.not_eq_true'] at h
    exact parseEnum_accept v m e _ k h.1
  | const c => exact parseConst_accept m c h _ k
  | struct s =>
    simp only [GDecl.WF, Bool.and_eq_true, Bool.not_eq_true'] at h
    exact parseStruct_accept m s _ k h.1.1 h.1.2 h.2
  | key x => exact parseHashKey_accept m x _ k
  | interface i =>
    simp only [GDecl.WF, Bool.and_eq_true, Bool.not_eq_true'] at h
    exact parseInterface_accept m i _ k h.1 h.2

theorem segmentLoop_accept (v : Variant) (ds : List GDecl) (m : Module) (h : declsWF m ds = true)
    (pre : Tok) (k : List Tok) :
    segmentLoop v m ⟨pre, declsK ds (.braceR :: .semi :: k)⟩ =
      .ok (ds.foldl GDecl.addTo m, ⟨.semi, k⟩) := by
  induction ds generalizing m pre with
  | nil =>
    rw [declsK, segmentLoop, next_bind (by simp)]
    dsimp only
    rw [expect_bind (by simp)]
    rfl
  | cons d ds ih =>
    have hd : d.WF m = true ∧ declsWF (d.addTo m) ds = true := by
      simpa [declsWF] using h
    have hkw : d.kw ≠ .bad ∧ d.kw ≠ .braceR := by cases d <;> exact ⟨nofun, nofun⟩
    -- the states before and after the declaration do not depend on the variant
    have hlt := (segmentItem_sat .repaired rfl m _).of_ok
      (segmentItem_accept .repaired m d hd.1 (declsK ds (.braceR :: .semi :: k)))
    rw [declsK, d.toksK_eq, segmentLoop, next_bind hkw.1]
    split
    · rename_i heq; exact absurd heq hkw.2
    · rw [segmentItem_accept v m d hd.1, Res.bind_ok]
      dsimp only
      rw [dif_pos (Nat.lt_trans hlt (size_lt _ _ _ _ (Nat.lt_add_one _))), ih _ hd.2]
      rfl

theorem Prog.wf_decls {p : Prog} (h : p.WF = true) : declsWF { name := p.modName } p.decls = true :=
  (Bool.and_eq_true_iff.1 h).2

theorem parseModule_accept (v : Variant) (p : Prog) (h : p.WF = true) (pre : Tok) :
    parseModule v {} ⟨pre, .name p.modName :: .braceL :: declsK p.decls [.braceR, .semi]⟩ =
      .ok (p.ast, ⟨.semi, []⟩) := by
  rw [parseModule, expectName_bind]
  dsimp only
  rw [if_neg (by simp), parseModuleSegment, expect_bind (by simp)]
  exact congrArg (· >>= _) (segmentLoop_accept v p.decls { name := p.modName } (Prog.wf_decls h) .braceL [])

/-- The parser reads the token sequence of every well-formed
program of the grammar as the syntax tree the program declares (both variants: a valid program
never reaches the D5 branch) -/
theorem parseTokens_accept (v : Variant) (p : Prog) (h : p.WF = true) :
    parseTokens v p.toks = .ok p.ast := by
  -- the states before and after the module do not depend on the variant
  have hlt := (parseModule_sat .repaired rfl _ _).of_ok (parseModule_accept .repaired p h .kmodule)
  rw [parseTokens, Prog.toks, fileLoop, next_bind (by simp)]
  dsimp only
  rw [parseModule_accept v p h .kmodule, Res.bind_ok]
  dsimp only
  rw [dif_pos (Nat.lt_trans hlt (size_lt _ _ _ _ (Nat.lt_add_one _))), fileLoop]
  rfl

end Tars.Idl
