/-
  The stack machine of `InitFromBytes` on the token stream of a grammar document
  computes `semItems` (for both variants; the as-found variant needs every line to be shorter than
  the scanner's default limit: `itemsBound`, i.e. `maxLineL d < maxScanTokenSize`, `bound_iff_maxLine`);
  `parsed` is the result for `New()` followed by `InitFromBytes`.
-/
import TarsModel.Proofs.ConfSem

namespace Tars.Conf
open Tars

theorem le_foldr_max (xs : List Nat) (b : Nat) : b ≤ xs.foldr Nat.max b ∧ ∀ x ∈ xs, x ≤ xs.foldr Nat.max b := by
  induction xs with
  | nil => exact ⟨Nat.le_refl _, nofun⟩
  | cons a xs ih =>
    refine ⟨Nat.le_trans ih.1 (Nat.le_max_right _ _), fun x hx => ?_⟩
    rcases List.mem_cons.mp hx with rfl | h
    · exact Nat.le_max_left _ _
    · exact Nat.le_trans (ih.2 x h) (Nat.le_max_right _ _)

/-- the bound on line lengths under which a variant's scanner reads every line -/
def textBound (v : Variant) (t : Text) : Prop :=
  v = .asFound → (t.lines.map (fun l => l.text.length)).foldr Nat.max t.tail.length < maxScanTokenSize

/-- every line and the tail fit the scanner's buffer: as found by the bound, after the repair
    because the buffer is larger than the whole text -/
theorem textBound_lines (v : Variant) (t : Text) (hb : textBound v t) :
    t.tail.length < scanMax v t.render ∧ ∀ l ∈ t.lines, l.text.length < scanMax v t.render := by
  cases v with
  | repaired =>
    refine ⟨?_, fun l hl => ?_⟩
    · simp only [scanMax, Text.render, List.length_append]; omega
    · have := (List.sublist_flatten_of_mem (List.mem_map_of_mem (f := fun l => l.text ++ [nlCh]) hl)).length_le
      simp only [scanMax, Text.render, List.length_append, List.length_cons, List.length_nil] at this ⊢
      omega
  | asFound =>
    have := le_foldr_max (t.lines.map (fun l => l.text.length)) t.tail.length
    exact ⟨Nat.lt_of_le_of_lt this.1 (hb rfl),
      fun l hl => Nat.lt_of_le_of_lt (this.2 _ (List.mem_map_of_mem (f := fun l => l.text.length) hl)) (hb rfl)⟩

/-- a start element opens the node the domain continues.  Go adds a fresh child to the parent at
    the start tag, and the end tag writes the finished child into the same slot again: the parent
    `cur'` on the stack matters only up to what `addChild n` overwrites, so it is given by that -/
theorem run_start (v : Variant) (n : Txt) (ts : List Token) (key : Txt) (cur : Elem) (rest : List Frame) :
    ∃ cur', (∀ c, cur'.addChild n c = cur.addChild n c) ∧
      run v (.start n :: ts) (⟨key, cur⟩ :: rest) = run v ts (⟨n, baseOf cur n⟩ :: ⟨key, cur'⟩ :: rest) := by
  rw [run, baseOf]
  cases cur.findChild n with
  | some child => exact ⟨cur, fun _ => rfl, rfl⟩
  | none => exact ⟨_, fun c => addChild_addChild cur n _ c, rfl⟩

theorem run_fin (v : Variant) (n : Txt) (ts : List Token) (k : Txt) (e : Elem) (parent : Frame)
    (rest : List Frame) (h : e.name = n) :
    run v (.fin n :: ts) (⟨k, e⟩ :: parent :: rest) = run v ts ({ parent with node := parent.node.addChild k e } :: rest) := by
  rw [run, if_neg fun hn => hn h]

theorem run_chardata (v : Variant) (t : Text) (hwf : t.wf = true) (hb : textBound v t)
    (ts : List Token) (key : Txt) (cur : Elem) (rest : List Frame) :
    run v (.chardata t.render :: ts) (⟨key, cur⟩ :: rest) = run v ts (⟨key, t.lines.foldl semLine cur⟩ :: rest) := by
  rw [Text.wf, Bool.and_eq_true, List.all_eq_true] at hwf
  obtain ⟨hls, htail⟩ := hwf
  have hbound := textBound_lines v t hb
  have hsc : scanLines (scanMax v t.render) t.render [] []
      = (t.lines.map Line.text ++ (if t.tail = [] then [] else [t.tail]), false) :=
    scan_text (scanMax v t.render) Line.text t.lines t.tail []
      (fun l hl => ⟨l.wf_text_clean (hls l hl) _ (.inl rfl), l.wf_text_clean (hls l hl) _ (.inr rfl), hbound.2 l hl⟩)
      ⟨isWs_no htail (by decide), isWs_no htail (by decide), hbound.1⟩
  have htl : (if t.tail = [] then [] else [t.tail]).foldl (fun c l => procLine l c) (t.lines.foldl semLine cur)
      = t.lines.foldl semLine cur := by
    split
    · rfl
    · exact procLine_blank t.tail _ htail
  rw [run]
  simp only [hsc, Bool.false_and, Bool.false_eq_true, if_false, List.foldl_append, foldl_procLine_wf _ _ hls, htl]

mutual
def itemBound (v : Variant) : Item → Prop
  | .text t => textBound v t
  | .dom _ body => itemsBound v body
def itemsBound (v : Variant) : List Item → Prop
  | [] => True
  | i :: is => itemBound v i ∧ itemsBound v is
end

theorem tokens_text_empty (t : Text) (h : t.render.isEmpty = true) : t.lines = [] := by
  obtain ⟨ls, tail⟩ := t
  cases ls with
  | nil => rfl
  | cons l ls => simp [Text.render] at h

theorem run_doc (v : Variant) :
    (∀ (i : Item), i.wf = true → itemBound v i →
      ∀ (ts : List Token) (key : Txt) (cur : Elem) (rest : List Frame), cur.ok = true →
      run v (i.tokens ++ ts) (⟨key, cur⟩ :: rest) = run v ts (⟨key, semItem i cur⟩ :: rest)) ∧
    ∀ (is : List Item), wfL is = true → itemsBound v is →
      ∀ (ts : List Token) (key : Txt) (cur : Elem) (rest : List Frame), cur.ok = true →
      run v (tokensL is ++ ts) (⟨key, cur⟩ :: rest) = run v ts (⟨key, semItems is cur⟩ :: rest) := by
  refine Item.induct (fun t hwf hb ts key cur rest _ => ?_) (fun n body ih hwf hb ts key cur rest hok => ?_)
    (fun _ _ ts key cur rest _ => ?_) (fun i is ihi ihs hwf hb ts key cur rest hok => ?_)
  · rw [Item.wf] at hwf
    rw [itemBound] at hb
    rw [Item.tokens, semItem_text]
    split
    · rename_i he; rw [tokens_text_empty t he]; rfl
    · exact run_chardata v t hwf hb ts key cur rest
  · rw [Item.wf] at hwf
    rw [itemBound] at hb
    obtain ⟨cur', hcur', hs⟩ := run_start v n (tokensL body ++ (.fin n :: ts)) key cur rest
    have hbase := baseOf_ok cur n hok
    rw [Item.tokens, List.cons_append, List.append_assoc, List.singleton_append, hs,
      ih hwf hb _ n _ _ hbase.2, run_fin v n ts n _ _ rest ((semItems_name _ _).trans hbase.1), semItem_dom]
    simp only [hcur']
  · rw [tokensL, semItems_nil]; rfl
  · rw [wfL, Bool.and_eq_true] at hwf
    rw [itemsBound] at hb
    rw [tokensL, List.append_assoc, ihi hwf.1 hb.1 _ key cur rest hok,
      ihs hwf.2 hb.2 ts key _ rest (semItem_ok i cur hok), semItems_cons]

theorem run_item (v : Variant) : ∀ (i : Item), i.wf = true → itemBound v i →
    ∀ (ts : List Token) (key : Txt) (cur : Elem) (rest : List Frame), cur.ok = true →
    run v (i.tokens ++ ts) (⟨key, cur⟩ :: rest) = run v ts (⟨key, semItem i cur⟩ :: rest) :=
  (run_doc v).1

theorem bound_iff_maxLine (v : Variant) :
    (∀ (i : Item), itemBound v i ↔ (v = .asFound → i.maxLine < maxScanTokenSize)) ∧
    ∀ (is : List Item), itemsBound v is ↔ (v = .asFound → maxLineL is < maxScanTokenSize) := by
  refine Item.induct (fun t => ?_) (fun n body ih => ?_) ?_ (fun i is ihi ihs => ?_)
  · rw [itemBound, Item.maxLine]; exact Iff.rfl
  · rw [itemBound, Item.maxLine]; exact ih
  · rw [itemsBound, maxLineL]; exact ⟨fun _ _ => by decide, fun _ => trivial⟩
  · rw [itemsBound, maxLineL, ihi, ihs]
    exact ⟨fun h hv => Nat.max_lt.2 ⟨h.1 hv, h.2 hv⟩,
      fun h => ⟨fun hv => (Nat.max_lt.1 (h hv)).1, fun hv => (Nat.max_lt.1 (h hv)).2⟩⟩

theorem bound_repaired : (∀ (i : Item), itemBound .repaired i) ∧ ∀ (is : List Item), itemsBound .repaired is :=
  ⟨fun i => ((bound_iff_maxLine .repaired).1 i).2 nofun, fun is => ((bound_iff_maxLine .repaired).2 is).2 nofun⟩

theorem itemBound_repaired : ∀ (i : Item), itemBound .repaired i := bound_repaired.1

theorem initFrom_tokens (v : Variant) (d : List Item) (hwf : wfL d = true) (hb : itemsBound v d)
    (root0 : Elem) (hok : root0.ok = true) :
    initFrom v root0 ⟨tokensL d, false⟩ = .ok (semItems d root0) := by
  have := (run_doc v).2 d hwf hb [] [] root0 [] hok
  rw [List.append_nil] at this
  rw [initFrom, this, run]
  rfl

theorem parsed (v : Variant) (d : Doc) (hwf : wfL d = true) (hb : itemsBound v d) :
    initFromTokens v ⟨tokensL d, false⟩ = .ok (semItems d newRoot) :=
  initFrom_tokens v d hwf hb newRoot rfl

theorem parsed_repaired (d : Doc) (hwf : wfL d = true) :
    initFromTokens .repaired ⟨tokensL d, false⟩ = .ok (semItems d newRoot) :=
  parsed .repaired d hwf (bound_repaired.2 d)

end Tars.Conf
