import TarsModel.Model.Ref
import TarsModel.Proofs.Parsable

/-!
# Reference decoder: the strict TLV parser reads the rendering of every parsable field back as
  its tree `tlvOf` (fuel ≥ length of the field + 1 suffices).  No schema is involved.
-/
namespace Tars
open Consts WFField Skip
namespace Ref

theorem beNat_foldl (bs : Bytes) (acc : Nat) :
    bs.foldl (fun a b => a * 256 + b.val) acc = acc * 256 ^ bs.length + beVal bs := by
  induction bs generalizing acc with
  | nil => simp [beVal]
  | cons b bs ih =>
    simp only [List.foldl_cons, ih, beVal, List.length_cons, Nat.pow_succ]
    rw [Nat.add_mul, Nat.mul_assoc, Nat.mul_comm 256]
    omega

theorem beNat_eq (bs : Bytes) : beNat bs = beVal bs := by
  unfold beNat; rw [beNat_foldl]; simp

theorem beNat_be (n x : Nat) : beNat (be n x) = x % 256 ^ n := by
  rw [beNat_eq, beVal_be]

theorem sext_eq_toS (bits u : Nat) (h : u < 2 ^ bits) : sext bits u = toS bits u := by
  unfold sext toS
  simp only [Nat.mod_eq_of_lt h]

theorem takeN_append (bs t : Bytes) : takeN bs.length (bs ++ t) = some (bs, t) := by
  simp [takeN]

theorem takeN_be (n x : Nat) (t : Bytes) : takeN n (be n x ++ t) = some (be n x, t) := by
  simpa only [be_length] using takeN_append (be n x) t

theorem parseHead_writeHead (ty tag : Nat) (t : Bytes) (hty : ty < 16) (htag : tag < 256) :
    parseHead (writeHead ty tag ++ t) = some (ty, tag, t) := by
  unfold writeHead
  by_cases hlt : tag < extTagThreshold
  · have hlt' : tag < 15 := hlt
    simp only [hlt, if_true, List.cons_append, List.nil_append, parseHead, byte_val,
      nibbles tag ty (by omega) hty, if_neg (show ¬ tag = 15 by omega)]
  · simp only [hlt, if_false, List.cons_append, List.nil_append, parseHead, byte_val,
      nibbles extTagMarker ty (by decide) hty, Nat.mod_eq_of_lt htag]
    rfl

theorem writeHead_first (ty tag : Nat) (hty : ty < 16) :
    ∃ b rest, writeHead ty tag = b :: rest ∧ b.val % 16 = ty := by
  unfold writeHead
  split
  · rename_i h
    have : tag < 15 := h
    exact ⟨_, [], rfl, by rw [byte_val]; exact (nibbles tag ty (by omega) hty).1⟩
  · exact ⟨_, _, rfl, by rw [byte_val]; exact (nibbles extTagMarker ty (by decide) hty).1⟩

/-! ## the parse tree of a field -/

def intTlv (tag : Nat) (i : Int) : Tlv :=
  Tlv.mk tag (intTy (Tars.minWidth i)) i (Tars.minWidth i) 0 [] []

theorem intTlv_tag (tag : Nat) (i : Int) : (intTlv tag i).tag = tag := rfl

mutual
def tlvOf : WFField → Tlv
  | .byte t b => Tlv.mk t 0 (sext 8 b.val) 1 0 [] []
  | .short t x => Tlv.mk t 1 (sext 16 (x % 256 ^ 2)) 2 0 [] []
  | .int t x => Tlv.mk t 2 (sext 32 (x % 256 ^ 4)) 4 0 [] []
  | .long t x => Tlv.mk t 3 (sext 64 (x % 256 ^ 8)) 8 0 [] []
  | .float t x => Tlv.mk t 4 0 0 (x % 256 ^ 4) [] []
  | .double t x => Tlv.mk t 5 0 0 (x % 256 ^ 8) [] []
  | .string1 t s => Tlv.mk t 6 0 0 0 s []
  | .string4 t s => Tlv.mk t 7 0 0 0 s []
  | .zero t => Tlv.mk t 12 0 0 0 [] []
  | .map t kvs => Tlv.mk t 8 0 0 0 [] (tlvOfPairs kvs)
  | .list t es => Tlv.mk t 9 0 0 0 [] (tlvOfList es)
  | .simpleList t bs => Tlv.mk t 13 0 0 0 bs []
  | .struct t ms => Tlv.mk t 10 0 0 0 [] (tlvOfList ms)
def tlvOfList : List WFField → List Tlv
  | [] => []
  | f :: fs => tlvOf f :: tlvOfList fs
/-- key, value, key, value, … as the parser lists the kids of a MAP -/
def tlvOfPairs : List (WFField × WFField) → List Tlv
  | [] => []
  | (k, v) :: rest => tlvOf k :: tlvOf v :: tlvOfPairs rest
end

theorem tlvOf_tag (f : WFField) : (tlvOf f).tag = f.tag := by cases f <;> rfl

theorem tlvOf_intField (tag : Nat) (i : Int) (hi : -(2:Int)^63 ≤ i ∧ i < (2:Int)^63) :
    tlvOf (intField tag i) = intTlv tag i := by
  -- the parser's sign extension of the payload is the codec's `wrapS`
  have key : ∀ w, sext (8 * w) (toU (8 * w) i % 256 ^ w) = wrapS (8 * w) i := fun w => by
    have hlt := toU_lt (8 * w) i
    rw [show 256 ^ w = 2 ^ (8 * w) by rw [Nat.pow_mul], Nat.mod_eq_of_lt hlt, sext_eq_toS _ _ hlt]
    rfl
  have hwr := wrapS_minWidth i hi
  unfold intField intTlv
  rcases Tars.minWidth_cases i with ⟨hw, rfl⟩ | ⟨hw, _⟩ | ⟨hw, _⟩ | ⟨hw, _⟩ | ⟨hw, _⟩ <;>
    rw [hw] at hwr ⊢ <;> simp only [tlvOf, intTy]
  · rw [byte_val]
    exact congrArg (fun x => Tlv.mk tag 0 x 1 0 [] []) ((key 1).trans hwr)
  · exact congrArg (fun x => Tlv.mk tag 1 x 2 0 [] []) ((key 2).trans hwr)
  · exact congrArg (fun x => Tlv.mk tag 2 x 4 0 [] []) ((key 4).trans hwr)
  · exact congrArg (fun x => Tlv.mk tag 3 x 8 0 [] []) ((key 8).trans hwr)

/-! ## fields without sub-fields and without a count -/

theorem intLeaf_be (tag ty w x : Nat) (t : Bytes) :
    intLeaf tag ty w (be w x ++ t) = some (Tlv.mk tag ty (sext (8 * w) (x % 256 ^ w)) w 0 [] [], t) := by
  unfold intLeaf
  rw [takeN_be]
  simp only [beNat_be]

theorem fltLeaf_be (tag ty w x : Nat) (t : Bytes) :
    fltLeaf tag ty w (be w x ++ t) = some (Tlv.mk tag ty 0 0 (x % 256 ^ w) [] [], t) := by
  unfold fltLeaf
  rw [takeN_be]
  simp only [beNat_be]

def plain : WFField → Bool
  | .map .. | .list .. | .simpleList .. | .struct .. => false
  | _ => true

theorem parse_plain (f : WFField) (hpl : plain f = true) (hf : parsable f = true)
    (total F : Nat) (t : Bytes) (htot : (render f).length ≤ total) :
    parseField total (F+1) (render f ++ t) = some (tlvOf f, t) := by
  rw [render, List.append_assoc, parseField, parseHead_writeHead _ _ _ (ty_lt f) (parsable_tag_lt f hf)]
  -- what is left is the parser's branch for `f.ty`, which `cases f` makes a numeral
  cases f with
  | byte tg b => simp [WFField.ty, WFField.tag, body, intLeaf, takeN, beNat, tlvOf]
  | short tg x => exact intLeaf_be tg 1 2 x t
  | int tg x => exact intLeaf_be tg 2 4 x t
  | long tg x => exact intLeaf_be tg 3 8 x t
  | float tg x => exact fltLeaf_be tg 4 4 x t
  | double tg x => exact fltLeaf_be tg 5 8 x t
  | string1 tg s =>
    simp only [parsable, Bool.and_eq_true, decide_eq_true_eq] at hf
    have hb : (byte s.length).val = s.length := Nat.mod_eq_of_lt (Nat.lt_succ_of_le hf.2)
    simp +decide only [WFField.ty, WFField.tag, body, List.cons_append, if_false, if_true, hb,
      takeN_append, tlvOf]
  | string4 tg s =>
    simp only [parsable, Bool.and_eq_true, decide_eq_true_eq] at hf
    simp only [render, body, List.length_append, be_length] at htot
    simp +decide only [WFField.ty, WFField.tag, body, List.append_assoc, if_false, if_true,
      takeN_be, beNat_be,
      Nat.mod_eq_of_lt (show s.length < 256 ^ 4 by omega), if_neg (show ¬ s.length > total by omega),
      takeN_append, tlvOf]
  | zero tg => simp +decide only [WFField.ty, WFField.tag, body, List.nil_append, if_false, if_true, tlvOf]
  | _ => cases hpl

theorem intField_plain (tag : Nat) (i : Int) : plain (intField tag i) = true := by
  unfold intField; split <;> rfl

theorem lenOf_lenField (total fuel n : Nat) (t : Bytes) (hn : n < 2^31)
    (htot : (lenField n).length ≤ total) :
    lenOf (parseField total (fuel+1) (lenField n ++ t)) = some (n, t) := by
  rw [lenField_eq_render n hn] at htot ⊢
  rw [parse_plain _ (intField_plain 0 n) (intField_parsable 0 n (by decide)) total fuel t htot,
    tlvOf_intField 0 n (by omega)]
  have hty : intTy (Tars.minWidth (n : Int)) = 12 ∨ intTy (Tars.minWidth (n : Int)) ≤ 2 := by
    rcases Tars.minWidth_cases n with ⟨hw, _⟩ | ⟨hw, _⟩ | ⟨hw, _⟩ | ⟨hw, _⟩ | ⟨_, hn'⟩
    all_goals first | (rw [hw]; decide) | omega
  have c2 : ¬ ((n : Int) < 0) := by omega
  rcases hty with h | h <;> simp [lenOf, intTlv, Tlv.tag, Tlv.ty, Tlv.ival, h, c2]

/-! ## loop steps that depend on the next byte -/

theorem parseMembers_end (total fuel : Nat) (t : Bytes) :
    parseMembers total (fuel+1) (writeHead tyStructEnd 0 ++ t) = some ([], t) := by
  conv => lhs; unfold parseMembers
  have : writeHead tyStructEnd 0 ++ t = byte 11 :: t := rfl
  rw [this]
  simp +decide [parseHead]

/-- a field never begins like a StructEnd head -/
theorem render_first (f : WFField) : ∃ b rest, render f = b :: rest ∧ b.val % 16 ≠ 11 := by
  obtain ⟨b, r', hb, hbv⟩ := writeHead_first f.ty f.tag (ty_lt f)
  exact ⟨b, r' ++ body f, by rw [render, hb]; rfl, by rw [hbv]; exact ty_ne_structEnd f⟩

theorem parseMembers_step (total fuel : Nat) (m : WFField) (t : Bytes) :
    parseMembers total (fuel+1) (render m ++ t) =
      match parseField total fuel (render m ++ t) with
      | none => none
      | some (x, q) =>
        match parseMembers total fuel q with
        | none => none
        | some (ms, q2) => some (x :: ms, q2) := by
  obtain ⟨b, rest, hb, hbv⟩ := render_first m
  rw [hb]
  conv => lhs; unfold parseMembers
  simp only [List.cons_append, hbv, if_false]
  rfl

theorem parseTop_step (total fuel : Nat) (m : WFField) (t : Bytes) :
    parseTop total (fuel+1) (render m ++ t) =
      match parseField total fuel (render m ++ t) with
      | none => none
      | some (f, q) =>
        match parseTop total fuel q with
        | none => none
        | some (fs) => some (f :: fs) := by
  obtain ⟨b, rest, hb, _⟩ := render_first m
  rw [hb]
  conv => lhs; unfold parseTop
  rfl

/-! ## every parsable field -/

mutual
theorem parse_render (f : WFField) (hf : parsable f = true) (total fuel : Nat) (t : Bytes)
    (hfuel : (render f).length + 1 ≤ fuel) (htot : (render f).length ≤ total) :
    parseField total fuel (render f ++ t) = some (tlvOf f, t) := by
  obtain ⟨F, rfl⟩ := Nat.exists_eq_add_one.mpr (show 0 < fuel by omega)
  have htag := parsable_tag_lt f hf
  have hh := writeHead_length_pos f.ty f.tag
  cases f with
  | map tg kvs =>
    simp only [parsable, Bool.and_eq_true, decide_eq_true_eq] at hf
    obtain ⟨⟨_, hn⟩, hw⟩ := hf
    have hl := lenField_length_pos kvs.length
    have hge := two_mul_length_le_renderPairs kvs
    simp only [render, body, List.length_append] at hfuel htot
    simp only [render, WFField.ty, WFField.tag, body, List.append_assoc]
    obtain ⟨F', rfl⟩ := Nat.exists_eq_add_one.mpr (show 0 < F by omega)
    rw [parseField, parseHead_writeHead _ tg _ (by decide) htag]
    simp +decide only [if_false, if_true, lenOf_lenField total F' kvs.length _ hn (by omega)]
    rw [if_neg (show ¬ kvs.length > total by omega),
      parsePairs_render kvs hw total (F'+1) t (by omega) (by omega)]
    rfl
  | list tg es =>
    simp only [parsable, Bool.and_eq_true, decide_eq_true_eq] at hf
    obtain ⟨⟨_, hn⟩, hw⟩ := hf
    have hl := lenField_length_pos es.length
    have hge := length_le_renderList es
    simp only [render, body, List.length_append] at hfuel htot
    simp only [render, WFField.ty, WFField.tag, body, List.append_assoc]
    obtain ⟨F', rfl⟩ := Nat.exists_eq_add_one.mpr (show 0 < F by omega)
    rw [parseField, parseHead_writeHead _ tg _ (by decide) htag]
    simp +decide only [if_false, if_true, lenOf_lenField total F' es.length _ hn (by omega)]
    rw [if_neg (show ¬ es.length > total by omega),
      parseElems_render es hw total (F'+1) t (by omega) (by omega)]
    rfl
  | simpleList tg bs =>
    simp only [parsable, Bool.and_eq_true, decide_eq_true_eq] at hf
    simp only [render, body, List.length_append] at hfuel htot
    simp only [render, WFField.ty, WFField.tag, body, List.append_assoc]
    obtain ⟨F', rfl⟩ := Nat.exists_eq_add_one.mpr (show 0 < F by omega)
    rw [parseField, parseHead_writeHead _ tg _ (by decide) htag]
    simp +decide only [if_false, if_true, parseHead_writeHead tyBYTE 0 _ (by decide) (by decide),
      lenOf_lenField total F' bs.length _ hf.2 (by omega), takeN_append, tlvOf]
  | struct tg ms =>
    simp only [parsable, Bool.and_eq_true, decide_eq_true_eq] at hf
    have he := writeHead_length_pos tyStructEnd 0
    simp only [render, body, List.length_append] at hfuel htot
    simp only [render, WFField.ty, WFField.tag, body, List.append_assoc]
    rw [parseField, parseHead_writeHead _ tg _ (by decide) htag]
    simp +decide only [if_false, if_true, parseMembers_render ms hf.2 total F t (by omega) (by omega), tlvOf]
  | _ => exact parse_plain _ rfl hf total F t htot

theorem parseElems_render (es : List WFField) (hw : parsableElems es = true) (total fuel : Nat) (t : Bytes)
    (hfuel : (renderList es).length + 2 ≤ fuel) (htot : (renderList es).length ≤ total) :
    parseElems total fuel es.length (renderList es ++ t) = some (tlvOfList es, t) := by
  obtain ⟨F, rfl⟩ := Nat.exists_eq_add_one.mpr (show 0 < fuel by omega)
  cases es with
  | nil => simp [parseElems, renderList, tlvOfList]
  | cons e es =>
    simp only [parsableElems, Bool.and_eq_true, decide_eq_true_eq] at hw
    have := render_length_pos e
    simp only [renderList_cons, List.length_append] at hfuel htot
    simp only [renderList_cons, List.append_assoc, List.length_cons, parseElems, tlvOfList]
    rw [parse_render e hw.1.2 total F _ (by omega) (by omega)]
    simp only [tlvOf_tag, hw.1.1, ne_eq, not_true_eq_false, if_false]
    rw [parseElems_render es hw.2 total F t (by omega) (by omega)]

theorem parsePairs_render (kvs : List (WFField × WFField)) (hw : parsablePairs kvs = true)
    (total fuel : Nat) (t : Bytes)
    (hfuel : (renderPairs kvs).length + 2 ≤ fuel) (htot : (renderPairs kvs).length ≤ total) :
    parsePairs total fuel kvs.length (renderPairs kvs ++ t) = some (tlvOfPairs kvs, t) := by
  obtain ⟨F, rfl⟩ := Nat.exists_eq_add_one.mpr (show 0 < fuel by omega)
  cases kvs with
  | nil => simp [parsePairs, renderPairs, tlvOfPairs]
  | cons p kvs =>
    obtain ⟨k, v⟩ := p
    simp only [parsablePairs, Bool.and_eq_true, decide_eq_true_eq] at hw
    obtain ⟨⟨⟨⟨hk0, hv1⟩, hk⟩, hv⟩, hw⟩ := hw
    have := render_length_pos k
    have := render_length_pos v
    simp only [renderPairs_cons, List.length_append] at hfuel htot
    simp only [renderPairs_cons, List.append_assoc, List.length_cons, parsePairs, tlvOfPairs]
    rw [parse_render k hk total F _ (by omega) (by omega)]
    simp only
    rw [parse_render v hv total F _ (by omega) (by omega)]
    simp only [tlvOf_tag, hk0, hv1, ne_eq, not_true_eq_false, or_self, if_false]
    rw [parsePairs_render kvs hw total F t (by omega) (by omega)]

theorem parseMembers_render (ms : List WFField) (hw : parsableMembers ms = true) (total fuel : Nat)
    (t : Bytes) (hfuel : (renderList ms).length + 2 ≤ fuel) (htot : (renderList ms).length ≤ total) :
    parseMembers total fuel (renderList ms ++ (writeHead tyStructEnd 0 ++ t))
      = some (tlvOfList ms, t) := by
  obtain ⟨F, rfl⟩ := Nat.exists_eq_add_one.mpr (show 0 < fuel by omega)
  cases ms with
  | nil => simp [renderList, tlvOfList, parseMembers_end]
  | cons m ms =>
    simp only [parsableMembers, Bool.and_eq_true] at hw
    have := render_length_pos m
    simp only [renderList_cons, List.length_append] at hfuel htot
    simp only [renderList_cons, List.append_assoc, tlvOfList]
    rw [parseMembers_step, parse_render m hw.1 total F _ (by omega) (by omega)]
    simp only
    rw [parseMembers_render ms hw.2 total F t (by omega) (by omega)]
end

theorem parseTop_render : ∀ (ms : List WFField), parsableMembers ms = true → ∀ (total fuel : Nat),
    (renderList ms).length + 2 ≤ fuel → (renderList ms).length ≤ total →
    parseTop total fuel (renderList ms) = some (tlvOfList ms)
  | [], _, total, fuel, hfuel, _ => by
    obtain ⟨F, rfl⟩ := Nat.exists_eq_add_one.mpr (show 0 < fuel by omega)
    simp [renderList, tlvOfList, parseTop]
  | m :: ms, hw, total, fuel, hfuel, htot => by
    obtain ⟨F, rfl⟩ := Nat.exists_eq_add_one.mpr (show 0 < fuel by omega)
    simp only [parsableMembers, Bool.and_eq_true] at hw
    have := render_length_pos m
    simp only [renderList_cons, List.length_append] at hfuel htot
    rw [renderList_cons, parseTop_step, parse_render m hw.1 total F _ (by omega) (by omega)]
    simp only
    rw [parseTop_render ms hw.2 total F (by omega) (by omega)]
    rfl

end Ref
end Tars
