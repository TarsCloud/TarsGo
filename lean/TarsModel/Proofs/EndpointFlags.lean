/-
  The `flag.FlagSet.Parse` model on the tokens of a rendered description.
-/
import TarsModel.Proofs.EndpointInt

namespace Tars.Endpoint
open Tars

/-- integer option values are Go `int`s (64 bit) -/
def Opt.IntOk : Opt → Prop
  | .h _ => True
  | .b _ => True
  | .p x => -(2 : Int) ^ 63 ≤ x ∧ x < (2 : Int) ^ 63
  | .t x => -(2 : Int) ^ 63 ≤ x ∧ x < (2 : Int) ^ 63
  | .g x => -(2 : Int) ^ 63 ≤ x ∧ x < (2 : Int) ^ 63
  | .q x => -(2 : Int) ^ 63 ≤ x ∧ x < (2 : Int) ^ 63
  | .w x => -(2 : Int) ^ 63 ≤ x ∧ x < (2 : Int) ^ 63
  | .v x => -(2 : Int) ^ 63 ≤ x ∧ x < (2 : Int) ^ 63
  | .e x => -(2 : Int) ^ 63 ≤ x ∧ x < (2 : Int) ^ 63

theorem set_opt (o : Opt) (st : Flags) (h : o.IntOk) : o.flag.set st o.text = (st.apply o, true) := by
  cases o
  case h x => rfl
  case b x => rfl
  all_goals
    simp only [Opt.flag, Flag.set, Opt.text, Flags.apply, parseInt_fmtInt _ h.1 h.2]
    rfl

theorem Item.pairs_sep (it : Item) (h : it.form = .plain ∨ it.form = .dd) :
    it.pairs = [(it.sep, it.form.dashes ++ [it.opt.flag.letter]), (it.sep2, it.opt.text)] := by
  rcases it with ⟨o, f, s, s2⟩
  rcases h with h | h <;> cases h <;> rfl

theorem Item.pairs_eq (it : Item) (h : ¬ (it.form = .plain ∨ it.form = .dd)) :
    it.pairs = [(it.sep, it.form.dashes ++ [it.opt.flag.letter] ++ B 61 :: it.opt.text)] := by
  rcases it with ⟨o, f, s, s2⟩
  cases f
  · exact absurd (Or.inl rfl) h
  · exact absurd (Or.inr rfl) h
  · rfl
  · rfl

theorem letter_val (fl : Flag) : fl.letter.val ≠ 45 ∧ fl.letter.val ≠ 61 := by
  cases fl <;> decide

theorem lookup_letter (fl : Flag) : lookup [fl.letter] = some fl := by
  cases fl <;> decide

theorem parseArgs_sep (f : Form) (fl : Flag) (v : Bytes) (more : List Bytes) (st st' : Flags)
    (hv : fl.set st v = (st', true)) :
    parseArgs ((f.dashes ++ [fl.letter]) :: v :: more) st = parseArgs more st' := by
  have hl := letter_val fl
  cases f <;> simp [Form.dashes, parseArgs, hl.1, hl.2, splitEq, splitEqAux, lookup_letter, hv]

theorem parseArgs_eq (f : Form) (fl : Flag) (v : Bytes) (more : List Bytes) (st st' : Flags)
    (hv : fl.set st v = (st', true)) :
    parseArgs ((f.dashes ++ [fl.letter] ++ B 61 :: v) :: more) st = parseArgs more st' := by
  have hl := letter_val fl
  cases f <;> simp [Form.dashes, parseArgs, hl.1, hl.2, splitEq, splitEqAux, lookup_letter, hv]

theorem parseArgs_item (it : Item) (more : List Bytes) (st : Flags) (h : it.opt.IntOk) :
    parseArgs (it.pairs.map (·.2) ++ more) st = parseArgs more (st.apply it.opt) := by
  have hs := set_opt it.opt st h
  by_cases hf : it.form = .plain ∨ it.form = .dd
  · rw [it.pairs_sep hf]
    exact parseArgs_sep _ _ _ _ _ _ hs
  · rw [it.pairs_eq hf]
    exact parseArgs_eq _ _ _ _ _ _ hs

theorem parseArgs_items (items : List Item) (st : Flags) (h : ∀ it ∈ items, it.opt.IntOk) :
    parseArgs ((items.flatMap Item.pairs).map (·.2)) st =
      (items.foldl (fun s it => s.apply it.opt) st, .endOfArgs) := by
  induction items generalizing st with
  | nil => rfl
  | cons it items ih =>
    obtain ⟨h1, h2⟩ := List.forall_mem_cons.mp h
    rw [List.flatMap_cons, List.map_append, parseArgs_item it _ st h1, ih _ h2]
    rfl

end Tars.Endpoint
