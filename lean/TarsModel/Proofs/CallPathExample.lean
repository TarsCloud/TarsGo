import TarsModel.Proofs.CallPathCall

/-!
# A concrete instance of the C01 hypotheses (non-vacuity of `C01_transparent`, `C01_failure`,
  `C01_oneway`, and of a call with a reused out variable)

IDL: `struct S { 0 require int a; 1 optional string b; };`
`interface I { long f(int x, out S s); void get(out S s); };`
-/
namespace Tars
open Consts CallPath Filter

namespace C01Example

def sFields : List Field := [⟨0, true, .i32, none⟩, ⟨1, false, .str, none⟩]
def env : Env := [("S", sFields)]
def rk : String → Nat := fun _ => 0

theorem find_S : env.find "S" = some sFields := by simp [env, Env.find]

def zeroS : Val := .struct [.int 0, .str []]
def newS : Val := .struct [.int 5, .str []]
def oldStr : Bytes := [byte 111, byte 108, byte 100]
/-- a reused out variable: `{a: 1, b: "old"}` -/
def oldS : Val := .struct [.int 1, .str oldStr]

def sigF : Sig := ⟨[⟨false, .i32⟩, ⟨true, .struct "S"⟩], some .i64⟩

/-- `f`: returns `x + 1`, sets `s = {a: 5, b: ""}` and the response context `{"k": "v"}`; fails with
    `tars.Errorf(77, "boom")` for `x = 13` -/
def implF : Impl := fun args _ _ =>
  match args with
  | [.int 13] => ⟨none, [], none, none, some (.tars 77 (ascii "boom"))⟩
  | [.int x] => ⟨some (.int (x + 1)), [newS], some [(ascii "k", ascii "v")], none, none⟩
  | _ => ⟨none, [], none, none, some (.plain (ascii "bad arguments"))⟩

def sigG : Sig := ⟨[⟨true, .struct "S"⟩], none⟩

/-- `get`: sets `s = {a: 5, b: ""}` -/
def implG : Impl := fun _ _ _ => ⟨none, [newS], none, none, none⟩

def F : Func := ⟨ascii "f", sigF, implF⟩
def G : Func := ⟨ascii "get", sigG, implG⟩
def iface : Iface := [F, G]
def cfg : Cfg := { servant := ascii "App.Srv.IObj", timeout := 3000, reqId := 7 }

theorem env_wf : EnvWF env rk := EnvWF.of_check (by decide)

theorem tyOK_S : TyOK env rk (env.length + 1) (.struct "S") := by
  simp [TyOK, find_S, rk]

theorem wt_zeroS : WT env (.struct "S") zeroS := by
  simp [zeroS, WT, find_S, sFields, WTm, ScalarOK]

theorem wt_oldS : WT env (.struct "S") oldS := by
  simp [oldS, WT, find_S, sFields, WTm, ScalarOK, oldStr]

theorem wt_newS : WT env (.struct "S") newS := by
  simp [newS, WT, find_S, sFields, WTm, ScalarOK]

theorem callOK_F (oneway : Bool) (x : Int) (hx : I32 x) (s : Val) (hs : WT env (.struct "S") s)
    (o : Option StrMap) (ho : o.getD [] = [])
    (hfit : ((requestPack (proxyRequest env cfg F.name F.sig oneway [.int x, s] [o])).length : Int)
      ≤ cfg.maxLen) :
    CallOK env rk cfg F.name F.sig oneway [.int x, s] [o] where
  envWF := env_wf
  nparams := by decide
  tys := by
    intro p hp
    simp only [F, sigF, List.mem_cons, List.not_mem_nil, or_false] at hp
    rcases hp with rfl | rfl
    · simp [TyOK]
    · exact tyOK_S
  retTy := by intro t ht; simp only [F, sigF, Option.some.injEq] at ht; subst ht; simp [TyOK]
  argsWT := by
    simp only [F, sigF, reqFields, reqFieldsFrom, argField, WTm, and_true]
    exact ⟨by simpa only [WT, ScalarOK] using hx, hs⟩
  version := rfl
  reqId := by decide
  reqIdNZ := by decide
  timeout := by decide
  servant := by decide
  fnLen := by decide
  notPing := by decide
  ctx := by simp only [optsMaps, ho]; exact mapOK_nil
  status := mapOK_nil
  maxLen := by decide
  fits := hfit

theorem callOK_G (s : Val) (hs : WT env (.struct "S") s)
    (hfit : ((requestPack (proxyRequest env cfg G.name G.sig false [s] [])).length : Int) ≤ cfg.maxLen) :
    CallOK env rk cfg G.name G.sig false [s] [] where
  envWF := env_wf
  nparams := by decide
  tys := by
    intro p hp
    simp only [G, sigG, List.mem_cons, List.not_mem_nil, or_false] at hp
    subst hp; exact tyOK_S
  retTy := by intro t ht; simp [G, sigG] at ht
  argsWT := by
    simp only [G, sigG, reqFields, reqFieldsFrom, argField, WTm, and_true]
    exact hs
  version := rfl
  reqId := by decide
  reqIdNZ := by decide
  timeout := by decide
  servant := by decide
  fnLen := by decide
  notPing := by decide
  ctx := mapOK_nil
  status := mapOK_nil
  maxLen := by decide
  fits := hfit

theorem find_F : iface.find F.name = some F := by
  simp [iface, Iface.find, F, G]

theorem find_G : iface.find G.name = some G := by
  have : (ascii "f" == ascii "get") = false := by decide
  simp [iface, Iface.find, List.find?, F, G, this]

theorem implOut_F (x : Int) (hx : x ≠ 13) (s : Val) (opts : List (Option StrMap)) :
    implOut env F [.int x, s] opts
      = ⟨some (.int (x + 1)), [newS], some [(ascii "k", ascii "v")], none, none⟩ := by
  show implF [.int x] ((optsMaps opts).1.getD []) ((optsMaps opts).2.getD []) = _
  unfold implF
  split
  · rename_i h; simp only [List.cons.injEq, Val.int.injEq, and_true] at h; exact absurd h hx
  · rename_i h; simp only [List.cons.injEq, Val.int.injEq, and_true] at h; rw [h]
  · rename_i h; exact absurd rfl (h x)

theorem mapOK_kv : MapOK [(ascii "k", ascii "v")] := ⟨by decide, by simp, by decide⟩

theorem implOK_F (x : Int) (hx : x ≠ 13) (h64 : -(2:Int)^63 ≤ x + 1 ∧ x + 1 < (2:Int)^63) (s : Val)
    (opts : List (Option StrMap))
    (hfit : ((rsp2Byte (replyPacket .repaired env (proxyRequest env cfg F.name F.sig false [.int x, s] opts)
      F.sig (implOut env F [.int x, s] opts))).length : Int) ≤ cfg.maxLen) :
    ImplOK .repaired env cfg (proxyRequest env cfg F.name F.sig false [.int x, s] opts) F.sig
      (implOut env F [.int x, s] opts) := by
  rw [implOut_F x hx] at hfit ⊢
  refine ⟨fun _ => rfl, fun _ => ?_, mapOK_kv, mapOK_nil,
    (fun c m h => by cases h), (fun e h => by cases h), hfit⟩
  simp only [F, sigF, rspFields, retFields, outFields, outFieldsFrom, argField, Option.toList_some,
    List.cons_append, List.nil_append, WTm, WT, ScalarOK, Bool.false_eq_true, if_false, if_true,
    and_true]
  exact ⟨h64, wt_newS⟩
end C01Example

end Tars
