import TarsModel.Model.WireAsFound
import TarsModel.Proofs.Wire

/-!
  The primitives as found (defect D8, `Model/WireAsFound.lean`) against the primitives as they are:
  they agree except in the short-read situation, where the as-found ones succeed on a padded value.
-/
namespace Tars
open Consts

def ShortAt (r : Reader) (n : Nat) : Prop := 0 < r.remaining ∧ r.remaining < n

theorem bReadU_asFound_agree {n : Nat} {r : Reader} (hn : 0 < n) (h : ¬ ShortAt r n) :
    AsFound.bReadU n r = bReadU n r := by
  unfold AsFound.bReadU AsFound.readBuf bReadU readFull ShortAt Reader.remaining at *
  have hn0 : ¬ n = 0 := by omega
  by_cases hp : r.pos ≥ r.data.size
  · simp [hp, hn0]
  · have hfull : n ≤ r.data.size - r.pos := by omega
    have hlen : (takeFrom r.data r.pos n).length = n := by rw [takeFrom_length]; omega
    simp [hp, hn0, hlen, zeros]

/-- D8: in the short-read situation the as-found `bReadU` succeeds, with a zero-padded value,
    where `bReadU` fails -/
theorem bReadU_asFound_short {n : Nat} {r : Reader} (h : ShortAt r n) :
    (∃ v r', AsFound.bReadU n r = (.ok v, r')) ∧ (bReadU n r).1 = .error .eof := by
  unfold AsFound.bReadU AsFound.readBuf bReadU readFull ShortAt Reader.remaining at *
  have hn0 : ¬ n = 0 := by omega
  have hp : ¬ r.pos ≥ r.data.size := by omega
  have hlen : (takeFrom r.data r.pos n).length < n := by rw [takeFrom_length]; omega
  simp [hp, hn0, hlen]

theorem readSlice8_asFound_agree {len : Nat} {r : Reader} (hn : 0 < len) (h : ¬ ShortAt r len) (old : Bytes) :
    AsFound.readSlice8 len r = readSlice8 old (len : Int) r := by
  have hi : ¬ ((len : Int) ≤ 0) := by omega
  unfold readSlice8
  rw [if_neg hi]
  unfold ShortAt at h
  by_cases hp : r.remaining = 0
  · rw [checkLength_of_gt (by omega)]
    unfold Reader.remaining at hp
    have hp' : r.pos ≥ r.data.size := by omega
    simp [AsFound.readSlice8, AsFound.readBuf, hp']
  · rw [checkLength_of_le (by omega) (by simp; omega)]
    unfold Reader.remaining at hp h
    have hp' : ¬ r.pos ≥ r.data.size := by omega
    have hn0 : ¬ len = 0 := by omega
    have hlen : (takeFrom r.data r.pos len).length = len := by rw [takeFrom_length]; omega
    simp [AsFound.readSlice8, AsFound.readBuf, readFull, hp', hn0, hlen, zeros]

theorem readStringTail_asFound_agree {l : Nat} {r : Reader} (h : r.pos + l ≤ r.data.size) :
    AsFound.readStringTail l r = nextExact l r := by
  have hl := r.rest_length
  rw [nextExact_eq, if_neg (by omega)]
  exact next_eq l r

end Tars
