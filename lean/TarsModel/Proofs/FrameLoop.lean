/-
  The parse loop as a function of its input: every input is a sequence of well-formed packets
  followed by a rest on which `tarsRequest` answers `PackageLess` or `PackageError` (`parts`), and
  the loop returns exactly these (`drainServer_parts`).  What C07 needs of one run of the loop is read
  off this: it commutes with appending (key lemma of C07), conserves the bytes, delivers only
  well-formed packets and leaves a rest of the status it reports.  Everything is stated for
  `drainServer`; `drain_eq` carries it to the client's loop.

  At the end, the sender's side: the `frame` of a `Legal` body is a well-formed packet, and a header
  with an illegal length is a rest that closes the connection.
-/
import TarsModel.Proofs.Frame
import TarsModel.Proofs.Bytes

namespace Tars.Frame
open Tars

theorem drainServer_nil (m : Int) : drainServer m [] = ([], [], .open) :=
  drainServer_less (tarsRequest_short m [] (by decide))

def WellFormed (m : Int) (p : Bytes) : Prop :=
  4 ≤ p.length ∧ (p.length : Int) ≤ m ∧ hdrVal p = p.length

theorem tarsRequest_wellFormed {m : Int} {p : Bytes} (hp : WellFormed m p) (t : Bytes) :
    tarsRequest m (p ++ t) = .ret p.length Consts.protoPackageFull := by
  obtain ⟨h4, hm, hv⟩ := hp
  rw [tarsRequest_long m _ (by simp only [List.length_append]; omega), hdrVal_append p t h4, hv,
    if_neg (by omega), if_neg (by simp only [List.length_append]; omega)]

theorem drainServer_cons {m : Int} {p : Bytes} (hp : WellFormed m p) (t : Bytes) :
    drainServer m (p ++ t) =
      ((drainServer m t).1, p :: (drainServer m t).2.1, (drainServer m t).2.2) := by
  rw [drainServer_full (tarsRequest_wellFormed hp t) (by simp), List.take_left, List.drop_left]
  cases t with
  | nil => rw [if_neg (by simp), drainServer_nil]
  | cons _ _ => rw [if_pos (by simp)]

theorem drainServer_prefix {m : Int} {p : Bytes} (hp : WellFormed m p) {k : Nat}
    (hk : k < p.length) : drainServer m (p.take k) = (p.take k, [], .open) := by
  have hlen : (p.take k).length = k := by simp only [List.length_take]; omega
  by_cases h4 : k < 4
  · exact drainServer_less (tarsRequest_short m _ (by omega))
  · have e := tarsRequest_long m (p.take k) (by omega)
    rw [hdrVal, List.take_take, Nat.min_eq_left (by omega), ← hdrVal, hp.2.2, hlen,
      if_neg (by have := hp.2.1; omega), if_pos hk] at e
    exact drainServer_less e

theorem wellFormed_take {m : Int} {b : Bytes} {n : Nat} (hn : n = hdrVal b) (h4 : 4 ≤ n)
    (hm : (n : Int) ≤ m) (hl : n ≤ b.length) : WellFormed m (b.take n) := by
  have hlen : (b.take n).length = n := by simp only [List.length_take]; omega
  refine ⟨by omega, by omega, ?_⟩
  rw [hlen, hdrVal, List.take_take, Nat.min_eq_left h4, hn, hdrVal]

/-- what the loop stops on: an incomplete packet (back at `conn.Read`) or an illegal length -/
def Rest (m : Int) (r : Bytes) : Status → Prop
  | .open => tarsRequest m r = .ret 0 Consts.protoPackageLess
  | .closed => tarsRequest m r = .ret 0 Consts.protoPackageError
  | .panicked => False

theorem rest_nil (m : Int) : Rest m [] .open := tarsRequest_short m [] (by decide)

theorem drainServer_rest {m : Int} {r : Bytes} {s : Status} (h : Rest m r s) :
    drainServer m r = (r, [], s) := by
  cases s with
  | «open» => exact drainServer_less h
  | closed => exact drainServer_error h
  | panicked => exact h.elim

theorem drainServer_packets {m : Int} {ps : List Bytes} (hp : ∀ p ∈ ps, WellFormed m p)
    (t : Bytes) :
    drainServer m (ps.flatten ++ t) =
      ((drainServer m t).1, ps ++ (drainServer m t).2.1, (drainServer m t).2.2) := by
  induction ps with
  | nil => rfl
  | cons p ps ih =>
    rw [List.flatten_cons, List.append_assoc, drainServer_cons (hp p List.mem_cons_self),
      ih (fun q hq => hp q (List.mem_cons_of_mem _ hq))]
    rfl

theorem drainServer_parts {m : Int} {ps : List Bytes} {r : Bytes} {s : Status}
    (hp : ∀ p ∈ ps, WellFormed m p) (hr : Rest m r s) :
    drainServer m (ps.flatten ++ r) = (r, ps, s) := by
  rw [drainServer_packets hp, drainServer_rest hr, List.append_nil]

theorem parts (m : Int) (b : Bytes) :
    ∃ (ps : List Bytes) (r : Bytes) (s : Status),
      b = ps.flatten ++ r ∧ (∀ p ∈ ps, WellFormed m p) ∧ Rest m r s := by
  induction hk : b.length using Nat.strongRecOn generalizing b with
  | _ k ih =>
    cases verdict m b with
    | less h _ => exact ⟨[], b, .open, rfl, fun _ h => (nomatch h), h⟩
    | error h _ _ => exact ⟨[], b, .closed, rfl, fun _ h => (nomatch h), h⟩
    | full n _ hn h4 hm hl =>
      obtain ⟨ps, r, s, e, hp, hr⟩ :=
        ih (b.drop n).length (by simp only [List.length_drop]; omega) _ rfl
      refine ⟨b.take n :: ps, r, s, ?_, List.forall_mem_cons.mpr ⟨wellFormed_take hn h4 hm hl, hp⟩,
        hr⟩
      rw [List.flatten_cons, List.append_assoc, ← e, List.take_append_drop]

theorem drainServer_leaves (m : Int) (b : Bytes) : Rest m (drainServer m b).1 (drainServer m b).2.2 := by
  obtain ⟨ps, r, s, rfl, hp, hr⟩ := parts m b
  rw [drainServer_parts hp hr]
  exact hr

/-- the loop never panics: `tarsRequest` answers `PackageFull` only with `pkgLen ≤ len` -/
theorem drainServer_ne_panicked (m : Int) (b : Bytes) : (drainServer m b).2.2 ≠ .panicked := by
  intro h
  have hr := drainServer_leaves m b
  rwa [h] at hr

/-- **Key lemma.** The loop on `b ++ c` delivers the packets of `b` first and then does what the
loop does on the rest of `b` followed by `c`. -/
theorem drainServer_append (m : Int) (b c : Bytes) :
    drainServer m (b ++ c) =
      ((drainServer m ((drainServer m b).1 ++ c)).1,
        (drainServer m b).2.1 ++ (drainServer m ((drainServer m b).1 ++ c)).2.1,
        (drainServer m ((drainServer m b).1 ++ c)).2.2) := by
  obtain ⟨ps, r, s, rfl, hp, hr⟩ := parts m b
  rw [drainServer_parts hp hr, List.append_assoc, drainServer_packets hp]

theorem drainServer_closed_append (m : Int) (b : Bytes) (h : (drainServer m b).2.2 = .closed)
    (c : Bytes) :
    drainServer m ((drainServer m b).1 ++ c) = ((drainServer m b).1 ++ c, [], .closed) := by
  have hr := drainServer_leaves m b
  rw [h] at hr
  exact drainServer_error (tarsRequest_error_append hr c)

theorem drainServer_conserve (m : Int) (b : Bytes) :
    (drainServer m b).2.1.flatten ++ (drainServer m b).1 = b := by
  obtain ⟨ps, r, s, rfl, hp, hr⟩ := parts m b
  rw [drainServer_parts hp hr]

theorem drainServer_wellformed (m : Int) (b : Bytes) :
    ∀ p ∈ (drainServer m b).2.1, WellFormed m p := by
  obtain ⟨ps, r, s, rfl, hp, hr⟩ := parts m b
  rw [drainServer_parts hp hr]
  exact hp

theorem drainServer_rest_less (m : Int) (b : Bytes) (h : (drainServer m b).2.2 = .open) :
    drainServer m (drainServer m b).1 = ((drainServer m b).1, [], .open) := by
  have hr := drainServer_leaves m b
  rw [h] at hr
  exact drainServer_less hr

theorem frame_length (p : Bytes) : (frame p).length = p.length + 4 := by
  simp [frame, Nat.add_comm]

theorem hdrVal_frame (p : Bytes) (h : p.length + 4 < 2 ^ 32) : hdrVal (frame p) = p.length + 4 := by
  rw [hdrVal, frame, List.take_append_of_le_length (by simp), List.take_of_length_le (by simp),
    beVal_be]
  exact Nat.mod_eq_of_lt h

def Legal (m : Int) (p : Bytes) : Prop := ((p.length + 4 : Nat) : Int) ≤ m ∧ p.length + 4 < 2 ^ 32

theorem wellFormed_frame {m : Int} {p : Bytes} (hp : Legal m p) : WellFormed m (frame p) := by
  rw [WellFormed, hdrVal_frame p hp.2, frame_length]
  exact ⟨by omega, hp.1, rfl⟩

theorem wellFormed_frames {m : Int} {ps : List Bytes} (hp : ∀ p ∈ ps, Legal m p) :
    ∀ q ∈ ps.map frame, WellFormed m q := by
  intro q hq
  obtain ⟨p, hpm, rfl⟩ := List.mem_map.mp hq
  exact wellFormed_frame (hp p hpm)

theorem rest_illegal_hdr {m : Int} (hdr : Bytes) (hlen : hdr.length = 4)
    (hbad : beVal hdr < 4 ∨ (beVal hdr : Int) > m) (t : Bytes) : Rest m (hdr ++ t) .closed := by
  have hv : hdrVal hdr = beVal hdr := by rw [hdrVal, List.take_of_length_le (by omega)]
  exact tarsRequest_illegal (by omega) (hv ▸ hbad) t

end Tars.Frame
