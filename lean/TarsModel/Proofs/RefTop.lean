import TarsModel.Proofs.RefInterp
import TarsModel.Proofs.SchemaFuel

/-!
# Reference decoder: `decRef` as a whole

On encodings: the strict decoder accepts every encoding and returns the normal form.  On arbitrary
bytes: if `decRef` accepts a byte string then the whole input parses as a sequence of fields whose
tags are strictly ascending (hence each at most once), every field carries a declared tag and every
required member is present (`decRef_strict`); that an integer is in its narrowest width is said of
the interpretation of one integer-typed field (`interpInt_strict`), not carried up to `decRef`.
-/
namespace Tars
open Consts WFField
namespace Ref

theorem parseTop_encStruct (env : Env) (rk : String → Nat) (hE : EnvWF env rk) (S : String)
    (fs : List Field) (vs : List Val) (hfs : env.find S = some fs) (hwm : WTm env fs vs) :
    parseTop (encMembers env fs vs).length ((encMembers env fs vs).length + 2) (encMembers env fs vs)
      = some (tlvOfList (wireMembers env fs vs)) := by
  rw [encMembers_eq_render env fs vs hwm]
  exact parseTop_render _ (wireMembers_ok env vs (fun v _ => wireOK_all env rk hE v) fs
    (fun f hf => (hE.memberOK hfs f hf).1) hwm) _ _ (Nat.le_refl _) (Nat.le_refl _)

theorem decRef_eq {env : Env} {S : String} {fs : List Field} (hfs : env.find S = some fs) (b : Bytes) :
    decRef env S b = (parseTop b.length (b.length + 2) b).bind fun ms =>
      if ascending (-1) ms = true then (interpFields env (refFuel env b.length) fs ms).map .struct
      else none := by
  unfold decRef
  simp only [hfs]
  cases parseTop b.length (b.length + 2) b with
  | none => rfl
  | some ms =>
    dsimp only [Option.bind_some]
    cases ascending (-1) ms <;> cases interpFields env (refFuel env b.length) fs ms <;> rfl

theorem decRef_enc (env : Env) (rk : String → Nat) (S : String) (v : Val)
    (hW : WellTyped env rk S v) : decRef env S (encStruct env S v) = some (norm env S v) := by
  obtain ⟨hE, hwt⟩ := hW
  obtain ⟨fs, vs, hfs, rfl, hwm⟩ := WT_structTy_inv hwt
  have hasc := hE.tagsAsc hfs
  have hfuel : needElems vs ≤ refFuel env (encMembers env fs vs).length :=
    needElems_le_budget env S fs vs _ hfs hwm (Nat.le_refl _)
  rw [decRef_eq hfs]
  simp only [encStruct, hfs]
  rw [parseTop_encStruct env rk hE S fs vs hfs hwm, Option.bind_some,
    if_pos (ascending_members env fs vs hwm hasc),
    interpFields_enc env rk vs (fun v _ => interpOK_all env rk hE v) fs _ (hE.memberOK hfs) hasc hwm hfuel]
  simp only [norm, normVar, hfs, Option.map_some]

/-! ## what acceptance means, for arbitrary input bytes -/

theorem interpInt_strict (ty : Ty) (f : Tlv) (v : Val) (h : interpInt ty f = some v) :
    (f.ty = 12 ∨ f.ty ≤ 3) ∧ f.width = Ref.minWidth f.ival ∧ v = .int f.ival := by
  unfold interpInt at h
  split at h
  · cases h
  · rename_i h1
    split at h
    · cases h
    · rename_i lo hi maxw _
      split at h
      · cases h
      · split at h
        · cases h
        · split at h
          · cases h
          · rename_i h5
            cases h
            exact ⟨Decidable.not_not.mp h1, Decidable.not_not.mp h5, rfl⟩

theorem interpFields_strict (env : Env) : ∀ (fuel : Nat) (fs : List Field) (ms : List Tlv)
    (vs : List Val), interpFields env fuel fs ms = some vs →
      (∀ m ∈ ms, ∃ f ∈ fs, f.tag = m.tag) ∧ (∀ f ∈ fs, f.req = true → ∃ m ∈ ms, m.tag = f.tag) ∧
      vs.length = fs.length
  | 0, fs, ms, vs, h => by rw [interpFields] at h; cases h
  | fuel+1, [], [], vs, h => by
    rw [interpFields] at h; cases h; simp
  | fuel+1, [], m :: ms, vs, h => by rw [interpFields] at h; cases h
  | fuel+1, f :: fs, ms, vs, h => by
    by_cases hhere : ∃ m ms', ms = m :: ms' ∧ m.tag = f.tag
    · obtain ⟨m, ms', rfl, ht⟩ := hhere
      rw [interpFields_here env fuel f fs m ms' ht] at h
      simp only [Option.bind_eq_some_iff, Option.map_eq_some_iff] at h
      obtain ⟨v, _, ws, hr, rfl⟩ := h
      obtain ⟨a, b, c⟩ := interpFields_strict env fuel fs ms' ws hr
      refine ⟨?_, ?_, by simp [c]⟩
      · intro x hx
        rcases List.mem_cons.mp hx with rfl | hx
        · exact ⟨f, by simp, ht.symm⟩
        · obtain ⟨g, hg, hgt⟩ := a x hx; exact ⟨g, by simp [hg], hgt⟩
      · intro g hg hreq
        rcases List.mem_cons.mp hg with rfl | hg
        · exact ⟨m, by simp, ht⟩
        · obtain ⟨x, hx, hxt⟩ := b g hg hreq; exact ⟨x, by simp [hx], hxt⟩
    · have hnot : ∀ m ∈ ms.head?, m.tag ≠ f.tag := by
        intro m hm ht
        apply hhere
        cases ms with
        | nil => simp at hm
        | cons x xs => simp at hm; subst hm; exact ⟨_, _, rfl, ht⟩
      rw [interpFields_away env fuel f fs ms hnot] at h
      cases hreq : f.req with
      | true => simp [hreq] at h
      | false =>
        simp only [hreq, Bool.false_eq_true, if_false, Option.map_eq_some_iff] at h
        obtain ⟨ws, hr, rfl⟩ := h
        obtain ⟨a, b, c⟩ := interpFields_strict env fuel fs ms ws hr
        refine ⟨?_, ?_, by simp [c]⟩
        · intro x hx
          obtain ⟨g, hg, hgt⟩ := a x hx; exact ⟨g, by simp [hg], hgt⟩
        · intro g hg hreqg
          rcases List.mem_cons.mp hg with rfl | hg
          · rw [hreq] at hreqg; cases hreqg
          · exact b g hg hreqg

theorem decRef_strict (env : Env) (S : String) (fs : List Field) (b : Bytes) (w : Val)
    (hfs : env.find S = some fs) (h : decRef env S b = some w) :
    ∃ ms vs, parseTop b.length (b.length + 2) b = some ms ∧ w = .struct vs ∧
      vs.length = fs.length ∧
      ms.Pairwise (fun x y => x.tag < y.tag) ∧
      (∀ m ∈ ms, ∃ f ∈ fs, f.tag = m.tag) ∧
      (∀ f ∈ fs, f.req = true → ∃ m ∈ ms, m.tag = f.tag) := by
  rw [decRef_eq hfs] at h
  obtain ⟨ms, hp, h⟩ := Option.bind_eq_some_iff.mp h
  split at h
  · rename_i ha
    obtain ⟨vs, hi, rfl⟩ := Option.map_eq_some_iff.mp h
    obtain ⟨a, c, d⟩ := interpFields_strict env _ fs ms vs hi
    exact ⟨ms, vs, hp, rfl, d, ((ascending_iff ms _).mp ha).2, a, c⟩
  · cases h

end Ref
end Tars
