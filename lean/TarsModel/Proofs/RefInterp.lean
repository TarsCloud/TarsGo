import TarsModel.Proofs.RefParse
import TarsModel.Proofs.SchemaWire

/-!
# Reference decoder: the strict schema-directed interpretation of the tree of the field of a value
  (`tlvOf (wireVar …)`) is its normal form
-/
namespace Tars
open Consts WFField
namespace Ref

/-! ## unfolding -/

theorem interp_succ (env : Env) (fuel : Nat) (ty : Ty) (f : Tlv) :
    interp env (fuel+1) ty f =
      match ty with
      | .bool => interpBool f
      | .f32 => if f.ty ≠ 4 then none else some (.f32 f.bits)
      | .f64 => if f.ty ≠ 5 then none else some (.f64 f.bits)
      | .str =>
        if f.ty ≠ 6 ∧ f.ty ≠ 7 then none
        else if decide (f.ty = 7) ≠ decide (f.str.length > 255) then none
        else some (.str f.str)
      | .vec e =>
        if f.ty = 13 then
          if e = .i8 then some (.list (f.str.map fun c => Val.int (sext 8 c.val)))
          else if e = .u8 then some (.list (f.str.map fun c => Val.int (c.val : Nat)))
          else none
        else if f.ty = 9 then
          if e = .i8 then none
          else
            match interpElems env fuel e f.kids with
            | none => none
            | some vs => some (.list vs)
        else none
      | .arr n e =>
        if f.ty = 9 then
          match interpElems env fuel e f.kids with
          | none => none
          | some vs => if vs.length ≠ n then none else some (.list vs)
        else none
      | .map k v =>
        if f.ty ≠ 8 then none
        else
          match interpPairs env fuel k v f.kids [] with
          | none => none
          | some kvs => some (.map kvs)
      | .struct name =>
        if f.ty ≠ 10 then none
        else
          match env.find name with
          | none => none
          | some fs =>
            if !ascending (-1) f.kids then none
            else
              match interpFields env fuel fs f.kids with
              | none => none
              | some vs => some (.struct vs)
      | t => interpInt t f := by
  conv => lhs; unfold interp
  rfl

theorem interpFields_here (env : Env) (fuel : Nat) (f : Field) (fs : List Field) (m : Tlv)
    (ms : List Tlv) (h : m.tag = f.tag) :
    interpFields env (fuel+1) (f :: fs) (m :: ms) =
      (interp env fuel f.ty m).bind fun v => (interpFields env fuel fs ms).map (v :: ·) := by
  conv => lhs; unfold interpFields
  simp only [h, if_true]
  cases interp env fuel f.ty m with
  | none => rfl
  | some v => dsimp only; cases interpFields env fuel fs ms <;> rfl

theorem interpFields_away (env : Env) (fuel : Nat) (f : Field) (fs : List Field) (ms : List Tlv)
    (h : ∀ m ∈ ms.head?, m.tag ≠ f.tag) :
    interpFields env (fuel+1) (f :: fs) ms =
      if f.req then none else
      (interpFields env fuel fs ms).map (f.dflt.getD (zeroRef env (env.length + 1) f.ty) :: ·) := by
  conv => lhs; unfold interpFields
  cases ms with
  | nil =>
    cases hreq : f.req <;> simp only [hreq, Bool.false_eq_true, if_false, if_true]
    cases f.dflt <;> cases interpFields env fuel fs [] <;> rfl
  | cons m ms' =>
    have : ¬ m.tag = f.tag := h m (by simp)
    cases hreq : f.req <;> simp only [hreq, this, Bool.false_eq_true, if_false, if_true]
    cases f.dflt <;> cases interpFields env fuel fs (m :: ms') <;> rfl

/-! ## narrowest widths -/

/-- the oracle has its own `minWidth` (it shares no code with the codec model or its
    specification); the two agree -/
theorem minWidth_eq (v : Int) : Ref.minWidth v = Tars.minWidth v := by
  have e1 : (-128 ≤ v ∧ v ≤ 127) ↔ (-(2:Int)^7 ≤ v ∧ v < (2:Int)^7) := by omega
  have e2 : (-32768 ≤ v ∧ v ≤ 32767) ↔ (-(2:Int)^15 ≤ v ∧ v < (2:Int)^15) := by omega
  have e3 : (-2147483648 ≤ v ∧ v ≤ 2147483647) ↔ (-(2:Int)^31 ≤ v ∧ v < (2:Int)^31) := by omega
  unfold Ref.minWidth Tars.minWidth
  simp only [e1, e2, e3]

theorem intTy_ok (w : Nat) : intTy w = 12 ∨ intTy w ≤ 3 := by
  unfold intTy; split <;> simp

/-! ## scalars -/

theorem intRange_ok {ty : Ty} {i : Int} (h : ScalarOK ty (.int i)) :
    ∃ lo hi w, intRange ty = some (lo, hi, w) ∧ lo ≤ i ∧ i ≤ hi ∧ Tars.minWidth i ≤ w := by
  have h1 := @minWidth_le_one i
  have h2 := @minWidth_le_two i
  have h4 := @minWidth_le_four i
  have h8 := minWidth_le_eight i
  cases ty <;> simp only [ScalarOK] at h
  all_goals refine ⟨_, _, _, rfl, ?_, ?_, ?_⟩ <;> omega

theorem interpInt_ok (ty : Ty) (i : Int) (tag : Nat) (h : ScalarOK ty (.int i)) :
    interpInt ty (intTlv tag i) = some (.int i) := by
  obtain ⟨lo, hi, w, hr, h1, h2, h3⟩ := intRange_ok h
  unfold interpInt intTlv
  simp only [Tlv.ty, Tlv.width, Tlv.ival, minWidth_eq, hr]
  rw [if_neg (fun h => h (intTy_ok _)), if_neg (by omega), if_neg (by omega), if_neg (by simp)]

/-- interpretation statement for one present member/element.  `interp` descends exactly as
    `decVar` does, so the same measure `needVar` bounds its fuel; of `TyOK` only "no fixed array
    of bytes" is used (an array never travels as a SimpleList). -/
def InterpOK (env : Env) (rk : String → Nat) (ty : Ty) (v : Val) : Prop :=
  ∀ (fuel tag : Nat) (req : Bool) (dflt : Option Val),
    TyOK env rk (env.length + 1) ty → omitted req ty dflt v = false →
    needVar v ≤ fuel →
    interp env fuel ty (tlvOf (wireVar env tag ty v)) = some (normVar env req ty dflt v)

theorem interp_scalar (env : Env) (fuel tag : Nat) (ty : Ty) (v : Val) (hv : ScalarOK ty v) :
    interp env (fuel+1) ty (tlvOf (wireScalar ty v tag)) = some v := by
  rw [interp_succ]
  rcases hv.shape with ⟨b, rfl, rfl⟩ | ⟨i, rfl⟩ | ⟨bits, rfl, rfl⟩ | ⟨bits, rfl, rfl⟩ | ⟨s, rfl, rfl⟩
  case inr.inl =>
    rw [wireScalar_int, tlvOf_intField tag i (scalarOK_int_range hv)]
    cases ty <;> simp only [ScalarOK] at hv
    all_goals exact interpInt_ok _ i tag (by simpa only [ScalarOK] using hv)
  · simp only [wireScalar]
    rw [tlvOf_intField tag _ (by cases b <;> simp)]
    cases b <;> simp +decide [interpBool, intTlv, Tlv.ty, Tlv.width, Tlv.ival, Tars.minWidth, intTy]
  · simp only [ScalarOK] at hv
    simp [wireScalar, tlvOf, Tlv.ty, Tlv.bits, Nat.mod_eq_of_lt (show bits < 256 ^ 4 by simpa using hv)]
  · simp only [ScalarOK] at hv
    simp [wireScalar, tlvOf, Tlv.ty, Tlv.bits, Nat.mod_eq_of_lt (show bits < 256 ^ 8 by simpa using hv)]
  · simp only [wireScalar]
    by_cases hl : s.length > 255 <;> simp [hl, tlvOf, Tlv.ty, Tlv.str]

/-! ## absent optional members -/

theorem zeroRef_atom (env : Env) (n : Nat) (ty : Ty) (h : ty.isAtom = true) :
    zeroRef env n ty = scalarZero ty := by
  cases ty <;> first
    | (simp [zeroRef, scalarZero]; done)
    | (simp [Ty.isAtom, Ty.isScalar] at h; done)

theorem normVar_omitted_zeroRef (env : Env) (n : Nat) (req : Bool) (ty : Ty) (dflt : Option Val) (v : Val)
    (hwt : WT env ty v) (hd : DfltOK ty dflt) (hom : omitted req ty dflt v = true) :
    normVar env req ty dflt v = dflt.getD (zeroRef env n ty) := by
  rcases normVar_omitted hwt hd hom with ⟨hat, h⟩ | ⟨rfl, ⟨e, rfl | rfl⟩, h⟩ | ⟨rfl, ⟨k, w, rfl⟩, h⟩ <;>
    rw [h]
  · rw [zeroRef_atom env n ty hat]
  all_goals simp [zeroRef]

/-! ## vectors and arrays -/

theorem sext8_bytes (env : Env) (vs : List Val) (h : WTs env .i8 vs) :
    (int8Bytes vs).map (fun c => Val.int (sext 8 c.val)) = vs := by
  have h1 := bytesToVals_int8Bytes env vs h
  have h2 : (int8Bytes vs).map (fun c => Val.int (sext 8 c.val)) = bytesToVals true (int8Bytes vs) := by
    simp only [bytesToVals, if_true]
    apply List.map_congr_left
    intro c _
    rw [sext_eq_toS 8 c.val (by have := c.isLt; omega)]
  rw [h2, h1]

theorem interpElems_enc (env : Env) (rk : String → Nat) (e : Ty)
    (he : TyOK env rk (env.length + 1) e) : ∀ (vs : List Val), (∀ v ∈ vs, InterpOK env rk e v) →
    ∀ (fuel : Nat), needElems vs ≤ fuel →
      interpElems env fuel e (tlvOfList (wireElems env e vs)) = some (normElems env e vs)
  | [], _, fuel, hf => by
    obtain ⟨f, rfl⟩ := Nat.exists_eq_add_one.mpr (show 0 < fuel by simp [needElems] at hf; omega)
    simp [wireElems, tlvOfList, normElems, interpElems]
  | v :: vs, ih, fuel, hf => by
    simp only [needElems] at hf
    obtain ⟨f, rfl⟩ := Nat.exists_eq_add_one.mpr (show 0 < fuel by omega)
    simp only [wireElems, tlvOfList, normElems, interpElems]
    rw [ih v (by simp) f 0 true none he (omitted_req e none v) (by omega)]
    simp only
    rw [interpElems_enc env rk e he vs (fun w hw => ih w (by simp [hw])) f (by omega)]

/-! ## maps -/

theorem goEq_eq_keyEq (a b : Val) : goEq a b = keyEq a b := by
  cases a <;> cases b <;> rfl

theorem interpPairs_enc (env : Env) (rk : String → Nat) (k v : Ty)
    (hk : TyOK env rk (env.length + 1) k) (hv : TyOK env rk (env.length + 1) v) :
    ∀ (kvs : List (Val × Val)), (∀ p ∈ kvs, InterpOK env rk k p.1 ∧ InterpOK env rk v p.2) →
      KeysDistinct kvs → ∀ (fuel : Nat) (acc : List (Val × Val)),
        (∀ p ∈ acc, ∀ q ∈ kvs, keyEq p.1 q.1 = false) → needPairs kvs ≤ fuel →
        interpPairs env fuel k v (tlvOfPairs (wirePairs env k v kvs)) acc = some (acc ++ normPairs env k v kvs)
  | [], _, _, fuel, acc, _, hf => by
    obtain ⟨f, rfl⟩ := Nat.exists_eq_add_one.mpr (show 0 < fuel by simp [needPairs] at hf; omega)
    simp [wirePairs, tlvOfPairs, normPairs, interpPairs]
  | (a, b) :: kvs, ih, hdist, fuel, acc, hacc, hf => by
    simp only [needPairs] at hf
    obtain ⟨f, rfl⟩ := Nat.exists_eq_add_one.mpr (show 0 < fuel by omega)
    have iha : InterpOK env rk k a := (ih (a, b) (by simp)).1
    have ihb : InterpOK env rk v b := (ih (a, b) (by simp)).2
    simp only [wirePairs, tlvOfPairs, normPairs, interpPairs]
    rw [iha f 0 true none hk (omitted_req k none a) (by omega)]
    simp only
    rw [ihb f 1 true none hv (omitted_req v none b) (by omega)]
    simp only
    have hd := List.pairwise_cons.mp hdist
    obtain ⟨hkey, hacc'⟩ := keys_fresh_snoc env k (b' := normVar env true v none b) hacc hd.1
    have hfresh : acc.any (fun p => goEq p.1 (normVar env true k none a)) = false := by
      rw [List.any_eq_false]
      intro p hp
      rw [goEq_eq_keyEq, hkey p hp]
      decide
    rw [hfresh]
    simp only [Bool.false_eq_true, if_false]
    rw [interpPairs_enc env rk k v hk hv kvs (fun p hp => ih p (by simp [hp])) hd.2 f
      (acc ++ [(normVar env true k none a, normVar env true v none b)]) hacc'
      (by omega)]
    simp

/-! ## structs -/

theorem tlvOfList_tags : ∀ (ms : List WFField), (tlvOfList ms).map Tlv.tag = ms.map WFField.tag
  | [] => rfl
  | m :: ms => by simp only [tlvOfList, List.map_cons, tlvOf_tag, tlvOfList_tags ms]

theorem ascending_iff : ∀ (ms : List Tlv) (last : Int), ascending last ms = true ↔
    (∀ m ∈ ms, last < (m.tag : Int)) ∧ ms.Pairwise (fun a b => a.tag < b.tag)
  | [], _ => by simp [ascending]
  | m :: ms, last => by
    simp only [ascending, Bool.and_eq_true, decide_eq_true_eq, ascending_iff ms, List.forall_mem_cons,
      List.pairwise_cons]
    constructor
    · exact fun ⟨h, h1, h2⟩ => ⟨⟨h, fun x hx => by have := h1 x hx; omega⟩, fun x hx => by have := h1 x hx; omega, h2⟩
    · exact fun ⟨⟨h, _⟩, h1, h2⟩ => ⟨h, fun x hx => by have := h1 x hx; omega, h2⟩

theorem written_tags (env : Env) {fs : List Field} {vs : List Val} (h : WTm env fs vs) :
    ((tlvOfList (wireMembers env fs vs)).map Tlv.tag).Sublist (fs.map Field.tag) :=
  tlvOfList_tags _ ▸ wireMembers_tags env fs vs h

theorem wireMembers_head_tag (env : Env) {fs : List Field} {vs : List Val} (h : WTm env fs vs)
    {tag : Nat} (hlt : ∀ f ∈ fs, tag < f.tag) :
    ∀ m ∈ (tlvOfList (wireMembers env fs vs)).head?, m.tag ≠ tag := by
  intro m hm
  obtain ⟨f, hf, hft⟩ := List.mem_map.mp
    ((written_tags env h).subset (List.mem_map_of_mem (List.mem_of_mem_head? hm)))
  have := hlt f hf
  omega

theorem ascending_members (env : Env) (fs : List Field) (vs : List Val)
    (h : WTm env fs vs) (hasc : TagsAsc fs) :
    ascending (-1) (tlvOfList (wireMembers env fs vs)) = true :=
  (ascending_iff _ _).mpr ⟨fun m _ => by omega,
    List.pairwise_map.mp (((List.pairwise_map.mpr hasc)).sublist (written_tags env h))⟩

theorem interpFields_enc (env : Env) (rk : String → Nat) :
    ∀ (vs : List Val), (∀ v ∈ vs, ∀ ty, WT env ty v → InterpOK env rk ty v) →
      ∀ (fs : List Field) (fuel : Nat), (∀ f ∈ fs, MemberOK env rk f) → TagsAsc fs →
      WTm env fs vs → needElems vs ≤ fuel →
      interpFields env fuel fs (tlvOfList (wireMembers env fs vs)) = some (normMembers env fs vs)
  | [], _, fs, fuel, _, _, hwt, hf => by
    obtain ⟨f, rfl⟩ := Nat.exists_eq_add_one.mpr (show 0 < fuel by simp [needElems] at hf; omega)
    cases fs with
    | nil => simp [wireMembers, tlvOfList, normMembers, interpFields]
    | cons g gs => simp [WTm] at hwt
  | v :: vs, ih, fs, fuel, hfs, hasc, hwt, hf => by
    simp only [needElems] at hf
    obtain ⟨f, rfl⟩ := Nat.exists_eq_add_one.mpr (show 0 < fuel by omega)
    cases fs with
    | nil => simp [WTm] at hwt
    | cons g gs =>
      simp only [WTm] at hwt
      have hg := hfs g (by simp)
      have hasc' := List.pairwise_cons.mp hasc
      have ihrest := interpFields_enc env rk vs (fun w hw => ih w (by simp [hw])) gs f
        (fun f' hf' => hfs f' (by simp [hf'])) hasc'.2 hwt.2 (by omega)
      simp only [wireMembers, normMembers]
      by_cases hom : omitted g.req g.ty g.dflt v = true
      · rw [if_pos hom, interpFields_away env f g gs _ (wireMembers_head_tag env hwt.2 hasc'.1), ihrest,
          normVar_omitted_zeroRef env (env.length + 1) g.req g.ty g.dflt v hwt.1 hg.2.2 hom, omitted.not_req hom]
        rfl
      · rw [if_neg hom, tlvOfList,
          interpFields_here env f g gs _ _ ((tlvOf_tag _).trans (wireVar_tag env g.tag hwt.1)),
          ih v (by simp) g.ty hwt.1 f g.tag g.req g.dflt hg.2.1 (by simpa using hom) (by omega), ihrest]
        rfl

theorem interpOK_all (env : Env) (rk : String → Nat) (hE : EnvWF env rk) :
    ∀ v ty, WT env ty v → InterpOK env rk ty v := by
  refine WT.ind ?_ ?_ ?_ ?_
  · intro ty v hl hv fuel tag req dflt _ hom hfuel
    obtain ⟨f, rfl⟩ := Nat.exists_eq_add_one.mpr (show 0 < fuel by have := needVar_pos v; omega)
    rw [wireVar_leaf env tag ty hl, interp_scalar env f tag ty v hv, normVar_scalar_present env req ty dflt v hv hom]
  · intro ty e vs hty' _ ih fuel tag req dflt hty _ hfuel
    simp only [needVar] at hfuel
    obtain ⟨f, rfl⟩ := Nat.exists_eq_add_one.mpr (show 0 < fuel by omega)
    have hwts : WTs env e vs := WTs_of_mem fun v hv => (ih v hv).1
    rw [interp_succ]
    rcases hty' with rfl | rfl
    all_goals simp only [TyOK] at hty
    · simp only [wireVar, normVar]
      by_cases c2 : e = .i8
      · subst c2
        simp +decide only [if_true, tlvOf, Tlv.ty, Tlv.str]
        rw [sext8_bytes env vs hwts, normElems_atom env rfl vs hwts]
      · simp only [c2, if_false, tlvOf, Tlv.ty, Tlv.kids]
        simp +decide only [if_true, if_false]
        rw [interpElems_enc env rk e hty vs (fun v hv => (ih v hv).2) f (by omega)]
    · simp only [wireVar, normVar, hty.1, if_false, tlvOf, Tlv.ty, Tlv.kids]
      simp +decide only [if_true]
      rw [interpElems_enc env rk e hty.2.2 vs (fun v hv => (ih v hv).2) f (by omega)]
      simp only [normElems_length, ne_eq, not_true_eq_false, if_false]
  · intro k v kvs _ hd ih fuel tag req dflt hty _ hfuel
    simp only [needVar] at hfuel
    obtain ⟨f, rfl⟩ := Nat.exists_eq_add_one.mpr (show 0 < fuel by omega)
    rw [interp_succ]
    simp only [TyOK] at hty
    simp only [wireVar, normVar, tlvOf, Tlv.ty, Tlv.kids]
    simp +decide only [if_false]
    rw [interpPairs_enc env rk k v hty.1 hty.2 kvs (fun p hp => ⟨(ih p hp).1.2, (ih p hp).2.2⟩) hd f []
      (by intro p hp; cases hp) (by omega)]
    simp
  · intro name fs vs hfs hwt ih fuel tag req dflt _ _ hfuel
    simp only [needVar] at hfuel
    obtain ⟨f, rfl⟩ := Nat.exists_eq_add_one.mpr (show 0 < fuel by omega)
    rw [interp_succ]
    have hasc := hE.tagsAsc hfs
    simp only [wireVar, normVar, hfs, tlvOf, Tlv.ty, Tlv.kids]
    simp +decide only [if_false]
    rw [ascending_members env fs vs hwt hasc]
    simp only [Bool.not_true, Bool.false_eq_true, if_false]
    rw [interpFields_enc env rk vs ih fs f (hE.memberOK hfs) hasc hwt (by omega)]

end Ref
end Tars
