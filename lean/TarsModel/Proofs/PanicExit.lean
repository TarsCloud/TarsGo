/-
  The panic-exit model (`Model/PanicExit.lean`): a flush happens before the exit iff a plain flush
  statement stands before the first `os.Exit`. Every step below is an unfolding of `run`,
  `flushedBeforeExit`, `plainFlushBeforeExit` or `List.contains` on a known head, so the induction
  hypotheses close the goals as they stand.
-/
import TarsModel.Model.PanicExit

namespace Tars.PanicExit

theorem run_contains_exit (body : List PStmt) : ∀ d, (run body d).contains .exit = body.contains .exit := by
  induction body with
  | nil =>
    intro d
    induction d with
    | zero => rfl
    | succ d ih => exact ih
  | cons s rest ih =>
    intro d
    cases s with
    | dumpStack => exact ih d
    | flush => exact ih d
    | exit => rfl
    | deferFlush => exact ih (d + 1)

theorem flushed_iff_plain (body : List PStmt) : ∀ d,
    flushedBeforeExit (run body d) = plainFlushBeforeExit body := by
  induction body with
  | nil =>
    intro d
    cases d with
    | zero => rfl
    | succ d => exact run_contains_exit [] d
  | cons s rest ih =>
    intro d
    cases s with
    | dumpStack => exact ih d
    | flush => exact run_contains_exit rest d
    | exit => rfl
    | deferFlush => exact ih (d + 1)

end Tars.PanicExit
