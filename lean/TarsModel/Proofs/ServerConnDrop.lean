import TarsModel.Proofs.ServerConnInv

/-!
Requests that are never finished (C12, D15 and the early-return leak): a request whose handler can
make no further move while `numInvoke` still counts it keeps its connection open under EVERY
continuation, and `Shutdown` can no longer return through `CloseIdles` (`Stuck`). Two instances: a job
still queued when the pool's dispatcher has taken the stop request (`Dropped`), and a handler that
returned past its decrement (`Stuck .leaked`).
-/
namespace Tars.ServerConn

/-- request `i` of connection `c` is in the handler state `st`; its connection is open and in the
connection table, no `CloseIdles` call holds it for closing or can still report "all closed" without
visiting it, and `Shutdown` has not returned through `CloseIdles` -/
structure Stuck (st : HSt) (s : State) (c i : Nat) : Prop where
  there : ∃ k q, s.conns[c]? = some k ∧ k.reqs[i]? = some q ∧ q.st = st ∧
    k.srvClosed = false ∧ k.registered = true
  pass : ∀ p, s.pass = some p → p.holding ≠ some c ∧ (p.all = true → c ∈ p.todo)
  notRet : s.spc ≠ .returned true

/-- A request in a state `st` that its handler cannot leave, and that `numInvoke` counts, stays there
whatever happens next: the drain never sees `numInvoke = 0`, `CloseIdles` always finds the connection
busy. -/
theorem stuck_step {cfg : Cfg} {st : HSt} {s s' : State} {a : Action} {c i : Nat} (hnd : st.isDone = false)
    (hfix : ∀ {k q st' d}, q.st = st → ¬ HMove cfg s k q st' d) (hI : GInv cfg s) (hd : Stuck st s c i)
    (h : GStep cfg s a s') : Stuck st s' c i := by
  obtain ⟨k, q, hck, hq, hqs, hcl, hreg⟩ := hd.there
  have hpos : 0 < k.numInvoke := (hI.conns c k hck).numInvoke_pos hq (hqs ▸ hnd)
  obtain ⟨k', hck', hq', hcl', hreg'⟩ : ∃ k', s'.conns[c]? = some k' ∧ k'.reqs[i]? = some q ∧
      k'.srvClosed = false ∧ k'.registered = true := by
    refine h.at_conn hck ⟨hq, hcl, hreg⟩ (fun hs => ?_)
      ⟨by rw [cNotify_reqs]; exact hq, by rw [cNotify_srvClosed]; exact hcl, by rw [cNotify_registered]; exact hreg⟩
      fun hg => ?_
    · cases hs with
      | env | accept | loop | readReturn | drainTick => exact ⟨hq, hcl, hreg⟩
      | register => exact ⟨hq, hcl, rfl⟩
      | dispatch => exact ⟨getElem?_append_of_some hq, hcl, hreg⟩
      | drainClose _ hz => omega
      | handler j q' st' d hq' hm =>
        refine ⟨?_, hcl, hreg⟩
        by_cases hij : j = i
        · subst hij
          cases hq.symm.trans hq'
          exact absurd hm (hfix hqs)
        · rw [List.getElem?_set_ne hij]; exact hq
    · rcases hg with ⟨_, hz⟩ | ⟨p, hp, hh⟩
      · omega
      · exact absurd hh (hd.pass p hp).1
  have there' : ∃ k q, s'.conns[c]? = some k ∧ k.reqs[i]? = some q ∧ q.st = st ∧
      k.srvClosed = false ∧ k.registered = true := ⟨k', q, hck', hq', hqs, hcl', hreg'⟩
  have herase : ∀ {p : Pass} {c' : Cid}, s.pass = some p → c' ≠ c → p.all = true → c ∈ p.todo.erase c' :=
    fun hp hne ha => (List.mem_erase_of_ne (Ne.symm hne)).mpr ((hd.pass _ hp).2 ha)
  cases h with
  | connect | conn | pTake | acceptExit | relCall | pStop | relRet | closeMsg =>
    exact ⟨there', hd.pass, hd.notRet⟩
  | shutdownCall | setClosed | onShutdownRet | ctxExpire => exact ⟨there', hd.pass, nofun⟩
  | ciNotify | ciBegin =>
    refine ⟨there', fun p hp => ?_, hd.notRet⟩
    cases hp
    exact ⟨nofun, fun _ => mem_registeredIds.mpr ⟨k', hck', hreg'⟩⟩
  | ciGone c' p k0 hp _ hk0 hr =>
    have hne : c' ≠ c := fun e => by subst e; cases hck.symm.trans hk0; rw [hreg] at hr; cases hr
    exact ⟨there', fun p' hp' => by cases hp'; exact ⟨(hd.pass p hp).1, herase hp hne⟩, hd.notRet⟩
  | ciBusy c' p hp =>
    exact ⟨there', fun p' hp' => by cases hp'; exact ⟨(hd.pass p hp).1, nofun⟩, hd.notRet⟩
  | ciHold c' p k0 hp _ hk0 hz =>
    have hne : c' ≠ c := fun e => by subst e; cases hck.symm.trans hk0; omega
    exact ⟨there', fun p' hp' => by cases hp'; exact ⟨fun e => hne (Option.some.inj e), herase hp hne⟩,
      hd.notRet⟩
  | ciCloseNow c' p k0 hp _ hk0 hz =>
    have hne : c' ≠ c := fun e => by subst e; cases hck.symm.trans hk0; omega
    exact ⟨there', fun p' hp' => by cases hp'; exact ⟨(hd.pass p hp).1, herase hp hne⟩, hd.notRet⟩
  | ciClose c' p _ hp =>
    exact ⟨there', fun p' hp' => by cases hp'; exact ⟨nofun, (hd.pass p hp).2⟩, hd.notRet⟩
  | ciEnd p _ hp ht =>
    refine ⟨there', fun _ hp' => (by cases hp'), ?_⟩
    cases hpa : p.all with
    | false => nofun
    | true => have := (hd.pass p hp).2 hpa; rw [ht] at this; cases this

theorem Stuck.of_no_pass {st : HSt} {s : State} {c i : Nat}
    (ht : ∃ k q, s.conns[c]? = some k ∧ k.reqs[i]? = some q ∧ q.st = st ∧ k.srvClosed = false ∧ k.registered = true)
    (hp : s.pass = none) (hr : s.spc ≠ .returned true) : Stuck st s c i :=
  ⟨ht, fun _ h => (by rw [hp] at h; cases h), hr⟩

theorem Stuck.counted {cfg : Cfg} {st : HSt} {s : State} {c i : Nat} (hd : Stuck st s c i) (hnd : st.isDone = false)
    (hr : Reachable cfg s) : (∃ k q, s.conns[c]? = some k ∧ k.reqs[i]? = some q ∧ q.st = st ∧ 0 < k.numInvoke ∧
      k.srvClosed = false) ∧ s.spc ≠ .returned true := by
  obtain ⟨k, q, hk, hq, hqs, hcl, _⟩ := hd.there
  exact ⟨⟨k, q, hk, hq, hqs, ((ginv_reachable hr).conns c k hk).numInvoke_pos hq (hqs ▸ hnd), hcl⟩, hd.notRet⟩

theorem leaked_run {cfg : Cfg} {c i : Nat} {acts : List Action} {s s' : State} (hr : Reachable cfg s)
    (hd : Stuck .leaked s c i) (h : runFrom cfg s acts = some s') :
    (∃ k q, s'.conns[c]? = some k ∧ k.reqs[i]? = some q ∧ q.st = .leaked ∧ 0 < k.numInvoke ∧
      k.srvClosed = false) ∧ s'.spc ≠ .returned true :=
  (runFrom_ginv (stuck_step rfl fun hst hm => by cases hm <;> simp_all) hr hd h).counted rfl (runFrom_reachable hr h)

/-- request `i` of connection `c` sits in a pool whose dispatcher no longer takes jobs -/
structure Dropped (s : State) (c i : Nat) : Prop where
  stopped : s.pst = .stopping ∨ s.pst = .stopped
  noHeld : s.held = none
  there : ∃ k q, s.conns[c]? = some k ∧ k.reqs[i]? = some q ∧ q.st = .queued ∧
    k.srvClosed = false ∧ k.registered = true
  pass : ∀ p, s.pass = some p → p.holding ≠ some c ∧ (p.all = true → c ∈ p.todo)
  notRet : s.spc ≠ .returned true
  /-- `Release` has been called: the accept loop is past the call -/
  apcPast : s.apc = .inRelease ∨ s.apc = .returned

/-- the pool's dispatcher has taken the stop request with an empty hand; `Handle` is past `Release()` -/
def Frozen (s : State) : Prop :=
  (s.pst = .stopping ∨ s.pst = .stopped) ∧ s.held = none ∧ (s.apc = .inRelease ∨ s.apc = .returned)

theorem dropped_iff {s : State} {c i : Nat} : Dropped s c i ↔ Stuck .queued s c i ∧ Frozen s :=
  ⟨fun h => ⟨⟨h.there, h.pass, h.notRet⟩, h.stopped, h.noHeld, h.apcPast⟩,
   fun h => ⟨h.2.1, h.2.2.1, h.1.there, h.1.pass, h.1.notRet, h.2.2.2⟩⟩

/-- The dropped request stays dropped, whatever happens next (any configuration with a pool): a queued
job leaves the queue only through the dispatcher's hand, which is empty and stays so. -/
theorem dropped_step {cfg : Cfg} (hpool : poolOn cfg = true) {s s' : State} {a : Action} {c i : Nat}
    (hI : GInv cfg s) (hd : Dropped s c i) (h : GStep cfg s a s') : Dropped s' c i := by
  obtain ⟨hs, hstop, hheld, hapc⟩ := dropped_iff.mp hd
  refine dropped_iff.mpr ⟨stuck_step rfl (fun hst hm => ?_) hI hs h, ?_⟩
  · cases hm with
    | start hp => rw [hpool] at hp; cases hp
    | hand _ hh => rw [hheld] at hh; cases hh
    | _ => simp_all
  have running : ∀ {X : Prop}, s.pst = .live ∨ s.pst = .stopReq → X := fun hl => by
    rcases hstop with e | e <;> rw [e] at hl <;> rcases hl with hl | hl <;> cases hl
  cases h with
  | conn _ _ _ _ _ held _ _ _ hh =>
    refine ⟨hstop, ?_, hapc⟩
    rcases hh with rfl | rfl | hl
    · exact hheld
    · rfl
    · exact running hl
  | pTake _ _ hl => exact running hl
  | acceptExit ha | relCall ha => rcases hapc with e | e <;> rw [e] at ha <;> cases ha
  | pStop hp => exact running (.inr hp)
  | relRet => exact ⟨.inr rfl, hheld, .inr rfl⟩
  | _ => exact ⟨hstop, hheld, hapc⟩

theorem dropped_run {cfg : Cfg} (hpool : poolOn cfg = true) {c i : Nat} {acts : List Action} {s s' : State}
    (hr : Reachable cfg s) (hd : Dropped s c i) (h : runFrom cfg s acts = some s') :
    (∃ k q, s'.conns[c]? = some k ∧ k.reqs[i]? = some q ∧ q.st = .queued ∧ 0 < k.numInvoke ∧
      k.srvClosed = false) ∧ s'.spc ≠ .returned true :=
  (dropped_iff.mp (runFrom_ginv (dropped_step hpool) hr hd h)).1.counted rfl (runFrom_reachable hr h)

end Tars.ServerConn
