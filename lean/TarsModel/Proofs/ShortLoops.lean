import TarsModel.Proofs.ShortTR

/-!
  C06, member level: the element loops of vectors, fixed arrays and maps on a cut input fail,
  given the cut statement `TR` for the elements.
-/
namespace Tars
open Consts

/-- one element (vector or array element, map key or value) of a loop.  The fuel bound goes down
    with the input: a non-empty encoding pays for the `needVar` of its value (`fuelOK_all`), and
    `+ 2` is what a loop iteration and the member read below it take without consuming input -/
theorem elem_cut (env : Env) (rk : String → Nat) (hE : EnvWF env rk) {v : Val} (htr : TR env rk v)
    {F tag : Nat} {e : Ty} {old : Val} {r : Reader} {q t : Bytes} (htag : tag < 256)
    (he : TyOK env rk (env.length + 1) e) (hwt : WT env e v) (hro : OldOK env e none old)
    (hq : Cut q (encVar env tag true e none v ++ t))
    (hf : (env.width + 3) * q.length + 2 ≤ F + 1) (hr : r.rest = q) :
    (∃ er r', decVar env F tag true e old r = (.error er, r')) ∨
    ∃ q', q = encVar env tag true e none v ++ q' ∧ Cut q' t ∧
      (env.width + 3) * q'.length + 2 ≤ F ∧
      decVar env F tag true e old r
        = (.ok (normVar env true e none v), r.adv (encVar env tag true e none v).length) ∧
      (r.adv (encVar env tag true e none v).length).rest = q' := by
  rcases hq.append with hc | ⟨q', rfl, hq'⟩
  · exact .inl (cutRes_req_error (htr F tag true e none old r q htag he trivial hwt hro hc (by omega) hr))
  · have hpos := encVar_req_pos env tag e none v hwt
    have hneed := (fuelOK_all env v e hwt tag true none).2 hpos
    have : (env.width + 3) * 1 ≤ (env.width + 3) * (encVar env tag true e none v).length :=
      Nat.mul_le_mul_left _ hpos
    simp only [List.length_append, Nat.mul_add] at hf
    exact .inr ⟨q', rfl, hq', by omega,
      (rtHeldAt_all env rk hE v F).elem htag he hwt (.inl hro) (by omega) hr, r.rest_adv hr⟩

theorem decElems_cut (env : Env) (rk : String → Nat) (hE : EnvWF env rk) (e : Ty)
    (he : TyOK env rk (env.length + 1) e) :
    ∀ (vs : List Val), (∀ v ∈ vs, TR env rk v) → WTs env e vs →
      ∀ (fuel : Nat) (acc : List Val) (r : Reader) (q : Bytes), Cut q (encElems env e vs) →
        (env.width + 3) * q.length + 2 ≤ fuel → r.rest = q →
        ∃ er r', decElems env fuel e vs.length acc r = (.error er, r')
  | [], _, _, _, _, _, q, hq, _, _ => by simp only [encElems] at hq; exact absurd hq Cut.not_nil
  | v :: vs, ih, hwt, fuel, acc, r, q, hq, hf, hr => by
    obtain ⟨F, rfl⟩ : ∃ F, fuel = F + 1 := ⟨fuel - 1, by omega⟩
    simp only [WTs] at hwt
    simp only [encElems] at hq
    rw [List.length_cons, decElems_succ]
    rcases elem_cut env rk hE (ih v (by simp)) (by decide) he hwt.1 (zeroOf_ready hE e he) hq hf hr
      with ⟨er, r', h⟩ | ⟨q', rfl, hq', hf', hv, hr'⟩
    · exact ⟨er, r', by rw [h]⟩
    · rw [hv]
      exact decElems_cut env rk hE e he vs (fun w hw => ih w (by simp [hw])) hwt.2 F _ _ q' hq' hf' hr'

/-- the array loop at index `i`: `pre` holds the `i` elements already written back, `olds` the
    targets still to be read (one per remaining value), the array has `n = i + vs.length` places -/
theorem decArr_cut (env : Env) (rk : String → Nat) (hE : EnvWF env rk) (e : Ty)
    (he : TyOK env rk (env.length + 1) e) :
    ∀ (vs : List Val), (∀ v ∈ vs, TR env rk v) → WTs env e vs →
      ∀ (fuel n i : Nat) (pre olds : List Val) (r : Reader) (q : Bytes),
        i = pre.length → n = i + vs.length → olds.length = vs.length → ReadyAll env e olds →
        Cut q (encElems env e vs) → (env.width + 3) * q.length + 2 ≤ fuel → r.rest = q →
        ∃ er r', decArr env fuel e n i (n : Int) (pre ++ olds) r = (.error er, r')
  | [], _, _, _, _, _, _, _, _, q, _, _, _, _, hq, _, _ => by
    simp only [encElems] at hq; exact absurd hq Cut.not_nil
  | v :: vs, ih, hwt, fuel, n, i, pre, olds, r, q, hi, hn, hol, hro, hq, hf, hr => by
    obtain ⟨F, rfl⟩ : ∃ F, fuel = F + 1 := ⟨fuel - 1, by omega⟩
    obtain ⟨o, os, rfl⟩ : ∃ o os, olds = o :: os := by
      cases olds with
      | nil => simp at hol
      | cons o os => exact ⟨o, os, rfl⟩
    simp only [WTs] at hwt
    simp only [ReadyAll] at hro
    simp only [List.length_cons] at hn hol
    simp only [encElems] at hq
    have c1 : ¬ ((i : Int) ≥ (n : Int)) := by omega
    have c2 : ¬ (i ≥ n) := by omega
    have hget : (pre ++ o :: os).getD i (zeroOf env e) = o := by subst hi; simp [List.getD]
    rw [decArr_succ, if_neg c1, if_neg c2, hget]
    rcases elem_cut env rk hE (ih v (by simp)) (by decide) he hwt.1 hro.1 hq hf hr
      with ⟨er, r', h⟩ | ⟨q', rfl, hq', hf', hv, hr'⟩
    · exact ⟨er, r', by rw [h]⟩
    · have hset : listSet (pre ++ o :: os) i (normVar env true e none v)
          = (pre ++ [normVar env true e none v]) ++ os := by subst hi; rw [listSet_mid]
      rw [hv]; simp only; rw [hset]
      exact decArr_cut env rk hE e he vs (fun w hw => ih w (by simp [hw])) hwt.2 F n (i+1) _ os _ q'
        (by simp [hi]) (by omega) (by omega) hro.2 hq' hf' hr'

theorem decPairs_cut (env : Env) (rk : String → Nat) (hE : EnvWF env rk) (k v : Ty)
    (hk : TyOK env rk (env.length + 1) k) (hv : TyOK env rk (env.length + 1) v) :
    ∀ (kvs : List (Val × Val)), (∀ p ∈ kvs, TR env rk p.1 ∧ TR env rk p.2) → WTp env k v kvs →
      ∀ (fuel : Nat) (acc : List (Val × Val)) (r : Reader) (q : Bytes),
        Cut q (encPairs env k v kvs) → (env.width + 3) * q.length + 2 ≤ fuel → r.rest = q →
        ∃ er r', decPairs env fuel k v (kvs.length : Int) acc r = (.error er, r')
  | [], _, _, _, _, _, q, hq, _, _ => by simp only [encPairs] at hq; exact absurd hq Cut.not_nil
  | (a, b) :: kvs, ih, hwt, fuel, acc, r, q, hq, hf, hr => by
    obtain ⟨F, rfl⟩ : ∃ F, fuel = F + 1 := ⟨fuel - 1, by omega⟩
    simp only [WTp] at hwt
    simp only [encPairs, List.append_assoc] at hq
    have c1 : ¬ ((((a, b) :: kvs).length : Int) ≤ 0) := by simp
    rw [decPairs_succ, if_neg c1]
    rcases elem_cut env rk hE (ih (a, b) (by simp)).1 (by decide) hk hwt.1 (zeroOf_ready hE k hk)
      hq hf hr with ⟨er, r', h⟩ | ⟨q1, rfl, hq1, hf1, hva, hr1⟩
    · exact ⟨er, r', by rw [h]⟩
    rw [hva]; simp only
    rcases elem_cut (F := F) env rk hE (ih (a, b) (by simp)).2 (by decide) hv hwt.2.1
      (zeroOf_ready hE v hv) hq1 (by omega) hr1 with ⟨er, r', h⟩ | ⟨q2, rfl, hq2, hf2, hvb, hr2⟩
    · exact ⟨er, r', by rw [h]⟩
    have hlen : ((((a, b) :: kvs).length : Nat) : Int) - 1 = (kvs.length : Int) := by simp
    rw [hvb, hlen]; simp only
    exact decPairs_cut env rk hE k v hk hv kvs (fun p hp => ih p (by simp [hp])) hwt.2.2 F _ _ q2 hq2
      (by omega) hr2

end Tars
