import TarsModel.Proofs.TupRT
import TarsModel.Proofs.WireCut

/-!
  TUP attribute set: an input that ends inside an entry.  `q` is what is
  left of the input, a proper prefix of the encoding of an entry: the iteration reports an error,
  except when nothing is left or exactly the key is left — then it stores nothing and reports
  nothing (`SkipToNoCheck(1, false)` at the end of the input) — it never stores a partial entry.
-/
namespace Tars.Tup
open Tars Consts

theorem decodeEntry_truncated (r : Reader) (k v q s : Bytes) (hk : k.length < 2 ^ 32) (hv : v.length < 2 ^ 31)
    (hr : r.rest = q) (hq : q ++ s = encodeEntry k v) (hs : s ≠ []) :
    ((q = [] ∨ q = writeString k 0) ∧ (decodeEntry r).res = .ok none ∧
        (decodeEntry r).rd.rest = []) ∨
    (q ≠ [] ∧ q ≠ writeString k 0 ∧ ∃ e, (decodeEntry r).res = .error e) := by
  by_cases hq0 : q = []
  · subst hq0
    rw [decodeEntry_eof r hr]
    exact .inl ⟨.inl rfl, rfl, hr⟩
  unfold encodeEntry at hq
  rw [wrapS32_len _ hv] at hq
  simp only [List.append_assoc] at hq
  rcases split_prefix hq with ⟨a, ha, h1⟩ | ⟨q', rfl, h2⟩
  · -- inside the key
    obtain ⟨ty, w, h16, hne, hw, hkw, hws⟩ := writeString_field k 0 hk
    have hcut : Cut q (writeString k 0) := .of_append h1 ha
    rw [hws] at hcut
    obtain ⟨e, r', he⟩ := readWith_cut (old := ([] : Bytes)) (req := false) (tag := 0) h16 hne (by decide)
      (strBody_fails hw k hkw) hr hcut (fun h => absurd h hq0)
    refine .inr ⟨hq0, fun h => ?_, e, ?_⟩
    · rw [← h] at h1
      exact ha (List.self_eq_append_right.mp h1)
    · unfold decodeEntry
      rw [readString_body, he]
  · have e1 := readString_writeString k 0 [] false (by decide) hk r q' hr
    have r1 := r.rest_adv hr
    by_cases hq1 : q' = []
    · -- exactly the key is left
      subst hq1
      have : decodeEntry r = ⟨.ok none, k.length, r.adv (writeString k 0).length⟩ := by
        simp only [decodeEntry, e1, skipToNoCheck_nil _ 1 false r1, Bool.false_eq_true, if_false]
      rw [this]
      exact .inl ⟨.inr (List.append_nil _), rfl, r1⟩
    refine .inr ⟨hq0, fun h => hq1 (List.append_right_eq_self.mp h), ?_⟩
    -- the SimpleList head is there
    obtain ⟨q2, rfl, h3⟩ := split_head (by decide) h2 hq1
    have e2 := skipToNoCheck_hit tySimpleList 1 false (by decide) (by decide) (by decide) _ q2 r1
    have r2 := Reader.rest_adv _ r1
    simp only [decodeEntry, e1, e2, if_true]
    by_cases hq2 : q2 = []
    · -- nothing after the SimpleList head
      subst hq2
      simp only [skipTo, skipToNoCheck_nil _ 0 true r2, if_true]
      exact ⟨_, rfl⟩
    · obtain ⟨q3, rfl, h4⟩ := split_head (by decide) h3 hq2
      have r3 := Reader.rest_adv _ r2
      simp only [skipTo_hit tyBYTE 0 true (by decide) (by decide) (by decide) _ q3 r2]
      rcases split_prefix h4 with ⟨a, ha, h5⟩ | ⟨q4, rfl, h5⟩
      · -- inside the length field
        obtain ⟨e, r', he⟩ := readInt32_len_fails hv 0 _ _ r3 (.of_append h5 ha)
        rw [he]
        exact ⟨_, rfl⟩
      · -- inside the value bytes
        have r4 := Reader.rest_adv _ r3
        have hshort : q4.length < v.length := by
          have := congrArg List.length h5
          have := List.length_pos_iff.mpr hs
          simp only [List.length_append] at *
          omega
        simp only [readInt32_writeInt32 (v.length : Int) 0 0 true (by decide) (by omega) _ q4 r3, readBytes_eq,
          Reader.remaining_of_rest r4]
        rw [if_pos (.inr (by omega))]
        exact ⟨_, rfl⟩

theorem decodeV_truncated (chk : Bool) (r : Reader) (es : TupMap) (k v q s : Bytes) (n' : Nat)
    (hs : Sized es) (hk : k.length < 2 ^ 32) (hv : v.length < 2 ^ 31)
    (hq : q ++ s = encodeEntry k v) (hsne : s ≠ []) (hn : es.length + (n' + 1) < 2 ^ 31)
    (h : r.rest = writeHead tyMAP 0 ++ writeInt32 (wrapS 32 ((es.length + (n' + 1) : Nat) : Int)) 0
          ++ (encodeEntries es ++ q))
    (hc : chk = true → es.length + (n' + 1) ≤ (encodeEntries es ++ q).length) :
    (decodeV chk [] r).data = putAll [] es ∧
    ((decodeV chk [] r).err = none ↔ (q = [] ∨ q = writeString k 0)) := by
  obtain ⟨r', hr', _, he⟩ := decodeV_entries chk [] r es (n' + 1) q hs hn h hc
  rw [he, decodeLoop_succ]
  rcases decodeEntry_truncated r' k v q s hk hv hr' hq hsne with ⟨hcase, hres, heof⟩ | ⟨h0, h1, e, hres⟩
  · rw [hres]
    simp only
    rw [decodeLoop_eof heof]
    exact ⟨rfl, by simp [hcase]⟩
  · rw [hres]
    exact ⟨rfl, by simp [h0, h1]⟩

end Tars.Tup
