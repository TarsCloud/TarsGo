import TarsModel.Proofs.HealthLive

/-!
# C15 — Failover: failing endpoints leave rotation, are probed, and come back

Property theorems only (helper lemmas and invariants: `Proofs/Health*.lean`; model:
`Model/Health.lean`).  Every theorem is about **all histories**: an arbitrary list `h` of actions

    advance d | checkStatus conn | start choice sendOk oneway | finish k ok

applied to a manager freshly created over an arbitrary registry list `reg` at an arbitrary time
`now0` (`after stamp reg now0 h`).  `choice` ranges over every choice the selector or the random
fallback can make, `conn` over every set of endpoints that can be connected to, calls may overlap
(`start` … `finish`), `ok` is the outcome of a call.  The observable trace is `log` (newest event
first); `post ++ e :: pre` splits it at an arbitrary event `e`, `pre` being what happened before.

`stamp` selects the variant of `SelectAdapterProxy`: `false` = as found, `true` = with
`pending/C15-probe-stamp.patch`.  Only the spacing of probe *calls* depends on it
(`C15_probe_rate_calls_counterexample` as found, `C15_probe_rate_calls_repaired`); everything else holds for both.

The numbers 2, 5, 5, 30 in the statements are those of the property text; the thresholds of the
code come from `Tars.Consts` (regenerated from setting.go / adapter.go on every run) and the proofs
need `overN ≥ 2`, `fainN ≥ 2`, `fainN ≤ 5`, `failInterval ≤ 5`, `tryTimeInterval ≥ 30` and the
extracted comparison operators to be `>=`.
-/
namespace Tars.C15
open Tars Tars.Health

/-- the state after history `h` -/
abbrev after (stamp : Bool) (reg : List Nat) (now0 : Int) (h : List Action) : Mgr := run (init stamp reg now0) h

private theorem after_invA (stamp : Bool) (reg : List Nat) (now0 : Int) (h : List Action) : InvA (after stamp reg now0 h) :=
  invA_run (invA_init stamp reg now0) h

private theorem after_later (stamp : Bool) (reg : List Nat) (now0 : Int) (h : List Action) :
    Later (init stamp reg now0) (after stamp reg now0 h) :=
  run_later (invA_init stamp reg now0) h

private theorem after_invT (stamp : Bool) (reg : List Nat) (now0 : Int) (h : List Action) : InvT (after stamp reg now0 h) :=
  invT_run (invA_init stamp reg now0) (invT_init stamp reg now0) h

/-! ## taken out of rotation only after failures -/

/-- **none is taken out with fewer than two failures since it was last (re)instated**: whenever
`checkStatus` takes `ep` out (`blocked ep t`), at least two calls on `ep` failed since its last
reinstatement (since the beginning, if it never was reinstated). -/
theorem C15_min_two (stamp : Bool) (reg : List Nat) (now0 : Int) (h : List Action)
    (post pre : List Event) (ep : Nat) (t : Int)
    (hlog : (after stamp reg now0 h).log = post ++ .blocked ep t :: pre) : 2 ≤ failsSince pre ep :=
  (after_invA stamp reg now0 h).okBlocks.split hlog ep t rfl

/-- state form of `C15_min_two`: a registered endpoint that is outside the rotation has had at
least two failed calls since it was last (re)instated. -/
theorem C15_min_two_state (stamp : Bool) (reg : List Nat) (now0 : Int) (h : List Action) (ep : Nat)
    (hreg : ep ∈ reg) (hout : ep ∉ (after stamp reg now0 h).sel) : 2 ≤ failsSince (after stamp reg now0 h).log ep := by
  have inv : InvA (after stamp reg now0 h) := after_invA stamp reg now0 h
  cases hs : ((after stamp reg now0 h).recs ep).status
  · have := inv.blockedFails ep hs
    have := inv.fc ep
    omega
  · exact absurd (inv.activeIn ep (by rw [(after_later stamp reg now0 h).reg]; exact hreg) hs) hout

/-- **an endpoint with no failed calls is never taken out of rotation** (trace form) -/
theorem C15_never_without_failures (stamp : Bool) (reg : List Nat) (now0 : Int) (h : List Action)
    (post pre : List Event) (ep : Nat) (t : Int)
    (hlog : (after stamp reg now0 h).log = post ++ .blocked ep t :: pre) : 1 ≤ failsEver pre ep := by
  have := C15_min_two stamp reg now0 h post pre ep t hlog
  have := failsSince_le_failsEver pre ep
  omega

/-- state form: after any history, a registered endpoint none of whose calls ever failed is in the
rotation (member of the selectors) and its record, if any, is active. -/
theorem C15_never_without_failures_state (stamp : Bool) (reg : List Nat) (now0 : Int) (h : List Action) (ep : Nat)
    (hreg : ep ∈ reg) (hnone : failsEver (after stamp reg now0 h).log ep = 0) :
    ep ∈ (after stamp reg now0 h).sel ∧ ((after stamp reg now0 h).recs ep).status = true := by
  have hin : ep ∈ (after stamp reg now0 h).sel := Decidable.byContradiction fun hout => by
    have := C15_min_two_state stamp reg now0 h ep hreg hout
    have := failsSince_le_failsEver (after stamp reg now0 h).log ep
    omega
  exact ⟨hin, Bool.of_not_eq_false fun hs => (after_invA stamp reg now0 h).blockedOut ep hs hin⟩

/-! ## a failing endpoint is out after the next status check -/

/-- **at least 5 failures in a row, for at least 5 seconds ⇒ out of normal rotation after the next
status check** — whatever the other endpoints do (the code does not even need another endpoint
to be active), for every set `conn` of connectable endpoints. `now0 ≥ failInterval` only says that
the Unix clock is not within 5 s of the epoch (a never-successful endpoint has `lastSuccessTime = 0`). -/
theorem C15_blocked_after_check (stamp : Bool) (reg : List Nat) (now0 : Int) (h : List Action) (conn : List Nat) (ep : Nat)
    (hnow : (Consts.healthFailInterval : Int) ≤ now0)
    (hstreak : 5 ≤ streak (after stamp reg now0 h).log ep)
    (hsecs : ∀ t, lastOk (after stamp reg now0 h).log ep = some t → 5 ≤ (after stamp reg now0 h).now - t) :
    ep ∉ (step (after stamp reg now0 h) (.checkStatus conn)).sel ∧
    ((step (after stamp reg now0 h) (.checkStatus conn)).recs ep).status = false := by
  have inv : InvA (after stamp reg now0 h) := after_invA stamp reg now0 h
  have hfn : Consts.healthFainN ≤ 5 := by decide
  have hfi : Consts.healthFailInterval ≤ 5 := by decide
  have hnow' : now0 ≤ (after stamp reg now0 h).now := (after_later stamp reg now0 h).now
  refine checkStatus_blocks conn inv ep ?_ (by have := inv.lfc ep; omega)
  rw [inv.lst ep]
  cases hl : lastOk (after stamp reg now0 h).log ep with
  | none => simp only [Option.getD_none]; omega
  | some t => have := hsecs t hl; simp only [Option.getD_some]; omega

/-! ## probing a blocked endpoint -/

/-- **probe candidates are at least 30 s apart**: `checkStatus` queues `ep` as probe candidate
(`grant ep t`) no sooner than 30 s after it queued it the last time. -/
theorem C15_probe_rate (stamp : Bool) (reg : List Nat) (now0 : Int) (h : List Action)
    (post pre : List Event) (ep : Nat) (t t0 : Int)
    (hlog : (after stamp reg now0 h).log = post ++ .grant ep t :: pre) (hprev : lastGrant pre ep = some t0) :
    30 ≤ t - t0 :=
  Int.le_trans T_ge ((after_invT stamp reg now0 h).okG.split hlog ep t rfl t0 hprev)

/-- **each probe candidate is handed to exactly one call**: at every moment the number of probe
calls on `ep` plus (1 if `ep` still waits in the queue) equals the number of times it was queued;
the queue never holds an endpoint twice. -/
theorem C15_probe_single (stamp : Bool) (reg : List Nat) (now0 : Int) (h : List Action) (ep : Nat) :
    grants (after stamp reg now0 h).log ep
      = probes (after stamp reg now0 h).log ep + (if ep ∈ (after stamp reg now0 h).queue then 1 else 0)
    ∧ (after stamp reg now0 h).queue.Nodup :=
  ⟨(after_invT stamp reg now0 h).cnt ep, (after_invT stamp reg now0 h).nd⟩

/-- only blocked endpoints are queued: if the visit of `x` by `checkStatus` (`checkOne`) puts `x` into
the probe queue, the record of `x` was blocked (so a probe is never wasted on an endpoint in rotation
at the time it is queued). True of any state; the history only names one. -/
theorem C15_probe_only_blocked (stamp : Bool) (reg : List Nat) (now0 : Int) (h : List Action) (conn : List Nat) (x : Nat)
    (hq : x ∉ (after stamp reg now0 h).queue) (hq' : x ∈ (checkOne conn (after stamp reg now0 h) x).queue) :
    ((after stamp reg now0 h).recs x).status = false := by
  rcases checkOne_cases conn (after stamp reg now0 h) x with he | ⟨_, he⟩ | ⟨_, _, he⟩ | ⟨_, hs, _⟩
  · rw [he] at hq'; exact absurd hq' hq
  · rw [he] at hq'; exact absurd hq' hq
  · rw [he] at hq'; exact absurd hq' hq
  · exact hs

/-- the full-strength reading of "probed with a single call no more often than every 30 seconds":
any two consecutive probe *calls* on an endpoint are at least 30 s apart. -/
def C15_probe_rate_calls_full (stamp : Bool) : Prop :=
  ∀ (reg : List Nat) (now0 : Int) (h : List Action) (post pre : List Event) (ep : Nat) (t t1 : Int),
    (after stamp reg now0 h).log = post ++ .picked ep true t :: pre → lastProbe pre ep = some t1 → 30 ≤ t - t1

/-- **as found, the full-strength statement is false**: a queued probe candidate is consumed by
whatever call comes next, however late; the next candidate is queued 30 s after the *previous
candidate*, not after the previous probe call. Witness (2 endpoints, endpoint 0 fails): blocked at
t=100; candidate queued at 131 (= 101 + tryTimeInterval); no call until 160 → probe call at 160 (fails);
candidate queued at 162 → probe call at 162: two probe calls 2 s apart. Reproduced on the real code
(corpus/C15/probe-burst.json, signature C15:probe-burst:SelectAdapterProxy). -/
theorem C15_probe_rate_calls_counterexample : ¬ C15_probe_rate_calls_full false := by
  intro hfull
  have := hfull [0, 1] 100
    [.start 0 false false, .start 0 false false, .start 0 false false, .checkStatus [],
     .advance (Consts.healthTryTimeInterval + 1), .checkStatus [0],
     .advance (Consts.healthTryTimeInterval - 1), .start 0 true false, .finish 0 false, .advance 2, .checkStatus [0],
     .start 0 true false]
    [] [.grant 0 (102 + 2 * Consts.healthTryTimeInterval), .fail 0 (100 + 2 * Consts.healthTryTimeInterval),
        .picked 0 true (100 + 2 * Consts.healthTryTimeInterval), .grant 0 (101 + Consts.healthTryTimeInterval),
        .blocked 0 100, .fail 0 100, .picked 0 false 100, .fail 0 100, .picked 0 false 100, .fail 0 100,
        .picked 0 false 100] 0 (102 + 2 * Consts.healthTryTimeInterval) (100 + 2 * Consts.healthTryTimeInterval)
    (by decide) (by decide)
  omega

/-- **what does hold as found**: of any three consecutive probe calls on an endpoint the first and
the third are at least 30 s apart (at most two probe calls in any window shorter than 30 s). -/
theorem C15_probe_rate_calls_partial (stamp : Bool) (reg : List Nat) (now0 : Int) (h : List Action)
    (post pre : List Event) (ep : Nat) (t t2 : Int)
    (hlog : (after stamp reg now0 h).log = post ++ .picked ep true t :: pre) (hprev : prevProbe pre ep = some t2) :
    30 ≤ t - t2 :=
  Int.le_trans T_ge ((after_invT stamp reg now0 h).okP3.split hlog ep t rfl t2 hprev)

/-- **with the repair** (`SelectAdapterProxy` stamps `lastBlockTime` when it hands out the probe
candidate) the full-strength statement holds. -/
theorem C15_probe_rate_calls_repaired : C15_probe_rate_calls_full true := by
  intro reg now0 h post pre ep t t1 hlog hprev
  exact Int.le_trans T_ge
    (((after_invT true reg now0 h).okP2 (after_later true reg now0 h).stamp).split hlog ep t rfl t1 hprev)

/-! ## probing keeps happening -/

/-- **a blocked endpoint is probed again**: if `ep` is blocked, can be connected to, and
`tryTimeInterval` seconds have passed since its `lastBlockTime` (= the time it was blocked, the last
time a probe was attempted for it and, with the repair, the time its last probe call was handed
out), then the next `checkStatus` puts it into the probe queue (unless it is waiting there already).
There is no other condition: in particular no "probe pending" marker survives a failed probe. -/
theorem C15_probe_due (stamp : Bool) (reg : List Nat) (now0 : Int) (h : List Action) (conn : List Nat) (ep : Nat)
    (hb : ((after stamp reg now0 h).recs ep).status = false) (hconn : conn.contains ep = true)
    (hdue : (Consts.healthTryTimeInterval : Int) ≤ (after stamp reg now0 h).now - ((after stamp reg now0 h).recs ep).lastBlockTime) :
    ep ∈ (step (after stamp reg now0 h) (.checkStatus conn)).queue :=
  checkStatus_queues conn (after_invA stamp reg now0 h) (after_invT stamp reg now0 h) ep hb hconn hdue

/-- **probe liveness, from any reachable state**: whatever happened before (any number of failed
probes included), once `tryTimeInterval` more seconds have passed, a status check during which the
blocked endpoint can be connected to queues it as probe candidate. -/
theorem C15_probe_liveness (stamp : Bool) (reg : List Nat) (now0 : Int) (h : List Action) (conn : List Nat) (ep : Nat)
    (d : Nat) (hb : ((after stamp reg now0 h).recs ep).status = false) (hconn : conn.contains ep = true)
    (hd : Consts.healthTryTimeInterval ≤ d) :
    ep ∈ (step (step (after stamp reg now0 h) (.advance d)) (.checkStatus conn)).queue := by
  have hA : InvA (step (after stamp reg now0 h) (.advance d)) := invA_step (after_invA stamp reg now0 h) _
  have hT : InvT (step (after stamp reg now0 h) (.advance d)) :=
    invT_step (after_invA stamp reg now0 h) (after_invT stamp reg now0 h) _
  have hlb : ((after stamp reg now0 h).recs ep).lastBlockTime ≤ (after stamp reg now0 h).now :=
    ((after_invT stamp reg now0 h).c ep).lb hb
  have hd' : (Consts.healthTryTimeInterval : Int) ≤ (d : Int) := by exact_mod_cast hd
  refine checkStatus_queues conn hA hT ep hb hconn ?_
  show (Consts.healthTryTimeInterval : Int) ≤ ((after stamp reg now0 h).now + (d : Int)) - ((after stamp reg now0 h).recs ep).lastBlockTime
  omega

/-- **the queued candidate is probed by the next call**: a call always takes the head of the probe
queue and nothing else (stated here for the head only; that an endpoint queued behind `k` others is
probed by the `k+1`-th next call follows by repeating it, `checkStatus` only appending to the queue,
and is not stated as a theorem). -/
theorem C15_probe_consumed (stamp : Bool) (reg : List Nat) (now0 : Int) (h : List Action) (hreg : reg ≠ [])
    (choice : Nat) (sendOk oneway : Bool) (x : Nat) (q : List Nat) (hq : (after stamp reg now0 h).queue = x :: q) :
    Event.picked x true (after stamp reg now0 h).now ∈ (step (after stamp reg now0 h) (.start choice sendOk oneway)).log ∧
    (step (after stamp reg now0 h) (.start choice sendOk oneway)).queue = q := by
  show _ ∈ (start _ choice sendOk oneway).log ∧ (start _ choice sendOk oneway).queue = q
  rcases start_cases (after stamp reg now0 h) choice sendOk oneway with ⟨hr, _⟩ | ⟨x', q', hq', he⟩ | ⟨_, hq', _⟩
  · rw [(after_later stamp reg now0 h).reg] at hr; exact absurd hr hreg
  · rw [hq] at hq'; cases hq'
    rw [he, startOn_queue, popProbe_queue, ← popProbe_now _ x q]
    exact ⟨startOn_picked _ _ _ _ _, rfl⟩
  · rw [hq] at hq'; cases hq'

/-! ## coming back -/

/-- **returns to rotation as soon as a probe succeeds**: completing an open probe call on `ep`
(two-way call, `needCheck = true`) successfully leaves `ep` active, in the selectors and in
`activeEp`, with its failure counters cleared. -/
theorem C15_reinstate (stamp : Bool) (reg : List Nat) (now0 : Int) (h : List Action) (k : Nat) (ep : Nat)
    (c0 : Nat × Bool) (cs : List (Nat × Bool)) (hin : (after stamp reg now0 h).inflight = c0 :: cs)
    (hk : (after stamp reg now0 h).inflight.getD (k % (after stamp reg now0 h).inflight.length) c0 = (ep, true)) :
    ((step (after stamp reg now0 h) (.finish k true)).recs ep).status = true ∧
    ep ∈ (step (after stamp reg now0 h) (.finish k true)).sel ∧
    ep ∈ (step (after stamp reg now0 h) (.finish k true)).active ∧
    failsSince (step (after stamp reg now0 h) (.finish k true)).log ep = 0 := by
  have inv : InvA (step (after stamp reg now0 h) (.finish k true)) :=
    invA_step (after_invA stamp reg now0 h) (.finish k true)
  rw [← inv.fc ep]
  show ((finish _ k true).recs ep).status = true ∧ ep ∈ (finish _ k true).sel ∧ ep ∈ (finish _ k true).active ∧
    ((finish _ k true).recs ep).failCount = 0
  rcases finish_cases (after stamp reg now0 h) k true with ⟨h0, _⟩ | ⟨_, _, h0, _, he⟩ <;> rw [hin] at h0 <;> cases h0
  rw [he, hk]
  exact finishCall_ok_probe _ ep

/-- **stays blocked otherwise**: a failed call (probe or not) changes neither the status of any
endpoint nor the rotation. True of any state; the history only names one. -/
theorem C15_probe_fail_stays_blocked (stamp : Bool) (reg : List Nat) (now0 : Int) (h : List Action) (k : Nat) (e : Nat) :
    ((step (after stamp reg now0 h) (.finish k false)).recs e).status = ((after stamp reg now0 h).recs e).status ∧
    (step (after stamp reg now0 h) (.finish k false)).sel = (after stamp reg now0 h).sel := by
  show ((finish _ k false).recs e).status = _ ∧ (finish _ k false).sel = _
  rcases finish_cases (after stamp reg now0 h) k false with ⟨_, he⟩ | ⟨_, _, _, _, he⟩ <;> rw [he]
  · exact ⟨rfl, rfl⟩
  · exact finishCall_fail _ _ _ e

/-- **only a successful probe reinstates**: if an action turns a blocked record active, the action
is the successful completion of a call and a probe call on that endpoint was open. True of any state;
the history only names one. -/
theorem C15_only_probe_reinstates (stamp : Bool) (reg : List Nat) (now0 : Int) (h : List Action) (a : Action) (ep : Nat)
    (h0 : ((after stamp reg now0 h).recs ep).status = false)
    (h1 : ((step (after stamp reg now0 h) a).recs ep).status = true) :
    (∃ k, a = .finish k true) ∧ (ep, true) ∈ (after stamp reg now0 h).inflight :=
  step_unblock _ a ep h0 h1

/-- a blocked endpoint is outside the normal rotation: what the selectors can return never
contains an endpoint whose record is blocked. -/
theorem C15_blocked_not_in_rotation (stamp : Bool) (reg : List Nat) (now0 : Int) (h : List Action) (ep : Nat)
    (hb : ((after stamp reg now0 h).recs ep).status = false) : ep ∉ (after stamp reg now0 h).sel :=
  (after_invA stamp reg now0 h).blockedOut ep hb

/-! ## when everything is blocked -/

/-- **calls are still attempted instead of failing outright**: as long as the registry lists an
endpoint, no call ever ends with "no endpoint selected". -/
theorem C15_fallback (stamp : Bool) (reg : List Nat) (now0 : Int) (h : List Action) (hreg : reg ≠ []) (t : Int) :
    Event.noEndpoint t ∉ (after stamp reg now0 h).log :=
  run_noNone (invA_init stamp reg now0) h hreg (by intro t hm; cases hm) t

/-- every call is sent to some registered endpoint: the queued probe candidate if there is one,
else a member of the rotation if the rotation is not empty, else (every endpoint blocked) some
endpoint of the registry list. -/
theorem C15_fallback_pick (stamp : Bool) (reg : List Nat) (now0 : Int) (h : List Action) (hreg : reg ≠ [])
    (choice : Nat) (sendOk oneway : Bool) :
    ∃ ep p, Event.picked ep p (after stamp reg now0 h).now ∈ (step (after stamp reg now0 h) (.start choice sendOk oneway)).log ∧
      ep ∈ reg ∧
      ((after stamp reg now0 h).queue = [] → (after stamp reg now0 h).sel ≠ [] →
        p = false ∧ ep ∈ (after stamp reg now0 h).sel ∧ ((after stamp reg now0 h).recs ep).status = true) := by
  have inv : InvA (after stamp reg now0 h) := after_invA stamp reg now0 h
  have hr : (after stamp reg now0 h).reg = reg := (after_later stamp reg now0 h).reg
  show ∃ ep p, _ ∈ (start _ choice sendOk oneway).log ∧ _
  rcases start_cases (after stamp reg now0 h) choice sendOk oneway with ⟨h0, _⟩ | ⟨x, q, hq, he⟩ | ⟨ep, hq, h1, h2, he⟩
  · rw [hr] at h0; exact absurd h0 hreg
  · refine ⟨x, true, ?_, ?_, fun hq' => ?_⟩
    · rw [he, ← popProbe_now _ x q]; exact startOn_picked _ _ _ _ _
    · rw [← hr]; exact inv.hasReg x (inv.queueHas x (by rw [hq]; exact List.mem_cons_self))
    · rw [hq] at hq'; cases hq'
  · refine ⟨ep, false, ?_, ?_, fun _ hs => ⟨rfl, h1 hs, ?_⟩⟩
    · rw [he]; exact startOn_picked (touch _ ep) _ _ _ _
    · rw [← hr]
      by_cases hs : (after stamp reg now0 h).sel = []
      · exact h2 hs
      · exact inv.selReg ep (h1 hs)
    · cases hst : ((after stamp reg now0 h).recs ep).status
      · exact absurd (h1 hs) (inv.blockedOut ep hst)
      · rfl

/-! ## non-vacuity: concrete histories -/

/-- three refused sends on endpoint 0, then a status check -/
def exBlock : List Action := [.start 0 false false, .start 0 false false, .start 0 false false, .checkStatus []]

/-- six (one-way) successes, then five refused sends on endpoint 0, then 5 s -/
def exStreak : List Action :=
  [.start 0 true true, .start 0 true true, .start 0 true true, .start 0 true true, .start 0 true true,
   .start 0 true true, .start 0 false false, .start 0 false false, .start 0 false false,
   .start 0 false false, .start 0 false false, .advance 5]

/-- endpoint 0 blocked, 31 s later queued as probe candidate, the next call is its probe -/
def exProbe : List Action :=
  [.start 0 false false, .start 0 false false, .start 0 false false, .checkStatus [],
   .advance (Consts.healthTryTimeInterval + 1), .checkStatus [0], .start 7 true false]

/-- endpoint 0 is taken out (the hypothesis of `C15_min_two` is satisfiable) -/
example : (after false [0, 1] 100 exBlock).log
    = [.blocked 0 100, .fail 0 100, .picked 0 false 100, .fail 0 100, .picked 0 false 100, .fail 0 100,
       .picked 0 false 100] := by decide

/-- the hypotheses of `C15_blocked_after_check` hold (the ratio rule does not fire: 5 of 11) and the
endpoint is out after the check -/
example : 5 ≤ streak (after false [0, 1] 100 exStreak).log 0 ∧ lastOk (after false [0, 1] 100 exStreak).log 0 = some 100 ∧
    (after false [0, 1] 100 exStreak).now = 105 ∧ (after false [0, 1] 100 exStreak).sel = [0, 1] ∧
    (step (after false [0, 1] 100 exStreak) (.checkStatus [])).sel = [1] := by decide

/-- a probe candidate is queued (hypothesis of `C15_probe_rate`: a `grant` in the log), handed to one
call (hypothesis of `C15_reinstate`: an open probe call), and the successful probe reinstates -/
example : (after false [0, 1] 100 exProbe).inflight = [(0, true)] ∧ (after false [0, 1] 100 exProbe).sel = [1] ∧
    (after false [0, 1] 100 exProbe).log.head? = some (.picked 0 true (101 + Consts.healthTryTimeInterval)) ∧
    (step (after false [0, 1] 100 exProbe) (.finish 0 true)).sel = [1, 0] := by decide

/-- k failed probes in a row do not stop the probing: endpoint 0 is blocked, probed (fails), 31 s
later queued and probed again (fails), 31 s later queued again (hypotheses of `C15_probe_due` /
`C15_probe_liveness` hold after a failed probe) -/
def exReprobe : List Action :=
  exProbe ++ [.finish 0 false, .advance (Consts.healthTryTimeInterval + 1), .checkStatus [0], .start 3 true false,
              .finish 0 false, .advance (Consts.healthTryTimeInterval + 1)]

example : ((after false [0, 1] 100 exReprobe).recs 0).status = false ∧ (after false [0, 1] 100 exReprobe).queue = [] ∧
    probes (after false [0, 1] 100 exReprobe).log 0 = 2 ∧
    (step (after false [0, 1] 100 exReprobe) (.checkStatus [0])).queue = [0] := by decide

/-- every endpoint blocked: the call still goes to a registered endpoint -/
example : (after false [0] 100 exBlock).sel = [] ∧
    (step (after false [0] 100 exBlock) (.start 0 false false)).log.head? = some (.fail 0 100) := by decide

end Tars.C15
