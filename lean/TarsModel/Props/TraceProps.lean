import TarsModel.Proofs.TraceKey

/-!
# Trace-key parser (`tars/util/trace/trace.go`) — the C05 clause for `initType` / `SpanContext.Init`

`Protocol.Invoke` parses the STATUS_TRACE_KEY entry of a request's status map under
`defer CheckPanic()`: a panic in the parser lets ONE well-formed packet end the server process.
The model (`Model/TraceKey.lean`) makes Go's slice expression partial, so "never panics" is a
statement, not a convention.

* `Trace_initType_total` / `Trace_spanInit_total`: for every byte string the parser of the tree
  returns a value — the only slice expression is `tid[:pos]` with `pos = strings.Index(tid, "-")`,
  and the '.'-separated flags are taken from that PREFIX; the type is within 0..15 and the limit
  is at least the configured default.
* `Trace_initTypeCut_panics` (+ witness): the "cut in place" rewrite of seeded change C05g, which
  looks the '.' up in the whole id, panics exactly when the first '.' lies behind the first '-'
  (`"-."`, `"f-a.b"`): the shape the totality theorem excludes.

Helper lemmas: `Proofs/TraceKey.lean`.
-/
namespace Tars.TraceKey
open Tars

/-- **`initType` is total.**  For every trace id and every configured default the parser of the
    current tree returns a value (no slice expression is out of range), the type lies in 0..15
    and the limit is never below the default. -/
theorem Trace_initType_total (dflt : Nat) (tid : Bytes) :
    ∃ t m, initType dflt tid = .ok (t, m) ∧ 0 ≤ t ∧ t ≤ 15 ∧ dflt ≤ m := by
  unfold initType
  cases hp : indexByte dash tid with
  | none => exact ⟨_, _, rfl, (clampType_range 0).1, (clampType_range 0).2, Nat.le_refl _⟩
  | some pos =>
    simp only
    rw [slice_index_ok hp]
    simp only
    refine ⟨_, _, rfl, (clampType_range _).1, (clampType_range _).2, ?_⟩
    split
    · split
      · split <;> omega
      · exact Nat.le_refl _
    · exact Nat.le_refl _

/-- **`SpanContext.Init` is total**: any status-map value is parsed without a panic. -/
theorem Trace_spanInit_total (dflt : Nat) (key : Bytes) : ∃ r, spanInit dflt key = .ok r := by
  unfold spanInit
  simp only
  split
  · obtain ⟨t, m, h, _⟩ := Trace_initType_total dflt ((splitOn bar key).headD [])
    rw [h]; exact ⟨_, rfl⟩
  · exact ⟨_, rfl⟩

/-- non-vacuity: the framework's own form, and the strings that kill the rewritten parser -/
example : initType 1 ([byte 102, dot, byte 50, dash, byte 101]) = .ok (15, 2) := by rfl
example : initType 1 [dash, dot] = .ok (0, 1) := by rfl
example : spanInit 1 [byte 102, dash, byte 97, dot, byte 98, bar, byte 48] = .ok (some (15, 1)) := by rfl

/-- **The in-place rewrite panics.**  When the first '.' of the id lies behind its first '-',
    `tid[dot+1:pos]` has `low > high`: a run-time panic, i.e. the death of the server. -/
theorem Trace_initTypeCut_panics (dflt : Nat) (tid : Bytes) (p d : Nat)
    (hp : indexByte dash tid = some p) (hd : indexByte dot tid = some d) (h : p < d) :
    initTypeCut dflt tid = .error (.panic "slice bounds out of range") := by
  unfold initTypeCut
  simp only [hp, hd]
  rw [slice_index_ok hp]
  simp only
  rw [slice_index_ok hd]
  have : slice tid (d + 1) p = .error (.panic "slice bounds out of range") := by
    unfold slice; rw [if_neg (by omega)]
  rw [this]

/-- the witness of seeded change C05g: the trace id `-.` (status value `-.|x`) -/
theorem Trace_initTypeCut_witness :
    initTypeCut 1 [dash, dot] = .error (.panic "slice bounds out of range") ∧
    initType 1 [dash, dot] = .ok (0, 1) := ⟨by rfl, by rfl⟩

end Tars.TraceKey
