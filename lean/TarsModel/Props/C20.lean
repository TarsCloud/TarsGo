import TarsModel.Proofs.LoggerAdmits
import TarsModel.Proofs.LogWriter
import TarsModel.Proofs.PanicExit

/-!
# C20 — Flush writes every log entry logged before it, once and in order

Property theorems only, in four parts: the queue and flusher (model `Model/Logger.lean`, an LTS of
`rogger.flushLog`, `rogger.FlushLogger` and the enqueue in `Writef`/`WriteLog`; helper lemmas
`Proofs/Logger.lean`), observed histories replayed through that LTS (`Proofs/LoggerAdmits.lean`),
the size-rolling writer (`Model/LogWriter.lean`, `Proofs/LogWriter.lean`) and the panic exit
(`Model/PanicExit.lean`, `Proofs/PanicExit.lean`).

"For all interleavings of logging goroutines, the background flusher and the flush request, all
queue occupancies at the time of the flush" is: for every queue capacity `cap`, every schedule
`acts : List Action` and every state `s` with `run v cap acts = some s` (any number of goroutines,
any entries, any writers; nothing is bounded).

Vocabulary of the statements (history fields of the state, see the model):
`called` / `logged` / `returned` — entries in the order their logging calls were entered / their
channel sends completed / their calls returned; `written` — the entry behind each `Write` call, in
call order; `writes` — the `Write` calls themselves (writer, bytes); `cutReturned`, `cutLogged` —
`returned` and `logged` at the moment `FlushLogger` executed `syncCancel()` (the flush request);
`flush = .returned true` — `FlushLogger` has returned through `<-asyncDone.Done()`, i.e. within
the flush timeout (`.returned false` = through the timer; nothing is promised then).
-/
namespace Tars.Logger

/-- C20 at full strength for the variant `v` of `flushLog`: whenever `FlushLogger` has returned
within its timeout,
 1. every entry whose logging call returned before the flush request has been handed to its
    writer — and more: everything whose send completed before the request, in queue order;
 2. exactly once: the `Write` calls are, position by position, an initial segment of the completed
    sends (so no entry is written more often than it was logged, and not twice if entries are
    distinct), and an entry logged before the request is written at least as often as it was
    logged before;
 3. the entries of each goroutine reach the writers in the order of that goroutine's calls;
 4. each as one undivided write: the `Write` calls are exactly the entries' whole values, each to
    its own writer, one call per entry. -/
def C20_full (v : Variant) : Prop :=
  ∀ (cap : Nat) (acts : List Action) (s : State), run v cap acts = some s →
    s.flush = .returned true →
      (∀ e ∈ s.cutReturned, e ∈ s.written) ∧
      (∃ c, s.cutLogged = some c ∧ c <+: s.written ∧ ∀ e, c.count e ≤ s.written.count e) ∧
      (s.written <+: s.logged ∧ (∀ e, s.written.count e ≤ s.called.count e) ∧
        (s.called.Nodup → ∀ e ∈ s.cutReturned, s.written.count e = 1)) ∧
      (∀ g, s.written.filter (fun x => x.g == g) <+: s.called.filter (fun x => x.g == g)) ∧
      s.writes = s.written.map Entry.call

/-! ## The defect (D4): the code as found loses entries -/

/-- goroutine 7's last words -/
def lastWords : Entry := ⟨7, 0, [112, 97, 110, 105, 99]⟩

/-- The losing interleaving: the flusher polls the empty queue and takes `default`; goroutine 7
logs `lastWords` (the call returns); `FlushLogger` is called and requests the flush; the inner
`select` now has both cases ready and takes `<-syncDone.Done()`; `asyncCancel()`; `FlushLogger`
returns. -/
def d4Schedule : List Action :=
  [.fOuterDefault, .logCall lastWords, .enq 7, .logRet 7, .flushCall, .flushSync,
   .fInnerSync, .fAck, .flushDone]

/-- As found, `d4Schedule` is a run of the model for every queue capacity ≥ 1; at its end
`FlushLogger` has returned within its timeout, the logging call of `lastWords` had returned
before the flush request, and `lastWords` has never been handed to its writer (it is still in
the queue, which nobody reads any more). -/
theorem C20_counterexample (cap : Nat) (hcap : 1 ≤ cap) :
    ∃ s, run .asFound cap d4Schedule = some s ∧ s.flush = .returned true ∧
      lastWords ∈ s.cutReturned ∧ lastWords ∉ s.written ∧ s.writes = [] ∧
      s.queue = [lastWords] ∧ s.fpc = .exited :=
  match cap, hcap with
  | _ + 1, _ => ⟨_, rfl, rfl, .head _, List.not_mem_nil, rfl, rfl, rfl⟩

/-- hence the code as found does not have the property -/
theorem C20_counterexample_not_full : ¬ C20_full .asFound := by
  intro h
  obtain ⟨s, hrun, hfl, hin, hout, _⟩ := C20_counterexample 1 (Nat.le_refl 1)
  exact hout ((h 1 d4Schedule s hrun hfl).1 lastWords hin)

/-- the same loss with three queued entries of two goroutines and two writers (occupancy 3), at the
capacity `logQueue` has in the source (`Consts.loggerQueueCap`) -/
theorem C20_counterexample_occupancy3 :
    ∃ s, run .asFound 10000
        [.fOuterDefault, .logCall ⟨1, 0, [1]⟩, .logCall ⟨2, 1, [2]⟩, .enq 2, .enq 1, .logRet 1,
         .logCall ⟨1, 0, [3]⟩, .enq 1, .logRet 1, .logRet 2, .flushCall, .flushSync,
         .fInnerSync, .fAck, .flushDone] = some s ∧
      s.flush = .returned true ∧ s.cutReturned.length = 3 ∧ s.written = [] :=
  ⟨_, rfl, rfl, rfl, rfl⟩

/-! ## The repaired code (drain on flush request) has the property, for all interleavings -/

/-- C20 for the repaired `flushLog`, every capacity, every schedule. -/
theorem C20_fixed : C20_full .repaired := by
  intro cap acts s hrun hfl
  have hi := inv_run hrun
  obtain ⟨c, hc, hcw⟩ := completed_cut hi hfl
  have hmem : ∀ e ∈ s.cutReturned, e ∈ s.written := fun e he => hcw.subset (hi.cutRet c hc he)
  refine ⟨hmem, ⟨c, hc, hcw, fun e => hcw.sublist.count_le e⟩,
    ⟨written_prefix_logged hi, written_count_le_called hi, fun hnd e he => ?_⟩,
    written_filter_prefix_called hi, hi.writesEq⟩
  exact Nat.le_antisymm (Nat.le_trans (written_count_le_called hi e) (List.nodup_iff_count.mp hnd e))
    (List.count_pos_iff.mpr (hmem e he))

/-- non-vacuity of `C20_fixed`: under the repaired code the schedule prefix of the D4 witness
continues to a completed flush (taking the flush request first, then draining), and the entry is
written -/
example : ∃ s, run .repaired 1
    [.fOuterDefault, .logCall lastWords, .enq 7, .logRet 7, .flushCall, .flushSync,
     .fInnerSync, .fDrainRecv, .fWrite, .fDrainDefault, .fAck, .flushDone] = some s ∧
    s.flush = .returned true ∧ s.cutReturned = [lastWords] ∧ s.written = [lastWords] ∧
    s.writes = [⟨0, [112, 97, 110, 105, 99]⟩] :=
  ⟨_, rfl, rfl, rfl, rfl, rfl⟩

/-- "In particular the entries logged immediately before a panic-triggered exit are not lost"
(`CheckPanic`: log, `rogger.FlushLogger()`, `os.Exit`): any entry whose logging call has returned
when the flush is requested has been written when `FlushLogger` returns within its timeout —
whatever else is in the queue, whatever the other goroutines and the flusher were doing. -/
theorem C20_fixed_last_words (cap : Nat) (acts : List Action) (s : State) (e : Entry)
    (hrun : run .repaired cap acts = some s) (hfl : s.flush = .returned true)
    (he : e ∈ s.cutReturned) : e.call ∈ s.writes := by
  obtain ⟨hmem, _, _, _, hw⟩ := C20_fixed cap acts s hrun hfl
  rw [hw]
  exact List.mem_map_of_mem (hmem e he)

/-- The extractor records in `Consts.loggerFlushLogRecvs` how many receives from `logQueue`
`flushLog` contains; when it sees the drain loop (`treeVariant = .repaired`) the theorem above is
about the variant of the current tree. -/
theorem C20_current_tree (h : treeVariant = .repaired) : C20_full treeVariant := h ▸ C20_fixed

/-! ## Order, once, undivided: hold for the code as found and repaired alike, in every reachable
state (FIFO channel, single consumer) -/

/-- the `Write` calls follow the queue order, and each goroutine's entries reach the writers in
the order of that goroutine's logging calls -/
theorem C20_order (v : Variant) (cap : Nat) (acts : List Action) (s : State)
    (hrun : run v cap acts = some s) :
    s.written <+: s.logged ∧
    ∀ g, s.written.filter (fun x => x.g == g) <+: s.called.filter (fun x => x.g == g) :=
  have hi := inv_run hrun
  ⟨written_prefix_logged hi, written_filter_prefix_called hi⟩

/-- no entry is handed to a writer more often than it was logged; with distinct entries no entry
is written twice -/
theorem C20_once (v : Variant) (cap : Nat) (acts : List Action) (s : State)
    (hrun : run v cap acts = some s) :
    (∀ e, s.written.count e ≤ s.logged.count e) ∧ (∀ e, s.written.count e ≤ s.called.count e) ∧
    (s.logged.Nodup → s.written.Nodup) :=
  have hi := inv_run hrun
  have hwl := (written_prefix_logged hi).sublist
  ⟨hwl.count_le, written_count_le_called hi, hwl.nodup⟩

/-- every `Write` call carries the whole value of exactly one entry to that entry's own writer:
the sequence of `Write` calls is the image of the sequence of written entries -/
theorem C20_undivided (v : Variant) (cap : Nat) (acts : List Action) (s : State)
    (hrun : run v cap acts = some s) :
    s.writes = s.written.map Entry.call ∧ s.writes.length = s.written.length := by
  have hi := inv_run hrun
  exact ⟨hi.writesEq, by rw [hi.writesEq, List.length_map]⟩

/-- nothing is lost or invented on the way: every completed send is written, in the flusher's
hand, or still queued, in this order (the inductive invariant) -/
theorem C20_conservation (v : Variant) (cap : Nat) (acts : List Action) (s : State)
    (hrun : run v cap acts = some s) :
    s.logged = s.written ++ s.fpc.hand ++ s.queue :=
  (inv_run hrun).conserve.trans (List.append_assoc _ _ _).symm

/-- Liveness part that the model can exhibit: while `FlushLogger` waits for completion the flusher
is never stuck — one of the statements of `flushLog` is enabled. (That completion arrives within
`waitFlushTimeout` additionally needs a fair scheduler, writers that return and loggers that do
not outrun the flusher for ever; that is assumed, not proved.) -/
theorem C20_progress (v : Variant) (cap : Nat) (acts : List Action) (s : State)
    (hrun : run v cap acts = some s) (hw : s.flush = .waiting) (hd : s.asyncDone = false) :
    ∃ a ∈ flusherActions, (step v cap s a).isSome = true :=
  flusher_progress (inv_run hrun) hw hd

/-- non-vacuity of the hypotheses of `C20_progress` -/
example : ∃ s, run .repaired 4 [.flushCall, .flushSync] = some s ∧ s.flush = .waiting ∧
    s.asyncDone = false :=
  ⟨_, rfl, rfl, rfl⟩

/-! ## Observed histories: what the replay of a run of the real code through the model means -/

/-- `admits` (the check the harness applies to every observed history, guided or unrestricted
search, any state limit) is sound: an admitted history is the visible history of a run of the LTS. -/
theorem C20_admits_sound (v : Variant) (cap limit : Nat) (h : List Event)
    (ha : admits v cap h limit = true) : ∃ s, Trace v cap init h s ∧ Reachable v cap s := by
  obtain ⟨s, t⟩ := admits_sound ha
  exact ⟨s, t, trace_reachable t Reachable.init⟩

/-- the completeness clause of C20 as a predicate on observed histories (this is what the harness
oracle evaluates on the implementation): whenever `FlushLogger` returns through its completion
signal, every entry whose logging call returned before `FlushLogger` was entered has been the
argument of a `Write` call before that return -/
def HistoryComplete (h : List Event) : Prop :=
  ∀ pre mid post, h = pre ++ [.flushCall] ++ mid ++ [.flushRet true] ++ post →
    ∀ e ∈ retsOf pre, e.call ∈ writesOf (pre ++ mid)

/-- every history the repaired model admits is complete: an observed history of the real code
that loses an entry cannot be replayed through the repaired model -/
theorem C20_histories (cap limit : Nat) (h : List Event)
    (ha : admits .repaired cap h limit = true) : HistoryComplete h := by
  intro pre mid post hh
  obtain ⟨s, t⟩ := admits_sound ha
  exact history_complete (hh ▸ t)

/-- the history observed on the unrepaired code under the forced D4 schedule (log, return,
FlushLogger, return — no `Write`) is admitted by the as-found model, is not complete, and is
rejected by the repaired model; with the `Write` it is admitted by both -/
theorem C20_counterexample_history :
    admits .asFound 1 [.logCall lastWords, .logRet lastWords, .flushCall, .flushRet true] = true ∧
    ¬ HistoryComplete [.logCall lastWords, .logRet lastWords, .flushCall, .flushRet true] ∧
    admits .repaired 1 [.logCall lastWords, .logRet lastWords, .flushCall, .flushRet true] = false ∧
    admits .repaired 1 [.logCall lastWords, .logRet lastWords, .flushCall, .write lastWords.call,
      .flushRet true] = true := by
  have hnc : ¬ HistoryComplete [.logCall lastWords, .logRet lastWords, .flushCall, .flushRet true] :=
    fun h => absurd (h [.logCall lastWords, .logRet lastWords] [] [] rfl lastWords (.head _)) (by decide)
  exact ⟨by decide +kernel, hnc, Bool.eq_false_iff.mpr fun ha => hnc (C20_histories 1 _ _ ha),
    by decide +kernel⟩

/-! ## The writer end: the size-rolling file writer keeps what it is handed

`flushLog` hands every entry to `v.writer.Write`; for the property's point ("the entries logged
immediately before a panic-triggered exit are not lost") the writer `SetFileRoller` installs must
put them into the files. Model: `Model/LogWriter.lean` (`RollFileWriter.Write`, `reOpenFile`,
literally, over a small file system with inodes, a directory and handles). `ws` is any sequence
of `Write` calls, each with the clock value it sees and whether its `os.OpenFile` calls succeed. -/

/-- Reading the files back in roll order (`<name>(num-1).log … <name>1.log <name>.log`) gives
exactly the sequence of all `Write` arguments, each once, whole and in order, after what the
rotation has discarded on purpose (files renamed over in the last slot) — for every `num`, every
size limit, every length function, every clock history, provided `os.OpenFile` succeeds. -/
theorem C20_roll_concat {β : Type} (len : β → Nat) (num size : Nat) (ws : List (LogWriter.Env × β))
    (hok : ∀ e ∈ ws, e.1.openOk = true) :
    (LogWriter.writes len true num size LogWriter.init ws).dropped ++
      LogWriter.concatRoll (LogWriter.writes len true num size LogWriter.init ws) (LogWriter.slots num)
      = ws.map (·.2) := by
  obtain ⟨fs, hinv⟩ := LogWriter.writes_init_inv len num size ws hok
  exact hinv.concatRoll

/-- … and nothing is discarded as long as the total volume stays below `num × size`: then the
files are exactly the writes. -/
theorem C20_roll_complete {β : Type} (len : β → Nat) (num size : Nat) (ws : List (LogWriter.Env × β))
    (hok : ∀ e ∈ ws, e.1.openOk = true)
    (hvol : LogWriter.sumLen len (ws.map (·.2)) < num * size) :
    LogWriter.concatRoll (LogWriter.writes len true num size LogWriter.init ws) (LogWriter.slots num)
      = ws.map (·.2) := by
  obtain ⟨fs, hinv⟩ := LogWriter.writes_init_inv len num size ws hok
  have := hinv.concatRoll
  rwa [hinv.dropBound.resolve_right (Nat.not_le_of_gt hvol)] at this

/-- non-vacuity: three files of limit 2, five one-byte writes, two rotations, nothing discarded -/
example :
    LogWriter.concatRoll (LogWriter.writes (fun _ : Nat => 1) true 3 2 LogWriter.init
      [(⟨0, true⟩, 10), (⟨0, true⟩, 11), (⟨5, true⟩, 12), (⟨20, true⟩, 13), (⟨21, true⟩, 14)]) 3
      = [10, 11, 12, 13, 14] ∧
    LogWriter.fileAt (LogWriter.writes (fun _ : Nat => 1) true 3 2 LogWriter.init
      [(⟨0, true⟩, 10), (⟨0, true⟩, 11), (⟨5, true⟩, 12), (⟨20, true⟩, 13), (⟨21, true⟩, 14)]) 2
      = [10, 11] := by decide +kernel

/-- Without the reopen at the end of the rotation branch the handle stays closed: every write
until the periodic reopen (`openTime + 10 < now`) is lost, although nothing was discarded. -/
theorem C20_roll_counterexample_no_reopen :
    LogWriter.concatRoll (LogWriter.writes (fun _ : Nat => 1) false 3 2 LogWriter.init
      [(⟨0, true⟩, 10), (⟨0, true⟩, 11), (⟨5, true⟩, 12), (⟨9, true⟩, 13), (⟨20, true⟩, 14)]) 3
      = [10, 11, 14] ∧
    (LogWriter.writes (fun _ : Nat => 1) false 3 2 LogWriter.init
      [(⟨0, true⟩, 10), (⟨0, true⟩, 11), (⟨5, true⟩, 12), (⟨9, true⟩, 13), (⟨20, true⟩, 14)]).dropped
      = [] := by decide +kernel

/-- The extractor saw the reopen at the end of the rotation branch of `RollFileWriter.Write`
(`Consts.loggerRollReopenAfterRotate`): the theorems above are about the writer of this tree. -/
theorem C20_roll_tree_reopens : LogWriter.treeReopens = true := by decide

/-! ## The panic exit: `CheckPanic` flushes before it exits

"In particular the entries logged immediately before a panic-triggered exit are not lost": on
that path the flush of `C20_fixed_last_words` has to actually run, and run before `os.Exit`.
Model: `Model/PanicExit.lean` (the recover branch of `tars.CheckPanic` as a statement sequence;
`os.Exit` skips deferred calls). -/

/-- the code as found: stack dump, flush, exit — in this order -/
theorem C20_panic_as_found :
    PanicExit.effects PanicExit.asFound = [.dump, .flush, .exit] ∧
    PanicExit.flushedBeforeExit (PanicExit.effects PanicExit.asFound) = true := by decide

/-- For every statement order of the branch: the process flushes the logs before it ends through
`os.Exit` iff a plain `rogger.FlushLogger()` call statement stands before the first `os.Exit`
(what the extractor anchor checks in the source). A deferred flush never counts. -/
theorem C20_panic_flush_iff (body : List PanicExit.PStmt) :
    PanicExit.flushedBeforeExit (PanicExit.effects body) = PanicExit.plainFlushBeforeExit body :=
  PanicExit.flushed_iff_plain body 0

/-- `defer rogger.FlushLogger()` in a branch that ends in `os.Exit`: the flush never runs -/
theorem C20_panic_counterexample_deferred :
    PanicExit.effects [.deferFlush, .dumpStack, .exit] = [.dump, .exit] ∧
    PanicExit.flushedBeforeExit (PanicExit.effects [.deferFlush, .dumpStack, .exit]) = false := by
  decide

/-- the recover branch of `CheckPanic` in the current tree (statement order read by the extractor,
`Consts.panicCheckPanicSeq`) flushes before it exits -/
theorem C20_panic_tree :
    PanicExit.flushedBeforeExit (PanicExit.effects PanicExit.treeBody) = true := by decide

end Tars.Logger
