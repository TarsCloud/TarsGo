/-
  C08 — Responses are delivered to the caller of the matching request id.

  Property theorems only; the model is `TarsModel/Model/Route.lean` (one action = one atomic
  shared-memory / channel operation of one goroutine of `genRequestID`, `TarsInvoke`, `doInvoke`,
  `AdapterProxy.Recv`, plus peer actions that emit ANY response packet at ANY time), helper lemmas
  are in `Proofs/RouteGen.lean`, `Proofs/RouteStep.lean`, `Proofs/RouteInv.lean`.
  "All interleavings" = all action lists (`Reachable`); "all peer behaviours" = the actions `emit a p`
  (arbitrary id: duplicates, ids nobody waits for, id 0, one-way typed), `garbage`, `connClose`, `drain`
  are enabled in every state.
-/
import TarsModel.Proofs.RouteInv

namespace Tars.C08
open Tars.Route

/-- The property at full strength, as a statement about the model:
    (1) every id `genRequestID` returns is non-zero, under all interleavings of its atomic steps;
    (2) no two concurrently outstanding calls of a process share an id;
    (3) every delivery to a call carries that call's id (all schedules, all peer behaviours);
    (4) a call ends with a response of its own id or with a timeout / send error, nothing else.
    (1), (3), (4) are proved below without hypotheses.  (2) cannot hold unconditionally for a 32-bit
    counter: `C08_distinct` proves it for ids with fewer than `period = 2^31 - 2` ids issued in
    between, `C08_distinct_tight` shows that this window is exact (the sequential id sequence
    2, 3, …, maxInt32, 2, … has exactly that period). -/
def C08_full : Prop :=
  ∀ (cfg : Cfg) (ctr : Int) (s : State), InRange ctr → Reachable cfg ctr s →
    (∀ v ∈ s.gen.issued, v ≠ 0) ∧
    (∀ (i j : Nat) (ci cj : Call), s.calls[i]? = some ci → s.calls[j]? = some cj → i ≠ j →
      ci.pc.hasId = true → cj.pc.hasId = true → ci.id ≠ cj.id) ∧
    (∀ (r : Nat) (x : Rcv) (i : Nat), s.rcvs[r]? = some x → x.pc = .offer i →
      ∃ c, s.calls[i]? = some c ∧ c.id = x.pkt.id) ∧
    (∀ (i : Nat) (c : Call) (p : Pkt), s.calls[i]? = some c → c.pc = .done (.reply p) → p.id = c.id)

/-- the literals of the Go code the model is written over: the CAS compares with `maxInt32` and stores
    1, the increment is 1, the skipped value and the push id are 0, the reply channel is unbuffered,
    `maxInt32 = 2^31 - 1` (re-extracted from servant.go / adapter.go on every run) -/
theorem C08_model_applicable :
    Consts.callCasOldIsMax = 1 ∧ Consts.callCasNew = 1 ∧ Consts.callAddDelta = 1 ∧
    Consts.callZeroSkip = 0 ∧ Consts.callPushId = 0 ∧ Consts.callReplyChanCap = 0 ∧
    Consts.callMaxInt32 = 2 ^ 31 - 1 ∧ period = 2 ^ 31 - 2 := by decide

/-- **C08_nonzero.** Whatever the initial counter value and however the CAS and add steps of any
    number of concurrent `genRequestID` executions interleave, every id returned is non-zero. -/
theorem C08_nonzero (ctr : Int) (h : InRange ctr) (as : List GenAct) :
    ∀ v ∈ (Gen.run ⟨ctr, []⟩ as).issued, v ≠ 0 :=
  fun v hv => ((genInv_run (genInv_start h) as).vals v hv).1

example : (Gen.run ⟨-2, []⟩ [.cas, .cas, .add, .add, .add, .add]).issued = [2, 1, -1] := by decide

/-- … and in the call-path LTS: the request id of every call that got one is non-zero (0 is
    reserved for server push), in every reachable state. -/
theorem C08_nonzero_calls {cfg : Cfg} {ctr : Int} {s : State} (hr : Reachable cfg ctr s)
    {i : Nat} {c : Call} (hc : s.calls[i]? = some c) (hid : c.pc.hasId = true) : c.id ≠ 0 :=
  ((inv_reachable hr).ident i c hc hid).1

/-- **C08_distinct.** Two ids returned with fewer than `period = 2^31 - 2` returns in between
    (positions `i < j` in the log of returned ids, `j - i < period`) are different — for every
    initial counter value and every interleaving of the atomic steps. -/
theorem C08_distinct (ctr : Int) (h : InRange ctr) (as : List GenAct) (i j : Nat) (x y : Int)
    (hij : i < j) (hd : ((j - i : Nat) : Int) < period)
    (hx : (Gen.run ⟨ctr, []⟩ as).issued[i]? = some x) (hy : (Gen.run ⟨ctr, []⟩ as).issued[j]? = some y) :
    x ≠ y :=
  (genInv_run (genInv_start h) as).distinct i j x y hij hd hx hy

example : InRange 2147483646 ∧
    -- two goroutines pass the CAS before either adds: the counter overflows to minInt32
    (Gen.run ⟨2147483646, []⟩ [.cas, .cas, .add, .add, .cas, .add]).issued =
      [-2147483647, -2147483648, 2147483647] := ⟨by unfold InRange; decide, by decide⟩

/-- The wrap-around, stated honestly: the window of `C08_distinct` is exact.  `maxInt32`
    uninterrupted executions of `genRequestID` starting from counter 1 return 2, 3, …, maxInt32, 2:
    the first and the last id are equal and exactly `period` returns apart. -/
theorem C08_distinct_tight :
    ∃ (as : List GenAct) (i j : Nat) (x : Int), ((j - i : Nat) : Int) = period ∧ i < j ∧
      (Gen.run ⟨1, []⟩ as).issued[i]? = some x ∧ (Gen.run ⟨1, []⟩ as).issued[j]? = some x := by
  refine ⟨seqActs 2147483646 ++ [.cas, .add], 0, 2147483646, 2, by decide, by decide, ?_, ?_⟩
  all_goals (
    rw [Gen.run_append, seq_run 2147483646 1 [] (by decide) (by decide)]
    have h1 : casStep ((1 : Int) + (2147483646 : Nat)) = 1 := by decide
    have h2 : addStep 1 = 2 := by decide
    simp only [Gen.run, Gen.step, Gen.cas, Gen.add, h1, h2, List.append_nil])
  · rfl
  · have : issues 2 = true := by decide
    simp only [this, ↓reduceIte]
    rw [List.getElem?_cons_succ]
    have := descend_last 1 2147483645 []
    simpa using this

/-- **C08_distinct for calls.** Two calls whose ids were issued fewer than `period` issues apart
    (in particular: two concurrently outstanding calls, unless 2^31 - 2 further ids are issued while
    the older one is still outstanding) have different request ids. -/
theorem C08_distinct_calls {cfg : Cfg} {ctr : Int} {s : State} (hc : InRange ctr) (hr : Reachable cfg ctr s)
    {i j : Nat} {ci cj : Call} (hi : s.calls[i]? = some ci) (hj : s.calls[j]? = some cj) (hij : i ≠ j)
    (hidi : ci.pc.hasId = true) (hidj : cj.pc.hasId = true)
    (hw : ((ci.seq : Int) - cj.seq) < period ∧ ((cj.seq : Int) - ci.seq) < period) : ci.id ≠ cj.id := by
  have hI := inv_reachable hr
  have hG := genInv_reachable hc hr
  have h1 := (hI.ident i ci hi hidi).2
  have h2 := (hI.ident j cj hj hidj).2
  have hne := hI.seqDistinct i j ci cj hi hj hij hidi hidj
  have l1 := lt_of_getElem? h1
  have l2 := lt_of_getElem? h2
  simp only [List.length_reverse] at l1 l2
  rw [List.getElem?_reverse l1] at h1
  rw [List.getElem?_reverse l2] at h2
  by_cases hlt : ci.seq < cj.seq
  · -- cj is the more recent one: smaller index in the most-recent-first log
    have := hG.distinct (s.gen.issued.length - 1 - cj.seq) (s.gen.issued.length - 1 - ci.seq) cj.id ci.id
      (by omega) (by omega) h2 h1
    exact fun h => this h.symm
  · exact hG.distinct (s.gen.issued.length - 1 - ci.seq) (s.gen.issued.length - 1 - cj.seq) ci.id cj.id
      (by omega) (by omega) h1 h2

/-- **C08_route** (inductive invariant, all schedules, all peer behaviours).
    (a) every entry of a pending-reply table maps an id to the channel of a call that carries this id,
        was sent through this adapter and is between `resp.Store` and `resp.Delete`;
    (b) a `Recv` goroutine offering a packet on the channel of call `i` holds a packet whose id is the
        id of call `i` (never 0, never one-way typed) received on the adapter call `i` uses;
    (c) every hand-over (`deliver`) gives a waiting call a packet carrying the call's own id, sent by
        the peer of the call's own adapter, and changes nothing else but the receiver's state. -/
theorem C08_route {cfg : Cfg} {ctr : Int} {s : State} (hr : Reachable cfg ctr s) :
    (∀ e ∈ s.table, ∃ c, s.calls[e.call]? = some c ∧ c.id = e.id ∧ c.adp = e.adp ∧ c.pc.registered = true) ∧
    (∀ (r : Nat) (x : Rcv) (i : Nat), s.rcvs[r]? = some x → x.pc = .offer i →
      (∃ c, s.calls[i]? = some c ∧ c.id = x.pkt.id ∧ c.adp = x.adp) ∧ x.pkt.id ≠ 0 ∧ x.pkt.oneway = false) ∧
    (∀ (r : Nat) (s' : State), step cfg s (.deliver r) = some s' →
      ∃ (x : Rcv) (i : Nat) (c : Call), s.rcvs[r]? = some x ∧ s.calls[i]? = some c ∧ c.pc = .wait ∧
        x.pkt.id = c.id ∧ x.adp = c.adp ∧ (c.adp, x.pkt) ∈ s.emitted ∧
        s' = (s.setCall i { c with pc := .decQ (.reply x.pkt) }).setRcv r { x with pc := .delivered }) := by
  have hI := inv_reachable hr
  refine ⟨hI.tbl, ?_, ?_⟩
  · intro r x i hx hpc
    obtain ⟨⟨c, h0, h1, h2, _⟩, h3⟩ := hI.off r x i hx hpc
    exact ⟨⟨c, h0, h1, h2⟩, h3⟩
  · intro r s' hs
    obtain ⟨x, i, c, hx, hc, hw, h1, h2, hem, _, _, hs'⟩ := hI.deliver hs
    exact ⟨x, i, c, hx, hc, hw, h1, h2, hem, hs'⟩

/-- **C08_outcome.** A call that has returned ended with a response carrying its own request id — a
    packet the peer of its own adapter really sent, with non-zero id and not one-way typed — or with a
    timeout, a send error, "no adapter", "queue full", or (one-way request) without waiting; never
    with a response addressed to another call. -/
theorem C08_outcome {cfg : Cfg} {ctr : Int} {s : State} (hr : Reachable cfg ctr s)
    {i : Nat} {c : Call} {o : Outcome} (hc : s.calls[i]? = some c) (hd : c.pc = .done o) :
    (∃ p, o = .reply p ∧ p.id = c.id ∧ (c.adp, p) ∈ s.emitted ∧ p.id ≠ 0 ∧ p.oneway = false) ∨
    o = .timeout ∨ o = .sendErr ∨ o = .noAdapter ∨ o = .queueFull ∨ o = .onewayOk := by
  cases o with
  | reply p => exact .inl ⟨p, rfl, (inv_reachable hr).rep i c p hc (by rw [hd]; rfl)⟩
  | _ => simp

/-- **C08_registered.** While a call is between `resp.Store` and `resp.Delete`, the table of its
    adapter maps its id to its own channel — unless another call of the same adapter carries the same id
    (excluded by `C08_distinct_calls` for calls issued fewer than 2^31 - 2 ids apart). -/
theorem C08_registered {cfg : Cfg} {ctr : Int} {s : State} (hr : Reachable cfg ctr s)
    {i : Nat} {c : Call} (hc : s.calls[i]? = some c) (hreg : c.pc.registered = true)
    (huniq : ∀ (j : Nat) (c' : Call), j ≠ i → s.calls[j]? = some c' → c'.pc.stored = true → c'.adp = c.adp →
      c'.id ≠ c.id) : tLoad s.table c.adp c.id = some i := by
  rcases (inv_reachable hr).own i c hc hreg with h | ⟨j, c', h1, h2, h3, h4, h5⟩
  · exact h
  · exact absurd h4 (huniq j c' h1 h2 h3 h5)

/-! ### non-vacuity: a concrete schedule with two concurrent calls and a hostile peer

  Two callers share one adapter; call 1 adds first and gets id 1, call 0 gets id 2.  The peer answers
  id 1 first, then sends an id nobody waits for (7), id 0 (push), a one-way typed packet with id 2, the
  answer for id 2, and a duplicate of it.  Both calls end with the response of their own id; the
  duplicate is offered to a call that has stopped listening and is given up. -/

def demoCfg : Cfg := ⟨1, 100, 4, 3, 3, 5⟩
def demoPar (b : Nat) : Params := ⟨false, b, none, none, b / 20⟩  -- two ServantProxy objects sharing the adapter

def demoActs : List Action :=
  [ .spawn (demoPar 10), .spawn (demoPar 20),
    .call 0 .begin, .call 1 .begin, .call 0 .cas, .call 1 .cas, .call 1 .add, .call 0 .add,
    .call 0 .pre, .call 1 .pre, .call 0 (.selectAdp (some 0)), .call 1 (.selectAdp (some 0)),
    .call 0 .gate, .call 1 .gate, .call 0 .incQ, .call 1 .incQ, .call 0 .store, .call 1 .store,
    .call 0 .lockAcq, .call 0 .dialOk, .call 1 .lockAcq, .call 0 .enqueue, .call 1 .enqueue,
    .drain 0, .drain 0,
    .emit 0 ⟨1, false, 21⟩,    -- call 1 got id 1 (it added first): answered first
    .emit 0 ⟨7, false, 99⟩, .emit 0 ⟨0, false, 98⟩, .emit 0 ⟨2, true, 97⟩,
    .emit 0 ⟨2, false, 11⟩, .emit 0 ⟨2, false, 12⟩,
    .lookup 0, .lookup 1, .lookup 2, .lookup 3, .lookup 4, .lookup 5,
    .deliver 0, .deliver 4, .giveUp 5,
    .call 0 .decQ, .call 0 .del, .call 0 .post, .call 1 .decQ, .call 1 .del, .call 1 .post ]

example : (run demoCfg (init demoCfg 0) demoActs).map
      (fun s => (s.calls.map (fun c => (c.id, c.pc)), s.rcvs.map (·.pc), s.table, s.queueLens, s.invokeNum)) =
    some ([(2, .done (.reply ⟨2, false, 11⟩)), (1, .done (.reply ⟨1, false, 21⟩))],
          [.delivered, .dropped, .pushed, .dropped, .delivered, .dropped], [], [0, 0], 0) := by decide

end Tars.C08
