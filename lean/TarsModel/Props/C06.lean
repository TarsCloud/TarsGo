import TarsModel.Proofs.ShortKinds
import TarsModel.Proofs.WireExact
import TarsModel.Proofs.ShortBoundary
import TarsModel.Proofs.ShortExample
import TarsModel.Proofs.EvolveReset
import TarsModel.Model.AsFoundRead
import TarsModel.Proofs.AsFoundPrim

/-!
# C06 — Truncated or mistyped input

Property theorems only (helper lemmas: `Proofs/Short*.lean` for the struct and member level,
`Proofs/WireSat.lean`, `WireExact.lean`, `AsFoundPrim.lean` for the primitives and readers).

The model in `Model/Wire.lean` is the REPAIRED `codec.go` (fix of defect D8: `io.ReadFull` in
`bReadU16/32/64`, `ReadSliceInt8/Uint8`, `ReadBytes`; length check after `Next` in `ReadString`).
On it the reader-level clauses hold at full strength:

* `C06_no_overread_*`   a successful `ReadX` either did not find the (optional) field and kept the
  old value, or found a head of an admissible wire type followed by its COMPLETE payload inside the
  input, consumed exactly that, and returned the value those bytes determine.  In particular the
  position after a successful found read never exceeds the input length, and there are no partial
  strings, zero-padded numbers or zero-filled buffers.
* `C06_prim_*`          the same for the primitives (`bReadU n`, `nextExact`, `readSlice8`,
  `readBytes`): this is the specification the D8 fix had to meet.
* `C06_mistyped_*`      declared type × wire type matrix: a present field of an inadmissible wire
  type is rejected with `.mismatch` (for every tag, whatever follows), for the scalar readers and
  for vector / array / map / struct members of the generated decoders.
* `C06_shortread_counterexamples`  the three D8 witnesses, about the AS-FOUND primitives kept in
  `Model/WireAsFound.lean` / `Model/AsFoundRead.lean`; `C06_shortread_repaired` the same inputs on
  `Model/Wire.lean`; `C06_asFound_*` the exact relation (agree outside `0 < remaining < n`, differ
  inside).

Struct level (first sentence of the property: "when a valid encoding is cut short … decoding fails
with an error, or succeeds only with exactly the value determined by the complete fields that are
present (later optional fields at their defaults)"):

* `C06_prefix_full_holds : C06_prefix_full`   for every well-formed schema, every struct, every
  well-typed value and EVERY prefix `p` of its encoding, `ReadFrom` into a fresh struct returns an
  error, or: `k` members have their complete field inside `p`, `p` ends exactly there or one byte
  later with the first byte of a two-byte head (tag ≥ 15; a head that cannot be completely read is
  not a complete field and the generated code treats the member as absent), all members from `k`
  on are optional, and the result is exactly the (normalised) values of the first `k` members
  followed by what `ResetDefault` gives the others (`absentVals`; for a member that is not a nested
  struct this is `defaultOf`: `C06_prefix_absent_default`; for a nested struct it is the struct
  after its own `ResetDefault`, written with the model's fuel).
* `C06_member_cut`      the member-level statement behind it, for every member kind (scalars,
  strings, vectors, byte vectors, fixed arrays, maps, nested structs, arbitrarily nested): on a
  proper prefix of the member's field the generated read reports an error, or — only for an
  optional member whose head is not complete — treats the member as absent with the input used up.
* `C06_prefix_error_unless_boundary`  any prefix that does not end at (or one half-head byte
  after) a member boundary ⇒ error: no partial string, no zero-padded number, no short vector.
* `C06_prefix_struct` / `C06_prefix_atoms` / `C06_prefix_cut_error` / `C06_prefix_boundary_ok`:
  admissible cuts `CutOK` (no half heads) with the sharper outcome `PrefixOutcome` (cut exactly at
  a boundary), error off the boundaries, success at a boundary.
-/
namespace Tars
open Consts

/-! ## Struct level: `ReadFrom` on a cut encoding -/

/-- what `ReadFrom` into a fresh struct may do on the cut encoding `p` of the struct value `vs`:
    report an error, or — the cut being exactly behind member `k`, all later members optional —
    return exactly the values of the members before `k` (in the round-trip normal form of C03) and,
    for the others, what `ResetDefault` gave them -/
def PrefixOutcome (env : Env) (S : String) (fs : List Field) (vs : List Val) (p : Bytes) : Prop :=
  (∃ e r', decStruct env S (freshStruct env S) (Reader.mk0 p) = (.error e, r')) ∨
  (∃ k r' os, freshStruct env S = .struct os ∧ k ≤ fs.length ∧
    p = encMembers env (fs.take k) (vs.take k) ∧ (∀ f ∈ fs.drop k, f.req = false) ∧
    decStruct env S (freshStruct env S) (Reader.mk0 p) =
      (.ok (.struct (normMembers env (fs.take k) (vs.take k) ++
        absentVals env (decFuel env (Reader.mk0 p) - k) (fs.drop k)
          ((resetDefault env (decFuel env (Reader.mk0 p)) fs os).drop k))), r'))

/-- the outcome for an arbitrary prefix: as `PrefixOutcome`, with `k` = number of members whose
    complete field lies inside `p`; `p` ends exactly behind them, or one byte later with the first
    byte of a two-byte head (`CutAt`), which is not a complete field -/
def PrefixOutcomeGen (env : Env) (S : String) (fs : List Field) (vs : List Val) (p : Bytes) : Prop :=
  (∃ e r', decStruct env S (freshStruct env S) (Reader.mk0 p) = (.error e, r')) ∨
  (∃ k r' os, freshStruct env S = .struct os ∧ k ≤ fs.length ∧
    CutAt p (encMembers env (fs.take k) (vs.take k)) ∧ (∀ f ∈ fs.drop k, f.req = false) ∧
    decStruct env S (freshStruct env S) (Reader.mk0 p) =
      (.ok (.struct (normMembers env (fs.take k) (vs.take k) ++
        absentVals env (decFuel env (Reader.mk0 p) - k) (fs.drop k)
          ((resetDefault env (decFuel env (Reader.mk0 p)) fs os).drop k))), r'))

/-- Prefix law at full strength: for EVERY prefix of the encoding of every well-typed value of
    every struct of every well-formed schema (`C06_prefix_full_holds`) -/
def C06_prefix_full : Prop :=
  ∀ (env : Env) (rk : String → Nat) (S : String) (fs : List Field) (vs : List Val) (p : Bytes),
    WellTyped env rk S (.struct vs) → env.find S = some fs →
    p <+: encStruct env S (.struct vs) → PrefixOutcomeGen env S fs vs p

theorem C06_prefix_full_holds : C06_prefix_full := by
  intro env rk S fs vs p hW hfs hp
  simp only [encStruct, hfs] at hp
  obtain ⟨os, hos, hold, hfuel, hdec⟩ := decStruct_fresh p hW.1 hfs
  unfold PrefixOutcomeGen
  rw [hos, hdec]
  rcases decMembers_prefix env rk hW.1 vs (fun v _ => tr_all env rk hW.1 v) fs _
    (decFuel env (Reader.mk0 p)) _ p (hW.1.memberOK hfs) (hW.1.tagsAsc hfs) (hW.members hfs) hold hp hfuel
    (Reader.rest_mk0 p) with ⟨e, r', he⟩ | ⟨k, r', hk, hcut, hopt, _, hm⟩
  · left; rw [he]; exact ⟨e, r', rfl⟩
  · right
    refine ⟨k, r', os, rfl, hk, hcut, hopt, ?_⟩
    rw [hm]

/-- the member-level statement (every member kind, by induction over the value): the generated read of a
    member/element holding `v`, on a proper prefix `q` of its field with nothing behind it, reports
    an error — or, only if the member is optional and `q` does not even hold the complete head
    (`q` empty or the first byte of a two-byte head), treats the member as absent, the input
    being used up -/
theorem C06_member_cut (env : Env) (rk : String → Nat) (hE : EnvWF env rk) (v : Val)
    (fuel tag : Nat) (req : Bool) (ty : Ty) (dflt : Option Val) (old : Val) (r : Reader) (q : Bytes)
    (htag : tag < 256) (hty : TyOK env rk (env.length + 1) ty) (hd : DfltOK ty dflt)
    (hwt : WT env ty v) (ho : OldOK env ty dflt old)
    (hpre : q <+: encVar env tag req ty dflt v)
    (hlt : q.length < (encVar env tag req ty dflt v).length)
    (hfuel : (env.width + 3) * q.length + 1 ≤ fuel) (hr : r.rest = q) :
    (∃ e r', decVar env fuel tag req ty old r = (.error e, r')) ∨
    (req = false ∧ (q = [] ∨ HalfHead q) ∧
      ∃ r', decVar env fuel tag req ty old r = (.ok (Evolve.absentVal env (fuel - 1) ty old), r') ∧
        r'.rest = []) :=
  tr_all env rk hE v fuel tag req ty dflt old r q htag hty hd hwt ho ⟨hpre, hlt⟩ hfuel hr

/-- a required member or an element (vector element, map key/value) on a proper prefix of its
    field: always an error -/
theorem C06_member_cut_required (env : Env) (rk : String → Nat) (hE : EnvWF env rk) (v : Val)
    (fuel tag : Nat) (ty : Ty) (dflt : Option Val) (old : Val) (r : Reader) (q : Bytes)
    (htag : tag < 256) (hty : TyOK env rk (env.length + 1) ty) (hd : DfltOK ty dflt)
    (hwt : WT env ty v) (ho : OldOK env ty dflt old)
    (hpre : q <+: encVar env tag true ty dflt v)
    (hlt : q.length < (encVar env tag true ty dflt v).length)
    (hfuel : (env.width + 3) * q.length + 1 ≤ fuel) (hr : r.rest = q) :
    ∃ e r', decVar env fuel tag true ty old r = (.error e, r') :=
  cutRes_req_error (tr_all env rk hE v fuel tag true ty dflt old r q htag hty hd hwt ho ⟨hpre, hlt⟩ hfuel hr)

/-- a prefix that ends neither at a member boundary nor one half-head byte behind one: error -/
theorem C06_prefix_error_unless_boundary (env : Env) (rk : String → Nat) (S : String)
    (fs : List Field) (vs : List Val) (p : Bytes) (hW : WellTyped env rk S (.struct vs))
    (hfs : env.find S = some fs) (hp : p <+: encStruct env S (.struct vs))
    (hnb : ∀ k, k ≤ fs.length → ¬ CutAt p (encMembers env (fs.take k) (vs.take k))) :
    ∃ e r', decStruct env S (freshStruct env S) (Reader.mk0 p) = (.error e, r') := by
  rcases C06_prefix_full_holds env rk S fs vs p hW hfs hp with h | ⟨k, _, _, _, hk, hc, _⟩
  · exact h
  · exact absurd hc (hnb k hk)

/-- every admissible cut `CutOK`, with the sharper outcome (the cut is exactly
    at a member boundary) -/
theorem C06_prefix_struct (env : Env) (rk : String → Nat) (S : String) (fs : List Field)
    (vs : List Val) (p : Bytes) (hW : WellTyped env rk S (.struct vs)) (hfs : env.find S = some fs)
    (hcut : CutOK env fs vs p) : PrefixOutcome env S fs vs p := by
  have hp : p <+: encStruct env S (.struct vs) := by
    simpa only [encStruct, hfs] using cutOK_prefix env fs vs p hcut
  rcases C06_prefix_full_holds env rk S fs vs p hW hfs hp with h | ⟨k, r', os, h1, hk, hc, hopt, hdec⟩
  · exact .inl h
  · exact .inr ⟨k, r', os, h1, hk, cutOK_cutAt env fs vs p k hcut hc, hopt, hdec⟩

/-- an admissible cut that is not at a member boundary is an error -/
theorem C06_prefix_cut_error (env : Env) (rk : String → Nat) (S : String) (fs : List Field)
    (vs : List Val) (p : Bytes) (hW : WellTyped env rk S (.struct vs)) (hfs : env.find S = some fs)
    (hcut : CutOK env fs vs p)
    (hnb : ∀ k, k ≤ fs.length → p ≠ encMembers env (fs.take k) (vs.take k)) :
    ∃ e r', decStruct env S (freshStruct env S) (Reader.mk0 p) = (.error e, r') := by
  rcases C06_prefix_struct env rk S fs vs p hW hfs hcut with h | ⟨k, _, _, _, hk, hp, _⟩
  · exact h
  · exact absurd hp (hnb k hk)

/-- a cut exactly behind member `k` with only optional members left: success, with exactly the
    present members and the defaults of the others (members of any kind) -/
theorem C06_prefix_boundary_ok (env : Env) (rk : String → Nat) (S : String) (fs : List Field)
    (vs : List Val) (k : Nat) (hW : WellTyped env rk S (.struct vs)) (hfs : env.find S = some fs)
    (hk : k ≤ fs.length) (hopt : ∀ f ∈ fs.drop k, f.req = false) :
    ∃ os r', freshStruct env S = .struct os ∧
      decStruct env S (freshStruct env S) (Reader.mk0 (encMembers env (fs.take k) (vs.take k))) =
        (.ok (.struct (normMembers env (fs.take k) (vs.take k) ++
          absentVals env (decFuel env (Reader.mk0 (encMembers env (fs.take k) (vs.take k))) - k)
            (fs.drop k)
            ((resetDefault env (decFuel env (Reader.mk0 (encMembers env (fs.take k) (vs.take k)))) fs os).drop k))),
         r') := by
  obtain ⟨os, hos, hold, hfuel, hdec⟩ := decStruct_fresh (encMembers env (fs.take k) (vs.take k)) hW.1 hfs
  have hm := decMembers_boundary env rk hW.1 k vs fs _ _ _ (hW.1.memberOK hfs) (hW.1.tagsAsc hfs)
    (hW.members hfs) hold hk hopt hfuel (Reader.rest_mk0 _)
  exact ⟨os, _, hos, by rw [hos, hdec, hm]⟩

/-- every member boundary is an admissible cut -/
theorem C06_cutOK_boundary (env : Env) (fs : List Field) (vs : List Val) (k : Nat) :
    CutOK env fs vs (encMembers env (fs.take k) (vs.take k)) := by
  induction fs generalizing vs k with
  | nil => cases vs <;> simp [CutOK, encMembers]
  | cons f fs ih =>
    cases vs with
    | nil => cases k <;> simp [CutOK, encMembers]
    | cons v vs =>
      cases k with
      | zero => simp [CutOK, encMembers]
      | succ k =>
        simp only [List.take_succ_cons, encMembers, CutOK]
        exact Or.inl ⟨_, rfl, ih vs k⟩

/-- for structs all of whose members are scalars or enums with tags below 15,
    every prefix, with the sharper outcome `PrefixOutcome` (no half heads can occur) -/
theorem C06_prefix_atoms (env : Env) (rk : String → Nat) (S : String) (fs : List Field)
    (vs : List Val) (p : Bytes) (hW : WellTyped env rk S (.struct vs)) (hfs : env.find S = some fs)
    (hat : ∀ f ∈ fs, f.ty.isAtom = true ∧ f.tag < 15)
    (hp : p <+: encStruct env S (.struct vs)) : PrefixOutcome env S fs vs p := by
  simp only [encStruct, hfs] at hp
  exact C06_prefix_struct env rk S fs vs p hW hfs (cutOK_of_atoms env fs vs p hat hp)

/-- the value of an absent member that is not a nested struct: `defaultOf` (C04: its explicit IDL
    default, else reset structs for an array of structs, else the Go zero value) — the entry of
    `absentVals` in `PrefixOutcome`, for member `k + i` of the schema -/
theorem C06_prefix_absent_default (env : Env) (G F k i : Nat) (fs : List Field) (os0 : List Val)
    (f : Field) (o0 : Val) (hf : fs[k + i]? = some f) (ho : os0[k + i]? = some o0)
    (hty : Evolve.isStructTy f.ty = false) :
    (absentVals env F (fs.drop k) ((resetDefault env (G+1) fs os0).drop k))[i]?
      = some (Evolve.defaultOf env G f) := by
  have h1 : (fs.drop k)[i]? = some f := by rw [List.getElem?_drop]; exact hf
  have h2 : ((resetDefault env (G+1) fs os0).drop k)[i]? = some (Evolve.resetMember env G f o0) := by
    rw [List.getElem?_drop]; exact Evolve.resetDefault_getElem? env G fs os0 (k + i) f o0 hf ho
  rw [absentVals_getElem? env _ _ F i f _ h1 h2, Evolve.absentVal_plain env _ _ _ hty,
    Evolve.resetMember_nonstruct env G f o0 hty]

/-! ## Primitives: a successful read is one complete payload inside the input -/

/-- `bReadU16/32/64`: success ⇒ exactly `n` existing bytes consumed, value = their big-endian value -/
theorem C06_prim_bReadU {n : Nat} {r r' : Reader} {v : Nat} (hn : 0 < n)
    (h : bReadU n r = (.ok v, r')) :
    r.pos + n ≤ r.data.size ∧ r' = ⟨r.data, r.pos + n⟩ ∧ v = beVal (takeFrom r.data r.pos n) ∧
    (takeFrom r.data r.pos n).length = n :=
  bReadU_ok hn h

/-- `bReadU16/32/64` fails exactly when fewer than `n` bytes remain -/
theorem C06_prim_bReadU_err {n : Nat} {r r' : Reader} {e : Err} (h : bReadU n r = (.error e, r')) :
    e = .eof ∧ r.remaining < n :=
  bReadU_err h

/-- the string tail (`Next` + length check): success ⇒ exactly `l` existing bytes -/
theorem C06_prim_nextExact {l : Nat} {r r' : Reader} {s : Bytes} (hpos : r.pos ≤ r.data.size)
    (h : nextExact l r = (.ok s, r')) :
    r.pos + l ≤ r.data.size ∧ r' = ⟨r.data, r.pos + l⟩ ∧ s = takeFrom r.data r.pos l ∧ s.length = l :=
  nextExact_ok hpos h

/-- `ReadSliceInt8/Uint8` (`CheckLength`, then `io.ReadFull`): success ⇒ empty result (`len ≤ 0`)
    or exactly `len` existing bytes -/
theorem C06_prim_readSlice8 {old : Bytes} {len : Int} {r r' : Reader} {bs : Bytes}
    (h : readSlice8 old len r = (.ok bs, r')) :
    (len ≤ 0 ∧ bs = [] ∧ r' = r) ∨
    (0 < len ∧ r.pos + len.toNat ≤ r.data.size ∧ r' = ⟨r.data, r.pos + len.toNat⟩ ∧
      bs = takeFrom r.data r.pos len.toNat ∧ bs.length = len.toNat) :=
  readSlice8_exact h

/-- `ReadBytes` (TUP; `CheckLength`, then `io.ReadFull`): success ⇒ `len ≥ 0` and exactly `len`
    existing bytes; a negative length is an error, not a `make` panic
    (`C05_readBytes_no_panic`) -/
theorem C06_prim_readBytes {len : Int} {r r' : Reader} {bs : Bytes}
    (h : readBytes len r = (.ok bs, r')) :
    0 ≤ len ∧ bs.length = len.toNat ∧ r'.data = r.data ∧ r'.pos = r.pos + len.toNat ∧
    (0 < len → r'.pos ≤ r.data.size ∧ bs = takeFrom r.data r.pos len.toNat) :=
  readBytes_exact h

/-! ## Readers: no over-read, exact value (full strength on the repaired model) -/

/-- shape of the statement for the four signed integer readers (`maxw` = 1, 2, 4, 8 bytes) -/
def IntExact (maxw : Nat) (old : Int) (tag : Nat) (req : Bool) (r r' : Reader) (v : Int) : Prop :=
  (∃ ty, skipToNoCheck tag req r = (.ok (false, ty), r') ∧ v = old ∧ req = false) ∨
  (∃ ty r1 w, skipToNoCheck tag req r = (.ok (true, ty), r1) ∧ intWidth maxw ty = some w ∧
    r1.pos + w ≤ r.data.size ∧ r' = ⟨r.data, r1.pos + w⟩ ∧ v = fieldInt r.data r1.pos w)

theorem C06_no_overread_int8 {old : Int} {tag : Nat} {req : Bool} {r r' : Reader} {v : Int}
    (h : readInt8 old tag req r = (.ok v, r')) : IntExact 1 old tag req r r' v := by
  rw [readInt8_body] at h; exact readWith_int_exact h
theorem C06_no_overread_int16 {old : Int} {tag : Nat} {req : Bool} {r r' : Reader} {v : Int}
    (h : readInt16 old tag req r = (.ok v, r')) : IntExact 2 old tag req r r' v := by
  rw [readInt16_body] at h; exact readWith_int_exact h
theorem C06_no_overread_int32 {old : Int} {tag : Nat} {req : Bool} {r r' : Reader} {v : Int}
    (h : readInt32 old tag req r = (.ok v, r')) : IntExact 4 old tag req r r' v := by
  rw [readInt32_body] at h; exact readWith_int_exact h
theorem C06_no_overread_int64 {old : Int} {tag : Nat} {req : Bool} {r r' : Reader} {v : Int}
    (h : readInt64 old tag req r = (.ok v, r')) : IntExact 8 old tag req r r' v := by
  rw [readInt64_body] at h; exact readWith_int_exact h

/-- the unsigned readers and `ReadBool` are conversions of the next wider signed reader's result -/
theorem C06_no_overread_uint8 {old tag : Nat} {req : Bool} {r r' : Reader} {v : Nat}
    (h : readUint8 old tag req r = (.ok v, r')) :
    ∃ n, IntExact 2 (old : Int) tag req r r' n ∧ v = toU 8 n := by
  obtain ⟨n, hn, hv⟩ := mapRes_ok h
  exact ⟨n, C06_no_overread_int16 hn, hv⟩
theorem C06_no_overread_uint16 {old tag : Nat} {req : Bool} {r r' : Reader} {v : Nat}
    (h : readUint16 old tag req r = (.ok v, r')) :
    ∃ n, IntExact 4 (old : Int) tag req r r' n ∧ v = toU 16 n := by
  obtain ⟨n, hn, hv⟩ := mapRes_ok h
  exact ⟨n, C06_no_overread_int32 hn, hv⟩
theorem C06_no_overread_uint32 {old tag : Nat} {req : Bool} {r r' : Reader} {v : Nat}
    (h : readUint32 old tag req r = (.ok v, r')) :
    ∃ n, IntExact 8 (old : Int) tag req r r' n ∧ v = toU 32 n := by
  obtain ⟨n, hn, hv⟩ := mapRes_ok h
  exact ⟨n, C06_no_overread_int64 hn, hv⟩
theorem C06_no_overread_bool {old : Bool} {tag : Nat} {req : Bool} {r r' : Reader} {v : Bool}
    (h : readBool old tag req r = (.ok v, r')) :
    ∃ n, IntExact 1 (if old then 1 else 0) tag req r r' n ∧ v = !(n == 0) := by
  obtain ⟨n, hn, hv⟩ := mapRes_ok h
  exact ⟨n, C06_no_overread_int8 hn, hv⟩

theorem C06_no_overread_float32 {old : Nat} {tag : Nat} {req : Bool} {r r' : Reader} {v : Nat}
    (h : readFloat32 old tag req r = (.ok v, r')) :
    (∃ ty, skipToNoCheck tag req r = (.ok (false, ty), r') ∧ v = old ∧ req = false) ∨
    (∃ ty r1 w, skipToNoCheck tag req r = (.ok (true, ty), r1) ∧ f32Width ty = some w ∧
      r1.pos + w ≤ r.data.size ∧ r' = ⟨r.data, r1.pos + w⟩ ∧ v = fieldF32 r.data r1.pos w) :=
  readFloat32_exact h

theorem C06_no_overread_float64 {old : Nat} {tag : Nat} {req : Bool} {r r' : Reader} {v : Nat}
    (h : readFloat64 old tag req r = (.ok v, r')) :
    (∃ ty, skipToNoCheck tag req r = (.ok (false, ty), r') ∧ v = old ∧ req = false) ∨
    (∃ ty r1 w, skipToNoCheck tag req r = (.ok (true, ty), r1) ∧ f64Width ty = some w ∧
      r1.pos + w ≤ r.data.size ∧ r' = ⟨r.data, r1.pos + w⟩ ∧ v = fieldF64 r.data r1.pos w) :=
  readFloat64_exact h

/-- strings: a complete length prefix of `w` bytes announcing `l`, then exactly `l` bytes, all
    inside the input; the result is those `l` bytes (never a partial string) -/
theorem C06_no_overread_string {old : Bytes} {tag : Nat} {req : Bool} {r r' : Reader} {s : Bytes}
    (h : readString old tag req r = (.ok s, r')) :
    (∃ ty, skipToNoCheck tag req r = (.ok (false, ty), r') ∧ s = old ∧ req = false) ∨
    (∃ ty r1 w l, skipToNoCheck tag req r = (.ok (true, ty), r1) ∧ strLenWidth ty = some w ∧
      l = beVal (takeFrom r.data r1.pos w) ∧ r1.pos + w + l ≤ r.data.size ∧
      r' = ⟨r.data, r1.pos + w + l⟩ ∧ s = takeFrom r.data (r1.pos + w) l ∧ s.length = l) :=
  readString_exact h

/-- "never reads past the end" in summary form, for `ReadInt64` (the widest integer reader): when it
    succeeds after FINDING its field, the final position is inside the input -/
theorem C06_found_read_inside {old : Int} {tag : Nat} {req : Bool} {r r' r1 : Reader} {v : Int} {ty : Nat}
    (hs : skipToNoCheck tag req r = (.ok (true, ty), r1))
    (h : readInt64 old tag req r = (.ok v, r')) : r'.pos ≤ r'.data.size := by
  rcases C06_no_overread_int64 h with ⟨ty', h1, _⟩ | ⟨_, r1', w, _, _, h3, h4, _⟩
  · rw [hs] at h1; simp at h1
  · rw [h4]; exact h3

/-! ## Mistyped fields: the declared-type × wire-type matrix -/

/-- general form (the field may be found after skipping earlier fields) -/
theorem C06_mistyped_int8 {old : Int} {tag : Nat} {req : Bool} {r r1 : Reader} {ty : Nat}
    (hs : skipToNoCheck tag req r = (.ok (true, ty), r1)) (hw : intWidth 1 ty = none) :
    readInt8 old tag req r = (.error .mismatch, r1) := by
  rw [readInt8_body]; exact readWith_int_mismatch hs hw
theorem C06_mistyped_int16 {old : Int} {tag : Nat} {req : Bool} {r r1 : Reader} {ty : Nat}
    (hs : skipToNoCheck tag req r = (.ok (true, ty), r1)) (hw : intWidth 2 ty = none) :
    readInt16 old tag req r = (.error .mismatch, r1) := by
  rw [readInt16_body]; exact readWith_int_mismatch hs hw
theorem C06_mistyped_int32 {old : Int} {tag : Nat} {req : Bool} {r r1 : Reader} {ty : Nat}
    (hs : skipToNoCheck tag req r = (.ok (true, ty), r1)) (hw : intWidth 4 ty = none) :
    readInt32 old tag req r = (.error .mismatch, r1) := by
  rw [readInt32_body]; exact readWith_int_mismatch hs hw
theorem C06_mistyped_int64 {old : Int} {tag : Nat} {req : Bool} {r r1 : Reader} {ty : Nat}
    (hs : skipToNoCheck tag req r = (.ok (true, ty), r1)) (hw : intWidth 8 ty = none) :
    readInt64 old tag req r = (.error .mismatch, r1) := by
  rw [readInt64_body]; exact readWith_int_mismatch hs hw
theorem C06_mistyped_float32 {old : Nat} {tag : Nat} {req : Bool} {r r1 : Reader} {ty : Nat}
    (hs : skipToNoCheck tag req r = (.ok (true, ty), r1)) (hw : f32Width ty = none) :
    readFloat32 old tag req r = (.error .mismatch, r1) := readFloat32_mismatch hs hw
theorem C06_mistyped_float64 {old : Nat} {tag : Nat} {req : Bool} {r r1 : Reader} {ty : Nat}
    (hs : skipToNoCheck tag req r = (.ok (true, ty), r1)) (hw : f64Width ty = none) :
    readFloat64 old tag req r = (.error .mismatch, r1) := readFloat64_mismatch hs hw
theorem C06_mistyped_string {old : Bytes} {tag : Nat} {req : Bool} {r r1 : Reader} {ty : Nat}
    (hs : skipToNoCheck tag req r = (.ok (true, ty), r1)) (hw : strLenWidth ty = none) :
    readString old tag req r = (.error .mismatch, r1) := readString_mismatch hs hw

/-- the matrix itself, for the sixteen 4-bit wire type codes (0 BYTE, 1 SHORT, 2 INT, 3 LONG,
    4 FLOAT, 5 DOUBLE, 6 STRING1, 7 STRING4, 8 MAP, 9 LIST, 10 StructBegin, 11 StructEnd,
    12 ZeroTag, 13 SimpleList; 14, 15 unassigned): admissible codes per declared type -/
theorem C06_matrix :
    (∀ ty, ty < 16 → ((intWidth 1 ty).isSome ↔ ty ∈ [12, 0])) ∧
    (∀ ty, ty < 16 → ((intWidth 2 ty).isSome ↔ ty ∈ [12, 0, 1])) ∧
    (∀ ty, ty < 16 → ((intWidth 4 ty).isSome ↔ ty ∈ [12, 0, 1, 2])) ∧
    (∀ ty, ty < 16 → ((intWidth 8 ty).isSome ↔ ty ∈ [12, 0, 1, 2, 3])) ∧
    (∀ ty, ty < 16 → ((f32Width ty).isSome ↔ ty ∈ [12, 4])) ∧
    (∀ ty, ty < 16 → ((f64Width ty).isSome ↔ ty ∈ [12, 4, 5])) ∧
    (∀ ty, ty < 16 → ((strLenWidth ty).isSome ↔ ty ∈ [6, 7])) := by
  refine ⟨?_, ?_, ?_, ?_, ?_, ?_, ?_⟩ <;> decide

/-- concrete form: the mistyped field is the next thing in the input, under ANY tag `0..255`,
    whatever bytes `t` follow (shown for `ReadInt32`, the reader also used for enums and lengths;
    the other readers are the same one-line combination of `skipToNoCheck_hit` and the general
    theorem above) -/
theorem C06_mistyped_next_int32 (r : Reader) (ty tag : Nat) (req : Bool) (old : Int) (t : Bytes)
    (hty : ty < 16) (hne : ty ≠ tyStructEnd) (htag : tag < 256) (hw : intWidth 4 ty = none)
    (h : r.rest = writeHead ty tag ++ t) :
    readInt32 old tag req r = (.error .mismatch, r.adv (writeHead ty tag).length) :=
  C06_mistyped_int32 (skipToNoCheck_hit ty tag req hty hne htag r t h) hw

theorem C06_mistyped_next_string (r : Reader) (ty tag : Nat) (req : Bool) (old : Bytes) (t : Bytes)
    (hty : ty < 16) (hne : ty ≠ tyStructEnd) (htag : tag < 256) (hw : strLenWidth ty = none)
    (h : r.rest = writeHead ty tag ++ t) :
    readString old tag req r = (.error .mismatch, r.adv (writeHead ty tag).length) :=
  C06_mistyped_string (skipToNoCheck_hit ty tag req hty hne htag r t h) hw

/-- container members of the generated decoders -/
theorem C06_mistyped_vec (env : Env) (fuel tag : Nat) (req : Bool) (e : Ty) (old : Val)
    {r r1 : Reader} {tyCur : Nat}
    (hs : skipToNoCheck tag req r = (.ok (true, tyCur), r1)) (h1 : tyCur ≠ tyLIST)
    (h2 : tyCur ≠ tySimpleList ∨ ¬ (e = .i8 ∨ e = .u8)) :
    decVar env (fuel+1) tag req (.vec e) old r = (.error .mismatch, r1) := by
  rw [decVar_vec_eq, readWith_found hs, vecBody, if_neg h1]
  rcases h2 with h2 | h2
  · rw [if_neg h2]
  · rw [if_neg h2]; split <;> rfl
theorem C06_mistyped_arr (env : Env) (fuel tag : Nat) (req : Bool) (n : Nat) (e : Ty) (old : Val)
    {r r1 : Reader} {tyCur : Nat}
    (hs : skipToNoCheck tag req r = (.ok (true, tyCur), r1)) (h1 : tyCur ≠ tyLIST) :
    decVar env (fuel+1) tag req (.arr n e) old r = (.error .mismatch, r1) := by
  rw [decVar_arr_eq, readWith_found hs, arrBody, if_neg h1]
theorem C06_mistyped_map (env : Env) (fuel tag : Nat) (req : Bool) (k v : Ty) (old : Val)
    {r r1 : Reader} {tyCur : Nat}
    (hs : skipToNoCheck tag req r = (.ok (true, tyCur), r1)) (h1 : tyCur ≠ tyMAP) :
    decVar env (fuel+1) tag req (.map k v) old r = (.error .mismatch, r1) := by
  rw [decVar_map_eq, readWith_found hs, mapBody, if_pos (Ne.symm h1)]
theorem C06_mistyped_struct (env : Env) (fuel tag : Nat) (req : Bool) (name : String)
    (fs : List Field) (ovs : List Val) (hfs : env.find name = some fs)
    {r r1 : Reader} {tyCur : Nat}
    (hs : skipToNoCheck tag req r = (.ok (true, tyCur), r1)) (h1 : tyCur ≠ tyStructBegin) :
    decVar env (fuel+1) tag req (.struct name) (.struct ovs) r = (.error .mismatch, r1) := by
  rw [decVar_struct_eq env fuel tag req ovs hfs, readWith_found hs, blockBody, if_pos (Ne.symm h1)]

/-! ## D8: the as-found primitives (counterexamples) and their relation to the repaired ones -/

/-- bytes from numerals -/
def C06.bs (l : List Nat) : Bytes := l.map byte

/-- **D8 witnesses on the code as found** (by evaluation):
    1. `11 12` (SHORT head, tag 1, ONE payload byte): `ReadInt16` returned 0x1200 = 4608, no error;
    2. `06 05 61 62` (STRING1 announcing 5, two bytes left): `ReadString` returned the partial "ab"
       and left the position at 7 > 4;
    3. `ReadSliceInt8` of 4 with one byte `07` left: returned `07 00 00 00`. -/
theorem C06_shortread_counterexamples :
    AsFound.readInt16 0 1 true (Reader.mk0 (C06.bs [0x11, 0x12]))
      = (.ok 4608, ⟨(C06.bs [0x11, 0x12]).toArray, 2⟩) ∧
    AsFound.readString [] 0 true (Reader.mk0 (C06.bs [0x06, 5, 0x61, 0x62]))
      = (.ok (C06.bs [0x61, 0x62]), ⟨(C06.bs [0x06, 5, 0x61, 0x62]).toArray, 7⟩) ∧
    AsFound.readSlice8 4 (Reader.mk0 (C06.bs [7]))
      = (.ok (C06.bs [7, 0, 0, 0]), ⟨(C06.bs [7]).toArray, 1⟩) :=
  ⟨by rfl, by rfl, by rfl⟩

/-- the same three inputs on the repaired model: an error each time -/
theorem C06_shortread_repaired :
    (readInt16 0 1 true (Reader.mk0 (C06.bs [0x11, 0x12]))).1 = .error .eof ∧
    (readString [] 0 true (Reader.mk0 (C06.bs [0x06, 5, 0x61, 0x62]))).1 = .error .eof ∧
    (readSlice8 [] 4 (Reader.mk0 (C06.bs [7]))).1 = .error .eof :=
  ⟨by rfl, by rfl, by rfl⟩

/-- exact characterisation of D8 for the fixed-width primitive: as found and repaired agree
    unless `0 < remaining < n` … -/
theorem C06_asFound_bReadU_agree {n : Nat} {r : Reader} (hn : 0 < n) (h : ¬ ShortAt r n) :
    AsFound.bReadU n r = bReadU n r := bReadU_asFound_agree hn h

/-- … and in that case the as-found primitive succeeds (zero-padded) where the repaired fails -/
theorem C06_asFound_bReadU_short {n : Nat} {r : Reader} (h : ShortAt r n) :
    (∃ v r', AsFound.bReadU n r = (.ok v, r')) ∧ (bReadU n r).1 = .error .eof :=
  bReadU_asFound_short h

theorem C06_asFound_readSlice8_agree {len : Nat} {r : Reader} (hn : 0 < len) (h : ¬ ShortAt r len)
    (old : Bytes) : AsFound.readSlice8 len r = readSlice8 old (len : Int) r :=
  readSlice8_asFound_agree hn h old

theorem C06_asFound_stringTail_agree {l : Nat} {r : Reader} (h : r.pos + l ≤ r.data.size) :
    AsFound.readStringTail l r = nextExact l r := readStringTail_asFound_agree h

/-! ## Non-vacuity -/

-- a found, successful read (hypotheses of `C06_no_overread_int16`, second disjunct): SHORT 0x1234 under tag 1
example : readInt16 0 1 true (Reader.mk0 (C06.bs [0x11, 0x12, 0x34]))
    = (.ok 0x1234, ⟨(C06.bs [0x11, 0x12, 0x34]).toArray, 3⟩) := by rfl
example : skipToNoCheck 1 true (Reader.mk0 (C06.bs [0x11, 0x12, 0x34]))
    = (.ok (true, 1), ⟨(C06.bs [0x11, 0x12, 0x34]).toArray, 1⟩) := by rfl
-- first disjunct: optional field absent (next tag is larger), old value kept, nothing consumed
example : readInt16 77 1 false (Reader.mk0 (C06.bs [0x21, 0x12, 0x34]))
    = (.ok 77, ⟨(C06.bs [0x21, 0x12, 0x34]).toArray, 0⟩) := by rfl
-- a complete string
example : readString [] 0 true (Reader.mk0 (C06.bs [0x06, 2, 0x61, 0x62, 0xFF]))
    = (.ok (C06.bs [0x61, 0x62]), ⟨(C06.bs [0x06, 2, 0x61, 0x62, 0xFF]).toArray, 4⟩) := by rfl
-- mistyped: a STRING1 field (code 6) under tag 3 read as int32, as float64, a SHORT read as string
example : intWidth 4 6 = none := by decide
example : (Reader.mk0 (C06.bs [0x36, 1, 0x41])).rest = writeHead 6 3 ++ C06.bs [1, 0x41] := by rfl
example : readInt32 0 3 true (Reader.mk0 (C06.bs [0x36, 1, 0x41]))
    = (.error .mismatch, ⟨(C06.bs [0x36, 1, 0x41]).toArray, 1⟩) := by rfl
example : readFloat64 0 3 false (Reader.mk0 (C06.bs [0x36, 1, 0x41]))
    = (.error .mismatch, ⟨(C06.bs [0x36, 1, 0x41]).toArray, 1⟩) := by rfl
example : readString [] 3 true (Reader.mk0 (C06.bs [0x31, 0, 7]))
    = (.error .mismatch, ⟨(C06.bs [0x31, 0, 7]).toArray, 1⟩) := by rfl
-- the short-read situation and its complement both occur
example : ShortAt (Reader.mk0 (C06.bs [1])) 2 := by unfold ShortAt; decide
example : ¬ ShortAt (Reader.mk0 (C06.bs [1, 2])) 2 := by unfold ShortAt; decide
example : ¬ ShortAt (Reader.mk0 (C06.bs [])) 2 := by unfold ShortAt; decide

/-! ## Non-vacuity of the struct-level theorems: `struct P { 0 require int a; 1 optional string b; }` -/

-- hypotheses: a well-formed schema, a well-typed value, its encoding `01 12 34 16 02 61 62`
example : WellTyped C06.envP C06.rkP "P" (.struct C06.vsP) := C06.vP_wt
example : encMembers C06.envP C06.fsP C06.vsP = C06.bsP [0x01, 0x12, 0x34, 0x16, 2, 97, 98] := C06.encP

/-- cut in the middle of the second member (`01 12 34 16 02 61`, the string announces 2 bytes and
    one is there): `ReadFrom` reports an error — not the partial string "a" -/
theorem C06_example_cut_inside :
    ∃ e r', decStruct C06.envP "P" (freshStruct C06.envP "P")
      (Reader.mk0 (C06.bsP [0x01, 0x12, 0x34, 0x16, 2, 97])) = (.error e, r') := by
  apply C06_prefix_cut_error C06.envP C06.rkP "P" C06.fsP C06.vsP _ C06.vP_wt C06.findP
  · apply cutOK_of_atoms
    · intro f hf
      simp only [C06.fsP, List.mem_cons, List.not_mem_nil, or_false] at hf
      rcases hf with rfl | rfl <;> decide
    · rw [C06.encP]; decide
  · intro k hk h
    have hl := congrArg List.length h
    have hk' : k = 0 ∨ k = 1 ∨ k = 2 := by simp [C06.fsP] at hk; omega
    rcases hk' with rfl | rfl | rfl
    · simp [encMembers, C06.bsP] at hl
    · rw [C06.encP1] at hl; simp [C06.bsP] at hl
    · have : encMembers C06.envP (C06.fsP.take 2) (C06.vsP.take 2) = encMembers C06.envP C06.fsP C06.vsP := rfl
      rw [this, C06.encP] at hl; simp [C06.bsP] at hl

/-- cut exactly behind the first member (`01 12 34`): success, `b` at its default (the empty string) -/
theorem C06_example_cut_boundary :
    ∃ r', decStruct C06.envP "P" (freshStruct C06.envP "P") (Reader.mk0 (C06.bsP [0x01, 0x12, 0x34]))
      = (.ok (.struct [.int 0x1234, .str []]), r') := by
  obtain ⟨os, r', hos, h⟩ := C06_prefix_boundary_ok C06.envP C06.rkP "P" C06.fsP C06.vsP 1 C06.vP_wt
    C06.findP (by decide) (by intro f hf; simp [C06.fsP] at hf; subst hf; rfl)
  rw [C06.encP1] at h
  refine ⟨r', ?_⟩
  rw [h]
  have hfresh : freshStruct C06.envP "P" = .struct [.int 0, .str []] := by
    simp [freshStruct, zeroOf, zeroVal, C06.envP, Env.find, scalarZero]
  rw [hfresh] at hos
  cases hos
  -- `decFuel` = (width 2 + 3) * (3 bytes + 2) + 1 struct
  have hF : decFuel C06.envP (Reader.mk0 (C06.bsP [0x01, 0x12, 0x34])) = 25 + 1 := by rfl
  rw [hF]
  simp [C06.fsP, C06.vsP, normMembers, normVar, absentVals, Evolve.absentVal, resetDefault, zeroOf,
    zeroVal, scalarZero]


-- the half-head case of `PrefixOutcomeGen` / `C06_member_cut` is not vacuous: `F6` is the first byte of
-- the head of a STRING1 field with a tag ≥ 15
example : HalfHead [byte 0xF6] := ⟨byte 0xF6, rfl, by decide⟩
example : CutAt ([byte 0x01, byte 0x12, byte 0x34] ++ [byte 0xF6]) [byte 0x01, byte 0x12, byte 0x34] :=
  .inr ⟨byte 0xF6, by decide, rfl⟩
-- hypotheses of `C06_prefix_full_holds` on the example: every prefix of the encoding qualifies
example : C06.bsP [0x01, 0x12, 0x34, 0x16, 2] <+: encStruct C06.envP "P" (.struct C06.vsP) := by
  simp only [encStruct, C06.findP]; rw [C06.encP]; decide

end Tars
