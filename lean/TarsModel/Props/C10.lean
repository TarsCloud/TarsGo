/-
  C10 — Server answers each well-formed request exactly once with matching identity.

  "For every well-formed request the server sends exactly one response if the request is two-way and
  none if it is one-way; the response carries the request's id, protocol version and packet type.  A
  ping is answered with success without invoking the implementation, an implementation error becomes
  a non-zero return code with the error's code and message, a request whose own timeout already
  elapsed while it was queued is answered with the queue-timeout code without being executed, and an
  over-long handler is answered with a timeout error when a handle timeout is configured; this holds
  for TARS-, TUP- and JSON-versioned requests and in every worker-pool/handle-timeout configuration."

  The theorems are about `Tars.ServerInvoke.serveOne` (Model/ServerInvoke.lean): the *list of
  admissible outcomes* of one request as a function of the decoded request, the configuration
  (pool size, handle timeout, transport), the time the request spent queued (`sub`) and the
  dispatcher (`Disp`: effect on `*tarsResp`, returned error, running time).  Quantifiers are
  unbounded: all versions (any `Int`, in particular TARS/TUP/JSON), ids (incl. 0 and negative),
  function names, timeouts, payloads, configurations and dispatchers.

  The model has two variants of the code, `Variant.asFound` and `Variant.repaired`, which differ in
  two defects:
    D10  (`asFound`) `InvokeTimeout` answers with version 0 and packet type 0, and the transport handler
         takes the packet type from a context `Invoke` has not written yet: a TUP request that runs
         into the handle timeout is answered in the wrong encoding, a ONE-WAY request that runs into it
         IS answered.  `repaired`: commit 17261bf of /repo (pending/C10-invoke-timeout-identity.patch).
    D22  (`asFound`) `req2Byte` (the TUP answer, a `RequestPacket`) drops `IRet`/`SResultDesc`: every
         error answer to a TUP request (implementation error, queue timeout, handle timeout) looks like
         a success with an empty payload.  `repaired`: commit a260ec1 of /repo
         (pending/C10-tup-result-status.patch).
  `Variant` carries one flag per function that differs; `C10_full` is proved for the repaired variant
  and refuted for the as-found one; each `…_asFound_partial` theorem says what the as-found code does
  guarantee; the counterexamples are concrete requests evaluated on the model.
-/
import TarsModel.Proofs.ServerInvoke

namespace Tars.ServerInvoke

/-- two-way / one-way; a request is well-formed when it is one of the two -/
def TwoWay (req : RequestPacket) : Prop := req.cPacketType = TARSNORMAL
def OneWay (req : RequestPacket) : Prop := req.cPacketType = TARSONEWAY
def WellFormed (req : RequestPacket) : Prop := TwoWay req ∨ OneWay req

/-- both parts of the D10 repair (commit 17261bf, pending/C10-invoke-timeout-identity.patch) are in place -/
def Variant.D10Fixed (v : Variant) : Prop := v.timeoutIdentity = true ∧ v.skipEmpty = true

/-- `Invoke`'s answer is the one that is sent: no handle timeout, or the dispatcher is faster -/
def InTime (cfg : Config) (d : Disp) : Prop := cfg.handleTimeout = 0 ∨ d.dur < cfg.handleTimeout

/-- the handler is over-long for the configured handle timeout -/
def OverLong (cfg : Config) (d : Disp) : Prop := cfg.handleTimeout ≠ 0 ∧ d.dur > cfg.handleTimeout

/-- the request reaches the dispatcher: not expired in the queue, not a ping -/
def Dispatched (req : RequestPacket) (sub : Int) : Prop :=
  queueExpired req sub = false ∧ req.sFuncName ≠ pingName

/-! ## exactly once -/

/-- **C10_once.** Two-way ⇒ exactly one packet is written, one-way ⇒ nothing is written — for every
    admissible outcome, every configuration (pool 0/N, handle timeout 0/T incl. the race, TCP/UDP),
    every dispatcher, every queueing delay. -/
theorem C10_once (v : Variant) (hv : v.D10Fixed) (cfg : Config) (req : RequestPacket) (sub : Int) (d : Disp)
    (o : Outcome) (ho : o ∈ serveOne v cfg req sub d) :
    (TwoWay req → ∃ w, o.sent = [some w]) ∧ (OneWay req → o.sent = []) := by
  obtain ⟨r, rfl, _⟩ := serveOne_reply hv ho
  exact ⟨fun h => ⟨_, reply_twoWay h⟩, reply_oneWay⟩

example : Variant.repaired.D10Fixed := ⟨rfl, rfl⟩

/-- every variant, the as-found one included: a two-way request is answered exactly once in every
    configuration; a one-way request is not answered **when `Invoke`'s answer is the one sent** (missing as
    found: the handle-timeout branch, see `C10_counterexample_D10_oneway_answered`). -/
theorem C10_once_asFound_partial (v : Variant) (cfg : Config) (req : RequestPacket) (sub : Int) (d : Disp)
    (o : Outcome) (ho : o ∈ serveOne v cfg req sub d) :
    (TwoWay req → ∃ w, o.sent = [some w]) ∧ (OneWay req → InTime cfg d → o.sent = []) := by
  refine ⟨fun h => ?_, fun h ht => ?_⟩
  · obtain ⟨b, rfl⟩ := serveOne_branch ho
    exact outcome_sent_twoWay v req sub d b h
  · obtain rfl := serveOne_invoke rfl (.inr ht) ho
    exact reply_oneWay h

example : InTime ⟨4, 0, false⟩ ⟨genOk [] [] [], 1000⟩ := Or.inl rfl
example : InTime ⟨0, 500, true⟩ ⟨genOk [] [] [], 20⟩ := Or.inr (by decide)

/-- D10, second half: handle timeout 100 ms, a ONE-WAY TARS request (id 7) whose handler runs 500 ms:
    the as-found server writes an answer (`IRet = 1`, "server invoke timeout"). -/
theorem C10_counterexample_D10_oneway_answered :
    serveOne .asFound ⟨0, 100, false⟩
      { RequestPacket.zero with iVersion := 1, cPacketType := 1, iRequestId := 7, sFuncName := "sleep" }
      0 ⟨genOk [] [] [], 500⟩ =
    [⟨[some (.rsp { ResponsePacket.zero with iRequestId := 7, iRet := 1, sResultDesc := "server invoke timeout" })], true⟩] := by
  decide

/-! ## identity -/

/-- **C10_identity.** Every packet written for a request carries the request's id, protocol version
    and packet type — normal answer, error, ping, queue timeout and handle timeout alike, in every
    configuration — provided the dispatcher leaves id and version as `Invoke` preset them (what
    tars2go emits does: it assigns both from `tarsReq`, or returns an error without touching
    `*tarsResp`). -/
theorem C10_identity (v : Variant) (hv : v.D10Fixed) (cfg : Config) (req : RequestPacket) (sub : Int) (d : Disp)
    (he : Echoes d req) (o : Outcome) (ho : o ∈ serveOne v cfg req sub d) (w : Wire) (hw : w ∈ o.packets) :
    w.id = req.iRequestId ∧ w.version = req.iVersion ∧ w.packetType = req.cPacketType := by
  obtain ⟨r, rfl, hr⟩ := serveOne_reply hv ho
  rw [mem_packets_reply hw, rsp2Byte_id, rsp2Byte_version, rsp2Byte_packetType]
  exact hr he

example : Echoes ⟨genOk [1, 2] [] [], 0⟩ { RequestPacket.zero with iVersion := 3, iRequestId := -5 } := ⟨rfl, rfl⟩
example : Echoes ⟨genErr (.tars 77 "boom"), 0⟩ { RequestPacket.zero with iVersion := 1, iRequestId := 9 } := ⟨rfl, rfl⟩

/-- every variant, the as-found one included: id, version and packet type are echoed **when `Invoke`'s
    answer is the one sent** (missing as found: the handle-timeout branch, where only the id is echoed, see
    `C10_counterexample_D10_tup_wrong_encoding` and `C10_handle_timeout_asFound_partial`). -/
theorem C10_identity_asFound_partial (v : Variant) (cfg : Config) (req : RequestPacket) (sub : Int) (d : Disp)
    (he : Echoes d req) (ht : InTime cfg d) (o : Outcome) (ho : o ∈ serveOne v cfg req sub d)
    (w : Wire) (hw : w ∈ o.packets) :
    w.id = req.iRequestId ∧ w.version = req.iVersion ∧ w.packetType = req.cPacketType := by
  obtain rfl := serveOne_invoke rfl (.inr ht) ho
  rw [mem_packets_reply hw, rsp2Byte_id, rsp2Byte_version, rsp2Byte_packetType]
  exact invoke_rsp_identity req sub d he

/-- D10, first half: handle timeout 100 ms, a two-way TUP request (version 3, id 9) whose handler runs
    500 ms: the as-found answer is a `ResponsePacket` with version 0 — not the `RequestPacket` encoding a
    TUP peer decodes, and not the request's version. -/
theorem C10_counterexample_D10_tup_wrong_encoding :
    serveOne .asFound ⟨0, 100, false⟩
      { RequestPacket.zero with iVersion := 3, cPacketType := 0, iRequestId := 9, sFuncName := "sleep" }
      0 ⟨genOk [] [] [], 500⟩ =
    [⟨[some (.rsp { ResponsePacket.zero with iVersion := 0, iRequestId := 9, iRet := 1, sResultDesc := "server invoke timeout" })], true⟩] := by
  decide

/-! ## ping -/

/-- **C10_ping.** `tars_ping` (not expired in the queue): the dispatcher is not called, and a two-way
    ping is answered with success and an empty payload — every variant, every configuration (the
    handle timeout cannot fire: no model time passes). -/
theorem C10_ping (v : Variant) (cfg : Config) (req : RequestPacket) (sub : Int) (d : Disp)
    (hq : queueExpired req sub = false) (hp : req.sFuncName = pingName)
    (o : Outcome) (ho : o ∈ serveOne v cfg req sub d) :
    o.invoked = false ∧
    (TwoWay req → ∃ w, o.sent = [some w] ∧ w.Carries SUCCESS "" ∧ w.buffer = []) := by
  obtain rfl := serveOne_invoke (invoke_ping req sub d hq hp) (.inl rfl) ho
  exact ⟨rfl, fun h2 => ⟨_, reply_twoWay h2,
    success_eq_zero ▸ rsp2Byte_carries v _ (fun _ => Or.inr ⟨rfl, rfl⟩), rsp2Byte_buffer v _⟩⟩

example : queueExpired { RequestPacket.zero with sFuncName := "tars_ping", iTimeout := 3000 } 12 = false := by decide

/-! ## implementation errors -/

/-- the shapes of `IRet`: the error's code for a `*tars.Error` with a non-zero code, 1 for any other
    error; the description is the error's message -/
theorem C10_error_codes (c : Int) (m : String) (hc : c ≠ 0) :
    (Err.tars c m).ret = c ∧ (Err.plain m).ret = 1 ∧ (Err.tars 0 m).ret = 1 ∧
    (Err.tars c m).msg = m ∧ (Err.plain m).msg = m := by
  refine ⟨?_, ?_, ?_, rfl, rfl⟩
  · simp [Err.ret, hc]
  · show plainErrRet = 1; decide
  · simp only [Err.ret]; decide

/-- an implementation error never maps to return code 0 (= success on the wire), whatever code the
    implementation put into its `*tars.Error`.  This rests on the guard `tarsErr.Code != 0` of
    `Protocol.Invoke` (`Consts.srvErrCodeZeroGuard = 1`, re-extracted on every run): on a tree without
    it the theorem fails to build. -/
theorem C10_error_nonzero (e : Err) : e.ret ≠ 0 := by
  cases e with
  | plain m => show plainErrRet ≠ 0; decide
  | tars c m =>
    by_cases hc : c = 0
    · subst hc; simp only [Err.ret]; decide
    · simp [Err.ret, hc]

/-- **C10_error.** TARS/JSON (any version but TUP): an error returned by the dispatcher is answered
    (two-way, `Invoke`'s answer sent) with `IRet` = the error's code (1 for plain errors) and
    `SResultDesc` = its message; the dispatcher was called. Every variant. -/
theorem C10_error (v : Variant) (cfg : Config) (req : RequestPacket) (sub : Int) (d : Disp)
    (hd : Dispatched req sub) (ht : InTime cfg d) (e : Err) (he : (d.run req (preset req)).err = some e)
    (hver : (d.run req (preset req)).rsp.iVersion ≠ TUPVERSION) (h2 : TwoWay req)
    (o : Outcome) (ho : o ∈ serveOne v cfg req sub d) :
    o.invoked = true ∧ ∃ p, o.sent = [some (.rsp p)] ∧ p.iRet = e.ret ∧ p.sResultDesc = e.msg := by
  obtain rfl := serveOne_invoke (invoke_err req sub d hd.1 hd.2 e he) (.inr ht) ho
  rw [reply_twoWay h2, rsp2Byte, if_neg hver]
  exact ⟨rfl, _, rfl, rfl, rfl⟩

example : Dispatched { RequestPacket.zero with sFuncName := "err:77:boom", iTimeout := 3000 } 2 := ⟨by decide, by decide⟩
example : (Disp.run ⟨genErr (.tars 77 "boom"), 0⟩ { RequestPacket.zero with iVersion := 1 } (preset { RequestPacket.zero with iVersion := 1 })).err
    = some (.tars 77 "boom") := rfl

/-- **C10_error_tup.** TUP with the status rewrite of the D22 repair (commit a260ec1): the answer
    is a `RequestPacket` whose status map carries the code (≠ 0) and the message. -/
theorem C10_error_tup (v : Variant) (hv : v.tupStatus = true) (cfg : Config) (req : RequestPacket) (sub : Int) (d : Disp)
    (hd : Dispatched req sub) (ht : InTime cfg d) (e : Err) (he : (d.run req (preset req)).err = some e)
    (hcode : e.ret ≠ 0) (h2 : TwoWay req)
    (o : Outcome) (ho : o ∈ serveOne v cfg req sub d) :
    o.invoked = true ∧ ∃ w, o.sent = [some w] ∧ w.Carries e.ret e.msg := by
  obtain rfl := serveOne_invoke (invoke_err req sub d hd.1 hd.2 e he) (.inr ht) ho
  exact ⟨rfl, _, reply_twoWay h2, rsp2Byte_carries v _ (fun _ => Or.inl ⟨hv, hcode⟩)⟩

/-- D22: a two-way TUP request (version 3, id 5) whose implementation returns `tars.Errorf(77, "boom")`:
    the as-found answer is a `RequestPacket` without any trace of the code or the message. -/
theorem C10_counterexample_D22_tup_error_dropped :
    serveOne .asFound ⟨0, 0, false⟩
      { RequestPacket.zero with iVersion := 3, cPacketType := 0, iRequestId := 5, sFuncName := "err:77:boom" }
      0 ⟨genErr (.tars 77 "boom"), 0⟩ =
    [⟨[some (.req { RequestPacket.zero with iVersion := 3, iRequestId := 5 })], true⟩] := by
  decide

/-! ## queue timeout -/

/-- when the request's own timeout has elapsed at dequeue: `ITimeout > 0` and at least `ITimeout` ms
    passed between receipt and `Invoke` -/
theorem C10_queue_expired_iff (req : RequestPacket) (sub : Int) :
    queueExpired req sub = true ↔ (req.iTimeout > 0 ∧ req.iTimeout ≤ sub) := by
  have : ((Consts.srvTimeoutPositiveBound : Nat) : Int) = 0 := by decide
  simp only [queueExpired, Bool.and_eq_true, decide_eq_true_eq]
  omega

/-- **C10_queue_to.** A request whose own timeout elapsed while it was queued is not executed; a
    two-way one is answered with `TARSSERVERQUEUETIMEOUT` (a `ResponsePacket` for every version but
    TUP; for TUP, with the status rewrite, in the status map), a one-way one is not answered.  Every
    configuration (no model time passes, the handle timeout cannot fire); also for `tars_ping`. -/
theorem C10_queue_to (v : Variant) (cfg : Config) (req : RequestPacket) (sub : Int) (d : Disp)
    (hq : queueExpired req sub = true) (htup : req.iVersion = TUPVERSION → v.tupStatus = true)
    (o : Outcome) (ho : o ∈ serveOne v cfg req sub d) :
    o.invoked = false ∧
    (TwoWay req → ∃ w, o.sent = [some w] ∧ w.Carries QUEUETIMEOUT timeoutDesc) ∧
    (OneWay req → o.sent = []) := by
  obtain rfl := serveOne_invoke (invoke_expired req sub d hq) (.inl rfl) ho
  exact ⟨rfl, fun h2 => ⟨_, reply_twoWay h2,
    rsp2Byte_carries v _ (fun hv => Or.inl ⟨htup hv, queueTimeout_ne_zero⟩)⟩, reply_oneWay⟩

example : queueExpired { RequestPacket.zero with iTimeout := 20 } 600 = true := by decide
example : QUEUETIMEOUT = -6 := by decide

/-! ## versions -/

/-- **C10_versions** (`rsp2Byte`). TUP ⇒ the answer is encoded as a `RequestPacket` with exactly these
    members (servant name, function name and timeout are zero values; the status map is the
    response's, extended by code and description when the status rewrite is in place and
    `IRet ≠ 0`); any other version (TARS, JSON, …) ⇒ the `ResponsePacket` itself. -/
theorem C10_versions (v : Variant) (r : ResponsePacket) :
    (r.iVersion = TUPVERSION →
      rsp2Byte v r = .req
        { iVersion := r.iVersion, cPacketType := r.cPacketType, iMessageType := r.iMessageType,
          iRequestId := r.iRequestId, sServantName := "", sFuncName := "", sBuffer := r.sBuffer, iTimeout := 0,
          context := r.context,
          status := if v.tupStatus && decide (r.iRet ≠ 0) then
              setKey statusResultDesc r.sResultDesc (setKey statusResultCode (toString r.iRet) r.status)
            else r.status }) ∧
    (r.iVersion ≠ TUPVERSION → rsp2Byte v r = .rsp r) := by
  refine ⟨fun h => ?_, fun h => ?_⟩
  · simp [rsp2Byte, h, req2Byte, RequestPacket.zero]
  · simp [rsp2Byte, h]

/-- the encoding follows the *request's* version on every path (incl. the handle timeout) -/
theorem C10_versions_served (v : Variant) (hv : v.D10Fixed) (cfg : Config) (req : RequestPacket) (sub : Int)
    (d : Disp) (he : Echoes d req) (o : Outcome) (ho : o ∈ serveOne v cfg req sub d) (w : Wire) (hw : w ∈ o.packets) :
    w.isTup = true ↔ req.iVersion = TUPVERSION := by
  obtain ⟨r, rfl, hr⟩ := serveOne_reply hv ho
  rw [mem_packets_reply hw, rsp2Byte_isTup, (hr he).2.1]

example : TARSVERSION = 1 ∧ TUPVERSION = 3 ∧ JSONVERSION = 5 ∧ TARSNORMAL = 0 ∧ TARSONEWAY = 1 := by decide

/-! ## normal answers -/

/-- **C10_answer.** A dispatched request whose dispatcher returns nil is answered (two-way,
    `Invoke`'s answer sent) with what the dispatcher left in `*tarsResp`, the packet type replaced by
    the request's. -/
theorem C10_answer (v : Variant) (cfg : Config) (req : RequestPacket) (sub : Int) (d : Disp)
    (hd : Dispatched req sub) (ht : InTime cfg d) (he : (d.run req (preset req)).err = none) (h2 : TwoWay req)
    (o : Outcome) (ho : o ∈ serveOne v cfg req sub d) :
    o = ⟨[some (rsp2Byte v { (d.run req (preset req)).rsp with cPacketType := req.cPacketType })], true⟩ := by
  obtain rfl := serveOne_invoke (invoke_ok req sub d hd.1 hd.2 he) (.inr ht) ho
  rw [reply_twoWay h2]

/-! ## handle timeout -/

/-- **C10_handle_timeout.** A handle timeout is configured and the dispatcher runs longer: a two-way
    request gets exactly one answer, with the request's id, version, packet type and encoding, a
    non-zero return code (`IRet = 1`) and the timeout description; a one-way request gets none. -/
theorem C10_handle_timeout (v : Variant) (hv : v.D10Fixed) (cfg : Config) (req : RequestPacket) (sub : Int) (d : Disp)
    (hd : Dispatched req sub) (hl : OverLong cfg d) (htup : req.iVersion = TUPVERSION → v.tupStatus = true)
    (o : Outcome) (ho : o ∈ serveOne v cfg req sub d) :
    (TwoWay req → ∃ w, o.sent = [some w] ∧ w.id = req.iRequestId ∧ w.version = req.iVersion ∧
        w.packetType = req.cPacketType ∧ (w.isTup = true ↔ req.iVersion = TUPVERSION) ∧
        invokeTimeoutRet ≠ 0 ∧ w.Carries invokeTimeoutRet timeoutDesc) ∧
    (OneWay req → o.sent = []) := by
  obtain ⟨_, rfl⟩ := serveOne_timeoutWon hd.1 hd.2 hl.1 hl.2 ho
  rw [outcomeOf_timeoutWon hv req sub d]
  exact ⟨fun h2 => ⟨_, reply_twoWay h2, rsp2Byte_id v _, rsp2Byte_version v _, rsp2Byte_packetType v _,
      rsp2Byte_isTup v _, invokeTimeoutRet_ne_zero,
      rsp2Byte_carries v _ (fun h => Or.inl ⟨htup h, invokeTimeoutRet_ne_zero⟩)⟩,
    reply_oneWay⟩

example : OverLong ⟨2, 300, true⟩ ⟨genOk [] [] [], 1500⟩ := ⟨by decide, by decide⟩

/-- as found: with an over-long handler **every** request — one-way included — gets exactly one
    answer, always a `ResponsePacket` with version 0 and packet type 0, the request's id, `IRet = 1`
    and the timeout description (missing w.r.t. the property: version, packet type, encoding, silence
    for one-way). -/
theorem C10_handle_timeout_asFound_partial (cfg : Config) (req : RequestPacket) (sub : Int) (d : Disp)
    (hd : Dispatched req sub) (hl : OverLong cfg d)
    (o : Outcome) (ho : o ∈ serveOne .asFound cfg req sub d) :
    o = ⟨[some (.rsp { ResponsePacket.zero with iRequestId := req.iRequestId, iRet := 1, sResultDesc := timeoutDesc })], true⟩ := by
  obtain ⟨hinv, rfl⟩ := serveOne_timeoutWon hd.1 hd.2 hl.1 hl.2 ho
  have h0 : ¬ (0 : Int) = TUPVERSION := by decide
  have h1 : invokeTimeoutRet = 1 := by decide
  simp [outcomeOf, invokeTimeout, Variant.asFound, handlerWrite, zero_ne_oneway, rsp2Byte, ResponsePacket.zero, h0, h1, hinv]

/-! ## configurations, batches -/

/-- pool size and transport do not influence the answer (they influence only how long a request is
    queued, i.e. `sub`) -/
theorem C10_config_irrelevant (v : Variant) (p p' ht : Nat) (u u' : Bool) (req : RequestPacket) (sub : Int) (d : Disp) :
    serveOne v ⟨p, ht, u⟩ req sub d = serveOne v ⟨p', ht, u'⟩ req sub d := rfl

/-- **C10_pipeline.** Any batch of well-formed requests (pipelined on one or many connections, any
    pool / handle-timeout configuration, any admissible resolution of every race): for every id `i`
    the number of packets written that carry `i` equals the number of two-way requests with id `i`;
    in particular with pairwise distinct ids every two-way request gets exactly one answer and no
    one-way request gets any.  (The order in which the packets appear is not constrained; a count is
    invariant under permutation.) -/
theorem C10_pipeline (v : Variant) (hv : v.D10Fixed) (cfg : Config) (js : List Job) (os : List Outcome)
    (hrun : Run v cfg js os) (hwf : ∀ j ∈ js, WellFormed j.req ∧ Echoes j.disp j.req) (i : Int) :
    ((written os).filter (fun w => decide (w.id = i))).length =
      (js.filter (fun j => decide (j.req.iRequestId = i) && decide (j.req.cPacketType = TARSNORMAL))).length := by
  induction hrun with
  | nil => rfl
  | @cons j js o os ho _ ih =>
    have hj := hwf j List.mem_cons_self
    rw [written_cons, List.filter_append, List.length_append,
      ih (fun j' hj' => hwf j' (List.mem_cons_of_mem _ hj')), List.filter_cons]
    -- what this request adds: its reply, carrying its id, if it is two-way; nothing if it is one-way
    obtain ⟨r, rfl, hr⟩ := serveOne_reply hv ho
    have hid : (rsp2Byte v r).id = j.req.iRequestId := (rsp2Byte_id v r).trans (hr hj.2).1
    simp only [Outcome.packets]
    rcases hj.1 with h2 | h1
    · rw [reply_twoWay h2]
      by_cases hi : j.req.iRequestId = i
      · simp [hid, hi, show j.req.cPacketType = TARSNORMAL from h2]; omega
      · simp [hid, hi]
    · have hn : ¬ j.req.cPacketType = TARSNORMAL := by
        rw [show j.req.cPacketType = TARSONEWAY from h1]; exact fun h => normal_ne_oneway h.symm
      simp [reply_oneWay h1, hn]

example : WellFormed { RequestPacket.zero with cPacketType := 1 } := Or.inr rfl

/-! ## the payload of a TUP answer built by the emitted dispatcher -/

/-- **C10_generated_tup_attrs.** With `buf.Reset()` before every out parameter the TUP answer holds
    exactly: the return value under "" and "tars_ret" (if the function has one) and one attribute per
    out parameter whose value is exactly that parameter's encoding — for every number of out
    parameters, every encoding, with and without return value. -/
theorem C10_generated_tup_attrs (ret : Option (List Nat)) (outs : List (String × List Nat)) :
    tupRspAttrs true true ret outs = tupRspSpec ret outs := by
  have loop : ∀ (outs : List (String × List Nat)) (buf : List Nat) (first : Bool),
      tupOutLoop true true buf first outs = outs := by
    intro outs
    induction outs with
    | nil => intros; rfl
    | cons e rest ih =>
      intro buf first
      obtain ⟨n, enc⟩ := e
      cases first <;> simp [tupOutLoop, ih]
  cases ret with
  | none => simp [tupRspAttrs, tupRspSpec, loop]
  | some r => simp [tupRspAttrs, tupRspSpec, loop]

/-- the emitted code of the current tree clears the buffer before every out parameter (re-read from
    gen_go.go on every run), hence builds exactly the specified attribute set -/
theorem C10_generated_tup_tree (ret : Option (List Nat)) (outs : List (String × List Nat)) :
    genTupRspAttrs ret outs = tupRspSpec ret outs :=
  -- `genTupRspAttrs` unfolds to `tupRspAttrs true true` by the values of the two constants
  C10_generated_tup_attrs ret outs

/-- without the `buf.Reset()` before the FIRST out parameter (it is redundant only for a void
    function) the first out attribute of a function with a return value starts with the return
    value's bytes: return value `[0x00, 0x07]`, out parameter `x` encoded `[0x0c]` -/
theorem C10_counterexample_generated_tup_first_reset :
    tupRspAttrs false true (some [0, 7]) [("x", [12]), ("y", [1, 2])] =
      [("", [0, 7]), ("tars_ret", [0, 7]), ("x", [0, 7, 12]), ("y", [1, 2])] ∧
    tupRspAttrs false true none [("x", [12])] = tupRspSpec none [("x", [12])] := by
  decide

/-! ## the property at full strength -/

/-- C10 for one variant of the code: for every configuration, well-formed request, queueing delay,
    dispatcher (that leaves id/version alone) and admissible outcome. -/
def C10_full (v : Variant) : Prop :=
  ∀ (cfg : Config) (req : RequestPacket) (sub : Int) (d : Disp) (o : Outcome),
    WellFormed req → Echoes d req → o ∈ serveOne v cfg req sub d →
    (TwoWay req → ∃ w, o.sent = [some w] ∧
        w.id = req.iRequestId ∧ w.version = req.iVersion ∧ w.packetType = req.cPacketType ∧
        (w.isTup = true ↔ req.iVersion = TUPVERSION) ∧
        (queueExpired req sub = true → w.Carries QUEUETIMEOUT timeoutDesc) ∧
        (queueExpired req sub = false → req.sFuncName = pingName → w.Carries SUCCESS "") ∧
        (Dispatched req sub → InTime cfg d → ∀ e, (d.run req (preset req)).err = some e →
            e.ret ≠ 0 ∧ w.Carries e.ret e.msg) ∧
        (Dispatched req sub → OverLong cfg d → ∃ c, c ≠ 0 ∧ w.Carries c timeoutDesc)) ∧
    (OneWay req → o.sent = []) ∧
    (o.invoked = true ↔ Dispatched req sub)

/-- **C10_full_repaired.** The property holds for the code with both repairs (commits 17261bf, a260ec1 of /repo). -/
theorem C10_full_repaired : C10_full .repaired := by
  intro cfg req sub d o _ he ho
  have hv : Variant.repaired.D10Fixed := ⟨rfl, rfl⟩
  have honce := C10_once .repaired hv cfg req sub d o ho
  refine ⟨fun h2 => ?_, honce.2, ?_⟩
  · obtain ⟨w, hw⟩ := honce.1 h2
    have hmem : w ∈ o.packets := by simp [Outcome.packets, hw]
    have hid := C10_identity .repaired hv cfg req sub d he o ho w hmem
    -- each clause speaks of "the packet sent": that packet is `w`
    have same : ∀ {P : Wire → Prop}, (∃ w', o.sent = [some w'] ∧ P w') → P w := by
      rintro P ⟨w', hw', hp⟩
      rw [hw] at hw'
      cases hw'
      exact hp
    refine ⟨w, hw, hid.1, hid.2.1, hid.2.2,
      C10_versions_served .repaired hv cfg req sub d he o ho w hmem, ?_, ?_, ?_, ?_⟩
    · exact fun hq => same ((C10_queue_to .repaired cfg req sub d hq (fun _ => rfl) o ho).2.1 h2)
    · exact fun hq hp => (same ((C10_ping .repaired cfg req sub d hq hp o ho).2 h2)).1
    · exact fun hd ht e hee => ⟨C10_error_nonzero e,
        same (C10_error_tup .repaired rfl cfg req sub d hd ht e hee (C10_error_nonzero e) h2 o ho).2⟩
    · intro hd hl
      obtain ⟨_, _, _, _, hne, hc⟩ :=
        same ((C10_handle_timeout .repaired hv cfg req sub d hd hl (fun _ => rfl) o ho).1 h2)
      exact ⟨_, hne, hc⟩
  · obtain ⟨r, rfl, _⟩ := serveOne_reply hv ho
    exact invoke_invoked req sub d

/-- the as-found code does not have the property (the D10 one-way witness) -/
theorem C10_full_fails_asFound : ¬ C10_full .asFound := by
  intro h
  have := (h ⟨0, 100, false⟩
    { RequestPacket.zero with iVersion := 1, cPacketType := 1, iRequestId := 7, sFuncName := "sleep" }
    0 ⟨genOk [] [] [], 500⟩ _ (Or.inr rfl) ⟨rfl, rfl⟩
    (by rw [C10_counterexample_D10_oneway_answered]; exact List.mem_singleton.mpr rfl)).2.1 rfl
  simp at this

/-- what is claimed of the variant the extractor reads from the current tree: the two parts of the D10
    repair are both there or both missing, and if all three flags are set the tree's variant has the
    property.  Which variant the tree is, is not claimed: the statement holds for the as-found flags as well. -/
theorem C10_tree_variant_known :
    (treeVariant.timeoutIdentity = treeVariant.skipEmpty) ∧
    (treeVariant = .repaired → C10_full treeVariant) := by
  refine ⟨by decide, fun h => ?_⟩
  rw [h]; exact C10_full_repaired

end Tars.ServerInvoke
