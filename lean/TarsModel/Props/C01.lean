import TarsModel.Proofs.CallPathExample

/-!
# C01 — End-to-end call transparency

"A call made through a tars2go-generated client proxy to a server running the generated dispatcher
for the same IDL returns exactly what the server-side implementation produced: the return value,
every out parameter, the response context/status it set, and on failure its error code and
message; and the implementation receives exactly the arguments, request context and request
status the caller passed. […] a one-way call delivers its arguments exactly once and produces no
reply. Registered client and server filters […] that pass a call through see it exactly once, in
registration order, and do not change its outcome."

Property theorems only.  The model is `Model/Filter.lean` (filter selection and composition of
`TarsInvoke` / `Protocol.Invoke`) and `Model/CallPath.lean` (`callWith`: generated proxy →
`TarsInvoke` → `RequestPack` → `TarsRequest` → `Protocol.Invoke` → generated `Dispatch` →
implementation → `rsp2Byte` → `TarsRequest` → `ResponseUnpack` / `Recv` → `doInvoke`'s error
mapping → the proxy's decoding and context copy-back) over the codec model of C02/C03
(`encMembers` / `decMembers` / `encStruct` / `decStruct`).  Vocabulary: `Proofs/CallPathSpec.lean`
(`CallOK`, `ImplOK`, `replyPacket`, `copiedMaps`, `normRet/normOuts/normIns`,
`arrives`, `PassReg`, `Transparent`), `Proofs/Filter.lean` (`PassFlt`, `PassMw`, `PassSide`),
`Proofs/CallPathPacket.lean` (`MapOK`, `I32`, `ReqPacketOK` / `RspPacketOK`: ranges of the packet
members), `Proofs/CallPathClient.lean` (`implEv`, `implOut`: the implementation's event and result
for a call) and `Model/CallPath.lean` (`view0`: what the caller holds if the call changes nothing).

What the theorems assume (each is an explicit hypothesis, see `CallOK` / `ImplOK`):
* TARS request version (TUP and JSON are an explicit `notModelled` outcome of the model: out of
  scope here); a servant registered with context; the function is not called `tars_ping`;
  no deadline fires (C09); no dyeing / tracing keys; one call on a fresh connection
  (request routing among concurrent calls is C08, stream reassembly C07);
* frames within the package limit, and the limit below 2^31 (this also bounds every length prefix
  and makes `skipFieldMap`'s int32 arithmetic exact);
* values are Go values of their IDL types (C03 `WT`), at most 255 parameters, schema `EnvWF`;
* results are equal **up to C03's normal form** `normVar`: an optional float member of a nested
  struct that is Go-`==` to its default (e.g. −0.0) reads back as the default; nil and empty maps /
  slices are identified (on the server a nil request context arrives as an empty map).

Nothing is assumed about what the caller's out variables hold before the call (`ResetDefault`
resets every member; non-struct out parameters are read with `require = true` and overwritten),
nor about nil `opts` maps (a nil map is left alone: `C01_nil_map_ignored`;
`C01_nil_map_counterexample` shows the as-found panic, D20).
-/
namespace Tars
open Consts CallPath Filter

/-! ## The tree is the repaired variant at all four sites (regenerated constants) -/

/-- the tree has the four `fix:` commits (D3, D19a, D19b, D20): its variants are the `repaired`
    ones (`{}`), which the theorems below are about.  Fails to build when a fix is reverted. -/
theorem C01_current_tree_repaired :
    currentVariants.postFilter = .repaired ∧ currentVariants.emptyDesc = .repaired ∧
    currentVariants.zeroCode = .repaired ∧ currentVariants.nilMapGuard = .repaired := by decide

/-! ## Filters -/

/-- **Filters, client.**  For every registration state of pass-through client filters
    (`PassReg`: a legacy single filter that calls `invoke` exactly once and returns its result; or
    a non-empty list of middlewares each calling `next` exactly once; or pre / post filters that
    return nil without invoking) and every call (any computation, any state): the trace is the
    filters' `before` events, the call's own trace — once —, the filters' `after` events; result
    and resulting state are the call's.  The three shapes of `b` / `a` are spelled out in
    `C01_filters_single`, `C01_filters_middleware`, `C01_filters_prepost`. -/
theorem C01_filters_trace_client {ε σ α : Type} (nil : α) (reg : Reg ε σ α) (b a : List ε)
    (h : PassReg nil reg b a) (call : Comp ε σ α) (s : σ) :
    runClient nil reg call s = (b ++ (call s).1 ++ a, (call s).2.1, (call s).2.2) :=
  transparent_client h call s

/-- **Filters, server (repaired).** -/
theorem C01_filters_trace_server {ε σ α : Type} (nil : α) (reg : Reg ε σ α) (b a : List ε)
    (h : PassReg nil reg b a) (call : Comp ε σ α) (s : σ) :
    runServer .repaired nil reg call s = (b ++ (call s).1 ++ a, (call s).2.1, (call s).2.2) :=
  transparent_server h call s

/-- a legacy single filter wins over everything else registered: only it sees the call -/
theorem C01_filters_single {ε σ α : Type} (v : Variant) (nil : α) (reg : Reg ε σ α)
    (f : Flt ε σ α) (b a : List ε) (hreg : reg.single = some f) (hf : PassFlt f b a)
    (call : Comp ε σ α) (s : σ) :
    runServer v nil reg call s = (b ++ (call s).1 ++ a, (call s).2.1, (call s).2.2) ∧
    runClient nil reg call s = (b ++ (call s).1 ++ a, (call s).2.1, (call s).2.2) :=
  ⟨runServer_single v nil reg f b a hreg hf call s,
   transparent_client (.single reg f b a hreg hf) call s⟩

/-- middlewares (no single filter): `before` events in registration order, the call once, `after`
    events in reverse registration order; either variant, either side -/
theorem C01_filters_middleware {ε σ α : Type} (v : Variant) (nil : α) (reg : Reg ε σ α)
    (ms : List (Mw ε σ α × List ε × List ε)) (hs : reg.single = none)
    (hm : reg.mws = ms.map (·.1)) (hne : ms ≠ []) (hp : ∀ x ∈ ms, PassMw x.1 x.2.1 x.2.2)
    (call : Comp ε σ α) (s : σ) :
    runServer v nil reg call s
      = ((ms.map (·.2.1)).flatten ++ (call s).1 ++ (ms.reverse.map (·.2.2)).flatten,
          (call s).2.1, (call s).2.2) ∧
    runClient nil reg call s
      = ((ms.map (·.2.1)).flatten ++ (call s).1 ++ (ms.reverse.map (·.2.2)).flatten,
          (call s).2.1, (call s).2.2) :=
  ⟨runServer_mws v nil reg ms hs hm hne hp call s,
   transparent_client (.mws reg ms hs hm hne hp) call s⟩

/-- pre and post filters (neither single filter nor middleware): pre filters in registration
    order, the call once, post filters in registration order; the outcome is the call's — on the
    client, and on the server in the repaired variant -/
theorem C01_filters_prepost {ε σ α : Type} (nil : α) (reg : Reg ε σ α)
    (pre post : List (Flt ε σ α × List ε)) (hs : reg.single = none) (hm : reg.mws = [])
    (hpre : reg.pre = pre.map (·.1)) (hpost : reg.post = post.map (·.1))
    (h1 : ∀ x ∈ pre, PassSide nil x.1 x.2) (h2 : ∀ x ∈ post, PassSide nil x.1 x.2)
    (call : Comp ε σ α) (s : σ) :
    runServer .repaired nil reg call s
      = ((pre.map (·.2)).flatten ++ (call s).1 ++ (post.map (·.2)).flatten,
          (call s).2.1, (call s).2.2) ∧
    runClient nil reg call s
      = ((pre.map (·.2)).flatten ++ (call s).1 ++ (post.map (·.2)).flatten,
          (call s).2.1, (call s).2.2) :=
  have h := PassReg.sides reg pre post hs hm hpre hpost h1 h2
  ⟨transparent_server h call s, transparent_client h call s⟩

/-- **Outcome through post filters, as found (D3).**  With the as-found `err = v(…)` in the post-filter
    loop, the server's outcome is the call's only when no post filter is registered; otherwise it
    is nil whatever the call returned. -/
theorem C01_filters_prepost_asFound {ε σ α : Type} (nil : α) (reg : Reg ε σ α)
    (pre post : List (Flt ε σ α × List ε)) (hs : reg.single = none) (hm : reg.mws = [])
    (hpre : reg.pre = pre.map (·.1)) (hpost : reg.post = post.map (·.1))
    (h1 : ∀ x ∈ pre, PassSide nil x.1 x.2) (h2 : ∀ x ∈ post, PassSide nil x.1 x.2)
    (call : Comp ε σ α) (s : σ) :
    runServer .asFound nil reg call s
      = ((pre.map (·.2)).flatten ++ (call s).1 ++ (post.map (·.2)).flatten,
          (if post.isEmpty then (call s).2.1 else nil), (call s).2.2) :=
  runServer_sides .asFound nil reg pre post hs hm hpre hpost h1 h2 call s

/-- **D3, as found only.**  One pass-through post filter turns an
    implementation error (here: code 77) into success on the server; in the repaired variant the
    same registration leaves the error alone. -/
theorem C01_postfilter_counterexample :
    let reg : Reg String Unit (Option Int) := { post := [recSide none ["post0"]] }
    let call : Comp String Unit (Option Int) := fun s => (["call"], some 77, s)
    PassReg none reg [] ["post0"] ∧
    runServer .asFound none reg call () = (["call", "post0"], none, ()) ∧
    runServer .repaired none reg call () = (["call", "post0"], some 77, ()) := by
  refine ⟨?_, rfl, rfl⟩
  exact PassReg.sides _ [] [(recSide none ["post0"], ["post0"])] rfl rfl rfl rfl
    (fun x hx => by cases hx)
    (fun x hx => by simp at hx; subst hx; exact recSide_pass none ["post0"])

/-- The registration state a call sees is the fold of the
    registration calls made before it (`Reg.after`, mirroring the `register…` / `Use…Middleware`
    methods of tars/filter.go: pre, post and middleware registrations append, the legacy single
    slot is replaced), for EVERY history `ops` starting from the empty registration: the lists are
    the registered filters in registration order, the single slot holds the last one registered.
    And the chain a call goes through when no single filter is registered and at least one
    middleware is, is the composition of exactly the middlewares registered so far, first
    registered outermost (`chainOf`) — on the client (`runClient`) and on the server
    (`runServer`, both variants).  In particular a middleware registered after earlier calls is
    part of the chain of the next call (second statement: the history extended by one
    `useMw [m]`).  The code corresponds to `getMiddlewareFilter` being a function of the list only
    because the getters keep no state: `C01_middleware_getters_stateless`. -/
theorem C01_filters_follow_registration {ε σ α : Type} (v : Variant) (nil : α)
    (ops : List (RegOp ε σ α)) (call : Comp ε σ α) :
    let reg : Reg ε σ α := Reg.after {} ops
    (reg.mws = ops.flatMap RegOp.mwsOf ∧ reg.pre = ops.flatMap RegOp.preOf ∧
      reg.post = ops.flatMap RegOp.postOf ∧ reg.single = (ops.flatMap RegOp.singleOf).getLast?) ∧
    (reg.single = none → ops.flatMap RegOp.mwsOf ≠ [] →
      runClient nil reg call = chainOf (ops.flatMap RegOp.mwsOf) call ∧
      runServer v nil reg call = chainOf (ops.flatMap RegOp.mwsOf) call) ∧
    (∀ m : Mw ε σ α, (Reg.after {} (ops ++ [.useMw [m]])).single = none →
      runClient nil (Reg.after {} (ops ++ [.useMw [m]])) call
        = chainOf (ops.flatMap RegOp.mwsOf ++ [m]) call ∧
      runServer v nil (Reg.after {} (ops ++ [.useMw [m]])) call
        = chainOf (ops.flatMap RegOp.mwsOf ++ [m]) call) := by
  intro reg
  have chain : ∀ reg : Reg ε σ α, reg.single = none → reg.mws ≠ [] →
      runClient nil reg call = chainOf reg.mws call ∧ runServer v nil reg call = chainOf reg.mws call :=
    fun reg hs hm => ⟨runClient_eq_runServer nil reg ▸ runServer_chain .repaired nil reg call hs hm,
      runServer_chain v nil reg call hs hm⟩
  have h1 : reg.mws = ops.flatMap RegOp.mwsOf := after_mws ops {}
  refine ⟨⟨h1, after_pre ops {}, after_post ops {}, (after_single ops {}).trans Option.or_none⟩,
    ?_, ?_⟩
  · intro hs hm
    rw [← h1] at hm ⊢
    exact chain reg hs hm
  · intro m hs
    have h2 : (Reg.after {} (ops ++ [.useMw [m]]) : Reg ε σ α).mws = ops.flatMap RegOp.mwsOf ++ [m] := by
      rw [after_mws, List.flatMap_append]; rfl
    have hm : (Reg.after {} (ops ++ [.useMw [m]]) : Reg ε σ α).mws ≠ [] := by rw [h2]; simp
    rw [← h2]
    exact chain _ hs hm

/-- three recording middlewares registered one after the other with calls in between: the call
    after the k-th registration is seen by exactly the first k, first registered outermost -/
example :
    let A : Mw String Unit Nat := recMw ["A.before"] ["A.after"]
    let B : Mw String Unit Nat := recMw ["B.before"] ["B.after"]
    let C : Mw String Unit Nat := recMw ["C.before"] ["C.after"]
    let call : Comp String Unit Nat := fun s => (["call"], 0, s)
    (runClient 0 (Reg.after {} [.useMw [A]]) call ()).1 = ["A.before", "call", "A.after"] ∧
    (runClient 0 (Reg.after {} [.useMw [A], .useMw [B]]) call ()).1
      = ["A.before", "B.before", "call", "B.after", "A.after"] ∧
    (runServer .repaired 0 (Reg.after {} [.pre (recSide 0 ["p"]), .useMw [A], .useMw [B], .useMw [C]]) call ()).1
      = ["A.before", "B.before", "C.before", "call", "C.after", "B.after", "A.after"] :=
  ⟨rfl, rfl, rfl⟩

/-- the middleware getters of tars/filter.go compose the chain from the registered list on every
    call and keep no state of their own (no `sync.Once`, no cached chain member, nothing but the
    eight registration members in `filters`; regenerated constant of the go/ast extractor,
    extract/c01.go).  Fails to build when a cache is introduced. -/
theorem C01_middleware_getters_stateless : cpMwGetterStateless = 1 := by decide

/-- the recording filters the harness registers (`recReg`, used by the driver's `cfilters` /
    `sfilters`) are pass-through registrations; so the theorems above apply to them: the trace is
    `single.before call single.after`, or `mw0.before … call … mw0.after`, or
    `pre0 … call post0 …`, and the outcome is the call's. -/
theorem C01_recording_filters {σ α : Type} (nil : α) (single : Bool) (nmw npre npost : Nat) :
    ∃ b a, PassReg nil (recReg nil single nmw npre npost : Reg String σ α) b a ∧
      b = (if single then ["single.before"]
           else if nmw ≠ 0 then (List.range nmw).map (fun i => s!"mw{i}.before")
           else (List.range npre).map (fun i => s!"pre{i}")) ∧
      a = (if single then ["single.after"]
           else if nmw ≠ 0 then (List.range nmw).reverse.map (fun i => s!"mw{i}.after")
           else (List.range npost).map (fun i => s!"post{i}")) := by
  cases single with
  | true =>
    exact ⟨_, _, PassReg.single _ _ ["single.before"] ["single.after"] rfl (recFlt_pass _ _), rfl, rfl⟩
  | false =>
    by_cases hm : nmw = 0
    · subst hm
      refine ⟨_, _, PassReg.sides _
        ((List.range npre).map fun i => (recSide nil [s!"pre{i}"], [s!"pre{i}"]))
        ((List.range npost).map fun i => (recSide nil [s!"post{i}"], [s!"post{i}"]))
        rfl rfl (by rw [List.map_map]; rfl) (by rw [List.map_map]; rfl) ?_ ?_, ?_, ?_⟩
      · exact List.forall_mem_map.2 fun i _ => recSide_pass nil _
      · exact List.forall_mem_map.2 fun i _ => recSide_pass nil _
      · rw [List.map_map]; exact flatten_singletons _ _
      · rw [List.map_map]; exact flatten_singletons _ _
    · refine ⟨_, _, PassReg.mws _
        ((List.range nmw).map fun i =>
          (recMw [s!"mw{i}.before"] [s!"mw{i}.after"], [s!"mw{i}.before"], [s!"mw{i}.after"]))
        rfl (by rw [List.map_map]; rfl) ?_ ?_, ?_, ?_⟩
      · simpa using hm
      · exact List.forall_mem_map.2 fun i _ => recMw_pass _ _
      · rw [if_neg (by simp), if_pos hm, List.map_map]; exact flatten_singletons _ _
      · rw [if_neg (by simp), if_pos hm, ← List.map_reverse, List.map_map]; exact flatten_singletons _ _

/-! ## Error mapping -/

/-- An implementation error `tars.Errorf(code, msg)` with `code ∉ {0,1}` and a
    non-empty message arrives at the caller as exactly that `*tars.Error`. -/
theorem C01_error_map (code : Int) (msg : Bytes) (h0 : code ≠ 0) (h1 : code ≠ 1) (hm : msg ≠ []) :
    clientErr .repaired (serverErr .repaired (.tars code msg)).1 (serverErr .repaired (.tars code msg)).2
      = some (.tars code msg) := by
  rw [clientErr_serverErr, arrives_tars h0 h1, descOr_of_ne code hm]

/-- the code survives also when the message is empty (repaired, D19a): the caller
    gets a `*tars.Error` with that code and the synthetic text -/
theorem C01_error_map_code (code : Int) (msg : Bytes) (h0 : code ≠ 0) (h1 : code ≠ 1) :
    ∃ m', clientErr .repaired (serverErr .repaired (.tars code msg)).1
        (serverErr .repaired (.tars code msg)).2 = some (.tars code m') ∧
      getErrorCode (some (.tars code m')) = code ∧ (msg ≠ [] → m' = msg) := by
  refine ⟨descOr code msg, ?_, rfl, descOr_of_ne code⟩
  rw [clientErr_serverErr, arrives_tars h0 h1]

/-- plain errors, and `*tars.Error`s with code 0 or 1, arrive as a plain error with the same
    (non-empty) message; `GetErrorCode` gives 1 -/
theorem C01_error_map_plain (e : GoErr) (hm : e.msg ≠ [])
    (hp : (∃ m, e = .plain m) ∨ (∃ m, e = .tars 0 m) ∨ (∃ m, e = .tars 1 m)) :
    clientErr .repaired (serverErr .repaired e).1 (serverErr .repaired e).2 = some (.plain e.msg) ∧
    getErrorCode (some (.plain e.msg)) = 1 := by
  have h : arrives e = .plain (descOr cpPlainErrRet e.msg) := by
    rcases hp with ⟨m, rfl⟩ | ⟨m, rfl⟩ | ⟨m, rfl⟩ <;> rfl
  exact ⟨by rw [clientErr_serverErr, h, descOr_of_ne _ hm], rfl⟩

/-- in general (repaired): what arrives is `arrives e` — never nil -/
theorem C01_error_map_total (e : GoErr) :
    clientErr .repaired (serverErr .repaired e).1 (serverErr .repaired e).2 = some (arrives e) :=
  clientErr_serverErr e

/-- **counterexample D19a (as found only)**: `tars.Errorf(77, "")` arrives as a plain error
    (`GetErrorCode` 1): the empty description made `doInvoke` drop the code -/
theorem C01_error_map_counterexample_empty_msg :
    clientErr .asFound (serverErr .repaired (.tars 77 [])).1 (serverErr .repaired (.tars 77 [])).2
      = some (.plain (synthDesc 77)) ∧
    getErrorCode (some (.plain (synthDesc 77))) ≠ 77 ∧
    clientErr .repaired (serverErr .repaired (.tars 77 [])).1 (serverErr .repaired (.tars 77 [])).2
      = some (.tars 77 (synthDesc 77)) :=
  ⟨rfl, by decide, rfl⟩

/-- **counterexample D19b (as found only)**: `tars.Errorf(0, "zero")` is answered with `IRet = 0`
    and arrives as success; the repaired `Invoke` answers it with the generic code 1 -/
theorem C01_error_map_counterexample_code_zero :
    clientErr .repaired (serverErr .asFound (.tars 0 (ascii "zero"))).1
        (serverErr .asFound (.tars 0 (ascii "zero"))).2 = none ∧
    clientErr .repaired (serverErr .repaired (.tars 0 (ascii "zero"))).1
        (serverErr .repaired (.tars 0 (ascii "zero"))).2 = some (.plain (ascii "zero")) :=
  ⟨rfl, rfl⟩

/-- remaining boundary of the repaired code: an empty message is replaced by the synthetic text
    "basef error code N", and the Go type `*tars.Error` is lost for codes 0 and 1 -/
theorem C01_error_map_boundary :
    arrives (.tars 77 []) = .tars 77 (ascii "basef error code 77") ∧
    arrives (.plain []) = .plain (ascii "basef error code 1") ∧
    arrives (.tars 1 (ascii "x")) = .plain (ascii "x") ∧
    arrives (.tars 0 (ascii "x")) = .plain (ascii "x") :=
  ⟨rfl, rfl, rfl, rfl⟩

example : clientErr .repaired (serverErr .repaired (.tars 77 (ascii "boom"))).1
    (serverErr .repaired (.tars 77 (ascii "boom"))).2 = some (.tars 77 (ascii "boom")) :=
  C01_error_map 77 (ascii "boom") (by decide) (by decide) (by decide)
example : clientErr .repaired (serverErr .repaired (.tars (-5) (ascii "x"))).1
    (serverErr .repaired (.tars (-5) (ascii "x"))).2 = some (.tars (-5) (ascii "x")) :=
  C01_error_map (-5) (ascii "x") (by decide) (by decide) (by decide)
example : clientErr .repaired (serverErr .repaired (.plain (ascii "boom"))).1
    (serverErr .repaired (.plain (ascii "boom"))).2 = some (.plain (ascii "boom")) :=
  (C01_error_map_plain (.plain (ascii "boom")) (by decide) (.inl ⟨_, rfl⟩)).1

/-! ## Transparency -/

/-- **Transparency** (with pass-through filters on both sides; TARS version).  For a
    well-formed call (`CallOK`) of an interface function the server knows — whatever the caller's
    out variables hold, nil or non-nil `opts` maps — and an implementation result
    `out = impl (in values) ctx status` that is well-typed (`ImplOK`) and nil-error:

    * the trace is: the client filters' `before` events, the server filters' `before` events, **one**
      run of the implementation **on exactly the in values, the request context and the request
      status the caller passed** (`implEv`), the server filters' `after` events, the response frame
      being written, the client filters' `after` events;
    * the proxy returns nil, and the caller holds exactly `out.ret`, `out.outs` (up to `normVar`),
      and — copied into its `opts` maps — the response context and status the implementation set. -/
theorem C01_transparent_filters (env : Env) (rk : String → Nat) (cfg : Cfg)
    (creg : ClientReg) (sreg : ServerReg) (cb ca sb sa : List Ev)
    (iface : Iface) (f : Func) (args : List Val) (opts : List (Option StrMap))
    (hc : PassReg DoRes.nil creg cb ca) (hs : PassReg none sreg sb sa)
    (hcall : CallOK env rk cfg f.name f.sig false args opts)
    (hfind : iface.find f.name = some f)
    (himpl : ImplOK .repaired env cfg (proxyRequest env cfg f.name f.sig false args opts) f.sig
      (implOut env f args opts))
    (hok : (implOut env f args opts).err = none) :
    callWith {} env cfg creg sreg iface f.name f.sig false args opts =
      (cb ++ (sb ++ [implEv env f args opts] ++ sa ++
          [Ev.reply (rsp2Byte (replyPacket .repaired env
            (proxyRequest env cfg f.name f.sig false args opts) f.sig (implOut env f args opts)))]) ++ ca,
       .returned none
        ⟨normRet env f.sig (implOut env f args opts).ret,
         normOuts env f.sig (implOut env f args opts).outs,
         (copiedMaps opts ((implOut env f args opts).rspCtx.getD [])
            ((implOut env f args opts).rspStatus.getD [])).1,
         (copiedMaps opts ((implOut env f args opts).rspCtx.getD [])
            ((implOut env f args opts).rspStatus.getD [])).2⟩) := by
  rw [callWith_ok {} (transparent_client hc) (transparent_server hs) hcall hfind himpl hok]
  simp only [copyBackAll_repaired]

/-- **Transparency** (no filters registered): `call` returns exactly what the implementation
    produced, and the implementation ran once on exactly what the caller passed. -/
theorem C01_transparent (env : Env) (rk : String → Nat) (cfg : Cfg) (iface : Iface) (f : Func)
    (args : List Val) (opts : List (Option StrMap))
    (hcall : CallOK env rk cfg f.name f.sig false args opts)
    (hfind : iface.find f.name = some f)
    (himpl : ImplOK .repaired env cfg (proxyRequest env cfg f.name f.sig false args opts) f.sig
      (implOut env f args opts))
    (hok : (implOut env f args opts).err = none) :
    call env cfg iface f.name f.sig false args opts =
      ([implEv env f args opts,
        Ev.reply (rsp2Byte (replyPacket .repaired env
          (proxyRequest env cfg f.name f.sig false args opts) f.sig (implOut env f args opts)))],
       .returned none
        ⟨normRet env f.sig (implOut env f args opts).ret,
         normOuts env f.sig (implOut env f args opts).outs,
         (copiedMaps opts ((implOut env f args opts).rspCtx.getD [])
            ((implOut env f args opts).rspStatus.getD [])).1,
         (copiedMaps opts ((implOut env f args opts).rspCtx.getD [])
            ((implOut env f args opts).rspStatus.getD [])).2⟩) := by
  have h := C01_transparent_filters env rk cfg {} {} [] [] [] [] iface f args opts
    (passReg_empty _) (passReg_empty _) hcall hfind himpl hok
  simpa [call] using h

/-- `implEv` unfolded (true by definition): the event in the traces of `C01_transparent`,
    `C01_failure` and `C01_oneway` is the function name, the (normal forms of the) values of the in
    parameters in order, and the caller's context and status maps (nil = empty) -/
theorem C01_args_exact (env : Env) (f : Func) (args : List Val) (opts : List (Option StrMap)) :
    implEv env f args opts =
      Ev.impl f.name (normMembers env (inFields f.sig) (inVals f.sig.params args))
        ((optsMaps opts).1.getD []) ((optsMaps opts).2.getD []) := rfl

/-- **Transparency, exact form**: where the normal form is the identity on the values involved
    (no optional float member equal-but-not-identical to its default), the caller holds exactly
    the implementation's values, and the implementation was applied to exactly the in values -/
theorem C01_transparent_exact (env : Env) (rk : String → Nat) (cfg : Cfg) (iface : Iface) (f : Func)
    (args : List Val) (opts : List (Option StrMap))
    (hcall : CallOK env rk cfg f.name f.sig false args opts)
    (hfind : iface.find f.name = some f)
    (hin : normIns env f.sig args = inVals f.sig.params args)
    (out : ImplOut)
    (hout : out = f.impl (inVals f.sig.params args) ((optsMaps opts).1.getD []) ((optsMaps opts).2.getD []))
    (himpl : ImplOK .repaired env cfg (proxyRequest env cfg f.name f.sig false args opts) f.sig out)
    (hok : out.err = none)
    (hret : normRet env f.sig out.ret = out.ret) (houts : normOuts env f.sig out.outs = out.outs) :
    (call env cfg iface f.name f.sig false args opts).2 =
      .returned none ⟨out.ret, out.outs,
        (copiedMaps opts (out.rspCtx.getD []) (out.rspStatus.getD [])).1,
        (copiedMaps opts (out.rspCtx.getD []) (out.rspStatus.getD [])).2⟩ := by
  have e : implOut env f args opts = out := by rw [hout, implOut, hin]
  rw [C01_transparent env rk cfg iface f args opts hcall hfind (e ▸ himpl) (e ▸ hok)]
  simp only [e, hret, houts]

/-- **Failure**: when the implementation returns an error `e`, the proxy returns `arrives e`
    (see `C01_error_map*`), the caller's out variables and maps are untouched, the return value is
    the zero value; the implementation ran once on exactly what the caller passed.  -/
theorem C01_failure (env : Env) (rk : String → Nat) (cfg : Cfg) (iface : Iface) (f : Func)
    (args : List Val) (opts : List (Option StrMap)) (e : GoErr)
    (hcall : CallOK env rk cfg f.name f.sig false args opts)
    (hfind : iface.find f.name = some f)
    (himpl : ImplOK .repaired env cfg (proxyRequest env cfg f.name f.sig false args opts) f.sig
      (implOut env f args opts))
    (herr : (implOut env f args opts).err = some e) :
    call env cfg iface f.name f.sig false args opts =
      ([implEv env f args opts,
        Ev.reply (rsp2Byte (replyPacket .repaired env
          (proxyRequest env cfg f.name f.sig false args opts) f.sig (implOut env f args opts)))],
       .returned (some (arrives e)) (view0 env f.sig args opts)) := by
  unfold call
  rw [callWith_err {} (transparent_client (passReg_empty _)) (transparent_server (passReg_empty _))
    hcall hfind himpl herr (clientErr_serverErr e)]
  simp

/-! ## One-way calls -/

/-- **One-way**: a one-way call (`<fn>OneWayWithContext`) of a function the server knows runs the
    implementation exactly once — on exactly the in values, context and status passed — and nothing
    else happens: no response frame is written (the trace has no `reply` event), the proxy returns
    nil at once, the caller's variables and maps are untouched.  Whatever the implementation
    returns (also an error) is dropped. -/
theorem C01_oneway (env : Env) (rk : String → Nat) (cfg : Cfg) (iface : Iface) (f : Func)
    (args : List Val) (opts : List (Option StrMap))
    (hcall : CallOK env rk cfg f.name f.sig true args opts)
    (hfind : iface.find f.name = some f) :
    call env cfg iface f.name f.sig true args opts =
      ([implEv env f args opts], .returned none (view0 env f.sig args opts)) := by
  unfold call
  rw [callWith_oneway {} (transparent_client (passReg_empty _)) (transparent_server (passReg_empty _))
    hcall hfind]
  simp

/-- the same through pass-through filters on both sides -/
theorem C01_oneway_filters (env : Env) (rk : String → Nat) (cfg : Cfg)
    (creg : ClientReg) (sreg : ServerReg) (cb ca sb sa : List Ev)
    (iface : Iface) (f : Func) (args : List Val) (opts : List (Option StrMap))
    (hc : PassReg DoRes.nil creg cb ca) (hs : PassReg none sreg sb sa)
    (hcall : CallOK env rk cfg f.name f.sig true args opts)
    (hfind : iface.find f.name = some f) :
    callWith {} env cfg creg sreg iface f.name f.sig true args opts =
      (cb ++ (sb ++ [implEv env f args opts] ++ sa) ++ ca,
       .returned none (view0 env f.sig args opts)) :=
  callWith_oneway {} (transparent_client hc) (transparent_server hs) hcall hfind

/-! ## Concurrency (what this model can say) -/

/-- what a caller gets does not depend on the request id its call was given: the result is a
    function of the call alone.  (That concurrent callers sharing a proxy each get *their*
    response is request routing by id — C08; interleavings are not modelled here.) -/
theorem C01_result_independent_of_request_id (env : Env) (rk : String → Nat) (cfg : Cfg) (id' : Int)
    (iface : Iface) (f : Func) (args : List Val) (opts : List (Option StrMap))
    (hcall : CallOK env rk cfg f.name f.sig false args opts)
    (hcall' : CallOK env rk { cfg with reqId := id' } f.name f.sig false args opts)
    (hfind : iface.find f.name = some f)
    (himpl : ImplOK .repaired env cfg (proxyRequest env cfg f.name f.sig false args opts) f.sig
      (implOut env f args opts))
    (himpl' : ImplOK .repaired env { cfg with reqId := id' }
      (proxyRequest env { cfg with reqId := id' } f.name f.sig false args opts) f.sig
      (implOut env f args opts))
    (hok : (implOut env f args opts).err = none) :
    (call env { cfg with reqId := id' } iface f.name f.sig false args opts).2
      = (call env cfg iface f.name f.sig false args opts).2 := by
  rw [C01_transparent env rk cfg iface f args opts hcall hfind himpl hok,
    C01_transparent env rk _ iface f args opts hcall' hfind himpl' hok]

/-! ## nil `opts` maps (D20) -/

/-- **Nil map, repaired.**  A nil map passed in `opts` is left alone: the call is
    served and returns exactly as `C01_transparent` says, the nil map stays nil (the response
    context / status cannot be handed back through it), a non-nil one receives its copy. -/
theorem C01_nil_map_ignored (env : Env) (rk : String → Nat) (cfg : Cfg) (iface : Iface)
    (f : Func) (args : List Val) (st : Option StrMap)
    (hcall : CallOK env rk cfg f.name f.sig false args [none, st])
    (hfind : iface.find f.name = some f)
    (himpl : ImplOK .repaired env cfg (proxyRequest env cfg f.name f.sig false args [none, st]) f.sig
      (implOut env f args [none, st]))
    (hok : (implOut env f args [none, st]).err = none) :
    (call env cfg iface f.name f.sig false args [none, st]).2 =
      .returned none
        ⟨normRet env f.sig (implOut env f args [none, st]).ret,
         normOuts env f.sig (implOut env f args [none, st]).outs,
         none, st.map fun _ => (implOut env f args [none, st]).rspStatus.getD []⟩ := by
  rw [C01_transparent env rk cfg iface f args [none, st] hcall hfind himpl hok]
  simp [copiedMaps]

/-- **Nil map, as found only (D20).**  With the as-found copy-back
    (`Variants.nilMapGuard = asFound`), everything else as in `C01_transparent`: the caller passes a
    nil context map (`opts = [nil]`) and the implementation set a non-empty response context — the
    generated proxy panics ("assignment to entry in nil map") after the call was served. -/
theorem C01_nil_map_counterexample (env : Env) (rk : String → Nat) (cfg : Cfg) (iface : Iface)
    (f : Func) (args : List Val)
    (hcall : CallOK env rk cfg f.name f.sig false args [none])
    (hfind : iface.find f.name = some f)
    (himpl : ImplOK .repaired env cfg (proxyRequest env cfg f.name f.sig false args [none]) f.sig
      (implOut env f args [none]))
    (hok : (implOut env f args [none]).err = none)
    (hctx : (implOut env f args [none]).rspCtx.getD [] ≠ []) :
    (callWith { nilMapGuard := .asFound } env cfg {} {} iface f.name f.sig false args [none]).2
      = .panicked "assignment to entry in nil map" := by
  rw [callWith_ok { nilMapGuard := .asFound } (transparent_client (passReg_empty _))
    (transparent_server (passReg_empty _)) hcall hfind himpl hok, copyBackAll_asFound_nil _ _ hctx]

/-- as found, a nil map was harmless only as long as the implementation set no (or an empty)
    response context: copy-back then had nothing to assign -/
theorem C01_nil_map_harmless (rctx rst : StrMap) (h : rctx = []) :
    copyBackAll .asFound [none] rctx rst = .ok (none, none) := by
  subst h; rfl

/-! ## The clause at full strength -/

/-- the transparency clause of the property at full strength: **every** well-formed call — whatever
    the caller's out variables hold before, nil or non-nil `opts` maps — returns what the
    implementation produced.  (Refuted for the as-found generator by D13 and D20; it holds for the
    repaired one: `C01_transparent_full_holds`.) -/
def C01_transparent_full : Prop :=
  ∀ (env : Env) (rk : String → Nat) (cfg : Cfg) (iface : Iface) (f : Func) (args : List Val)
    (opts : List (Option StrMap)),
    CallOK env rk cfg f.name f.sig false args opts → iface.find f.name = some f →
    ImplOK .repaired env cfg (proxyRequest env cfg f.name f.sig false args opts) f.sig
      (implOut env f args opts) →
    (implOut env f args opts).err = none →
    (call env cfg iface f.name f.sig false args opts).2 =
      .returned none
        ⟨normRet env f.sig (implOut env f args opts).ret,
         normOuts env f.sig (implOut env f args opts).outs,
         (copiedMaps opts ((implOut env f args opts).rspCtx.getD [])
            ((implOut env f args opts).rspStatus.getD [])).1,
         (copiedMaps opts ((implOut env f args opts).rspCtx.getD [])
            ((implOut env f args opts).rspStatus.getD [])).2⟩

theorem C01_transparent_full_holds : C01_transparent_full := by
  intro env rk cfg iface f args opts hcall hfind himpl hok
  rw [C01_transparent env rk cfg iface f args opts hcall hfind himpl hok]

/-! ## Non-vacuity (the instance of `Proofs/CallPathExample.lean`) -/

open C01Example in
/-- the hypotheses of `C01_transparent` hold together for a non-trivial instance: an int in
    parameter needing four bytes, an out struct, a return value, a response context -/
example : ∃ res, call env cfg iface F.name F.sig false [.int 70000, zeroS] [some []] = res ∧
    res.2 = .returned none ⟨some (.int 70001), [.struct [.int 5, .str []]],
      some [(ascii "k", ascii "v")], none⟩ := by
  have hcall := callOK_F false 70000 (by decide) zeroS wt_zeroS (some []) rfl (by decide +kernel)
  have himpl := implOK_F 70000 (by decide) (by decide) zeroS [some []] (by decide +kernel)
  refine ⟨_, rfl, ?_⟩
  rw [C01_transparent env rk cfg iface F [.int 70000, zeroS] [some []] hcall find_F himpl rfl]
  rfl

open C01Example in
/-- … and of `C01_failure`: `x = 13` makes the implementation fail with `tars.Errorf(77, "boom")`,
    which is exactly what the caller gets -/
example : (call env cfg iface F.name F.sig false [.int 13, zeroS] [some []]).2
    = .returned (some (.tars 77 (ascii "boom"))) (view0 env F.sig [.int 13, zeroS] [some []]) := by
  have hcall := callOK_F false 13 (by decide) zeroS wt_zeroS (some []) rfl (by decide +kernel)
  have hout : implOut env F [.int 13, zeroS] [some []]
      = ⟨none, [], none, none, some (.tars 77 (ascii "boom"))⟩ := rfl
  have himpl : ImplOK .repaired env cfg (proxyRequest env cfg F.name F.sig false [.int 13, zeroS] [some []])
      F.sig (implOut env F [.int 13, zeroS] [some []]) := by
    rw [hout]
    refine ⟨(fun h => by cases h), (fun h => by cases h), mapOK_nil, mapOK_nil, ?_, ?_, ?_⟩
    · intro c m h; cases h; decide
    · intro e h; cases h; decide
    · decide +kernel
  rw [C01_failure env rk cfg iface F [.int 13, zeroS] [some []] _ hcall find_F himpl (by rw [hout])]
  rw [show arrives (GoErr.tars 77 (ascii "boom")) = .tars 77 (ascii "boom") from rfl]

open C01Example in
/-- … and of `C01_nil_map_counterexample` / the current behaviour: the same call with a nil context
    map panicked in the as-found proxy (because `f` sets the response context `{"k": "v"}`); the
    current proxy returns normally and leaves the nil map alone -/
example :
    (callWith { nilMapGuard := .asFound } env cfg {} {} iface F.name F.sig false [.int 70000, zeroS] [none]).2
      = .panicked "assignment to entry in nil map" ∧
    (call env cfg iface F.name F.sig false [.int 70000, zeroS] [none]).2
      = .returned none ⟨some (.int 70001), [.struct [.int 5, .str []]], none, none⟩ := by
  have hcall := callOK_F false 70000 (by decide) zeroS wt_zeroS none rfl (by decide +kernel)
  have himpl := implOK_F 70000 (by decide) (by decide) zeroS [none] (by decide +kernel)
  refine ⟨C01_nil_map_counterexample env rk cfg iface F [.int 70000, zeroS] hcall find_F himpl rfl
    (by decide), ?_⟩
  rw [C01_transparent env rk cfg iface F [.int 70000, zeroS] [none] hcall find_F himpl rfl]
  rfl

open C01Example in
/-- … and of `C01_oneway` -/
example : ∃ _ : CallOK env rk cfg F.name F.sig true [.int 70000, zeroS] [some []],
    call env cfg iface F.name F.sig true [.int 70000, zeroS] [some []]
      = ([implEv env F [.int 70000, zeroS] [some []]],
         .returned none (view0 env F.sig [.int 70000, zeroS] [some []])) := by
  have hc : CallOK env rk cfg F.name F.sig true [.int 70000, zeroS] [some []] :=
    callOK_F true 70000 (by decide) zeroS wt_zeroS (some []) rfl (by decide +kernel)
  exact ⟨hc, C01_oneway env rk cfg iface F _ _ hc find_F⟩

open C01Example in
/-- … and with a **reused out variable** (the D13 situation at call level): `void get(out S s)` with
    `struct S { 0 require int a; 1 optional string b; }`, the server sets `s = {a: 5, b: ""}`, the
    caller's variable holds `{a: 1, b: "old"}` before the call.  After the call it holds `{5, ""}`:
    nothing stale survives (as found, `b` kept "old": `ResetDefault` did not reset a member without
    an explicit default, and `b` at its default is not transmitted). -/
example : (call env cfg iface G.name G.sig false [oldS] []).2
    = .returned none ⟨none, [.struct [.int 5, .str []]], none, none⟩ := by
  have hcall := callOK_G oldS wt_oldS (by decide +kernel)
  have himpl : ImplOK .repaired env cfg (proxyRequest env cfg G.name G.sig false [oldS] []) G.sig
      (implOut env G [oldS] []) := by
    refine ⟨fun _ => rfl, fun _ => ?_, mapOK_nil, mapOK_nil, (fun c m h => by cases h),
      (fun e h => by cases h), by decide +kernel⟩
    simp only [implOut, G, implG, sigG, rspFields, retFields, outFields, outFieldsFrom, argField,
      Option.toList_none, List.nil_append, WTm, and_true, if_true]
    exact wt_newS
  rw [C01_transparent env rk cfg iface G [oldS] [] hcall find_G himpl rfl]
  simp [normRet, normOuts, implOut, G, implG, sigG, outFields, outFieldsFrom, argField, normMembers,
    normVar, newS, find_S, sFields, copiedMaps, optsMaps]

end Tars
