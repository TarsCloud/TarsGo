import TarsModel.Proofs.SchemaCheck
import TarsModel.Proofs.SchemaTop
import TarsModel.Proofs.RefTop

/-!
# C03 — Generated struct codecs: round trip, block round trip, reference agreement

Property theorems only.  Vocabulary (in `Proofs/SchemaSpec.lean`; `TargetOK` in
`Proofs/SchemaTarget.lean`):

* `EnvWF env rk` — well-formed schema: every struct's members have tags ≤ 255 in strictly
  ascending order, member types only mention defined structs, of strictly smaller rank `rk`
  when contained by value (a Go struct cannot contain itself by value; below a vector or map
  any defined struct may appear, so recursive types are covered; ranks ≤ `env.length`), explicit
  defaults only on scalars/enums and in range, no fixed array of `byte`/`unsigned byte` (the code
  emitted for those does not compile).
* `WT env ty v` — `v` is a Go value of type `ty`: integers in the range of their Go type, float
  bit patterns < 2^32 / 2^64, strings < 2^32 bytes, container lengths < 2^31, array length = N,
  map keys pairwise distinct under Go `==`, struct values positionally matching the schema.
  `WellTyped env rk S v := EnvWF env rk ∧ WT env (.struct S) v`.
* `norm env S v` — `v` with every optional float member that is Go-`==` to its default replaced
  by the default (nil and empty containers are already identified in the model).
* `Terminated t` — `t = []` or `t` starts with a StructEnd head.
* `TargetOK env S old` — `old` is an admissible decode target: a struct value with one member per
  declared member whose struct-typed members are again admissible targets; all other members are
  arbitrary (stale data of a reused target).  The fresh zero struct and every well-typed value
  of the struct type are admissible (`freshStruct_targetOK`, `WT.targetOK`).

All statements are for every schema, every struct of it, every well-typed value, every reader
position; nested structs, vectors, byte vectors (SimpleList), maps, fixed arrays, enums and
optional members at and away from their defaults are all covered.
-/
namespace Tars
open Consts

/-! ## Full-strength statements -/

/-- round trip through `WriteTo` / `ReadFrom` into ANY admissible target (fresh or reused): since
    `ResetDefault` resets every member, stale content of the target cannot survive -/
def C03_full_roundtrip_any_target : Prop :=
  ∀ (env : Env) (rk : String → Nat) (S : String) (v old : Val) (r : Reader) (t : Bytes),
    WellTyped env rk S v → TargetOK env S old → Terminated t → r.rest = encStruct env S v ++ t →
    decStruct env S old r = (.ok (norm env S v), r.adv (encStruct env S v).length)

/-- round trip through `WriteTo` / `ReadFrom` into a fresh struct -/
def C03_full_roundtrip : Prop :=
  ∀ (env : Env) (rk : String → Nat) (S : String) (v : Val) (r : Reader) (t : Bytes),
    WellTyped env rk S v → Terminated t → r.rest = encStruct env S v ++ t →
    decStruct env S (freshStruct env S) r = (.ok (norm env S v), r.adv (encStruct env S v).length)

/-- round trip through `WriteBlock` / `ReadBlock` at any tag, required or optional, into any
    admissible target, followed by arbitrary bytes -/
def C03_full_block_any_target : Prop :=
  ∀ (env : Env) (rk : String → Nat) (S : String) (v old : Val) (tag : Nat) (req : Bool) (r : Reader)
    (t : Bytes), WellTyped env rk S v → TargetOK env S old → tag < 256 →
    r.rest = encVar env tag req (.struct S) none v ++ t →
    decVar env (decFuel env r) tag req (.struct S) old r
      = (.ok (norm env S v), r.adv (encVar env tag req (.struct S) none v).length)

/-- round trip through `WriteBlock` / `ReadBlock` at any tag, required or optional, followed by
    arbitrary bytes -/
def C03_full_block : Prop :=
  ∀ (env : Env) (rk : String → Nat) (S : String) (v : Val) (tag : Nat) (req : Bool) (r : Reader)
    (t : Bytes), WellTyped env rk S v → tag < 256 →
    r.rest = encVar env tag req (.struct S) none v ++ t →
    decVar env (decFuel env r) tag req (.struct S) (freshStruct env S) r
      = (.ok (norm env S v), r.adv (encVar env tag req (.struct S) none v).length)

/-- the bytes are a well-formed Tars encoding: the independent strict reference decoder accepts
    them and maps them back to the same value -/
def C03_full_ref : Prop :=
  ∀ (env : Env) (rk : String → Nat) (S : String) (v : Val),
    WellTyped env rk S v → Ref.decRef env S (encStruct env S v) = some (norm env S v)

/-! ## Theorems -/

/-- **C03_roundtrip_any_target.** Encoding a well-typed value of any struct type of any
    well-formed schema and decoding the bytes into ANY admissible target — fresh, or reused and
    holding arbitrary stale data — yields the (normalised) value; the reader stops exactly behind
    the encoding.  Holds at any reader position and with any `Terminated` continuation. -/
theorem C03_roundtrip_any_target : C03_full_roundtrip_any_target :=
  decStruct_rt_target

/-- in particular a target holding any previous well-typed value of the struct type -/
theorem C03_roundtrip_reused (env : Env) (rk : String → Nat) (S : String) (v prev : Val)
    (r : Reader) (t : Bytes) (hW : WellTyped env rk S v) (hp : WT env (.struct S) prev)
    (ht : Terminated t) (h : r.rest = encStruct env S v ++ t) :
    decStruct env S prev r = (.ok (norm env S v), r.adv (encStruct env S v).length) :=
  C03_roundtrip_any_target env rk S v prev r t hW (WT.targetOK env prev S hp) ht h

/-- **C03_roundtrip**: `C03_roundtrip_any_target` at the fresh target `freshStruct env S`. -/
theorem C03_roundtrip : C03_full_roundtrip :=
  decStruct_rt

/-- what remains after the read is exactly what followed the encoding -/
theorem C03_roundtrip_position (env : Env) (S : String) (v : Val) (r : Reader) (t : Bytes)
    (h : r.rest = encStruct env S v ++ t) : (r.adv (encStruct env S v).length).rest = t :=
  r.rest_adv h

/-- **C03_block_any_target.** The same through `WriteBlock`/`ReadBlock` (what the generator emits
    for a struct-typed member, element, map value, argument or return value) at any tag, into any
    admissible target. -/
theorem C03_block_any_target : C03_full_block_any_target :=
  block_rt_target

/-- **C03_block**: `C03_block_any_target` at the fresh target `freshStruct env S`. -/
theorem C03_block : C03_full_block :=
  block_rt

/-- **C03_ref**: the bytes produced by `WriteTo` are accepted by the strict reference
    decoder — every member under its declared tag and an admissible wire type, at most once, in
    strictly ascending tag order, required members present, integers in their narrowest width,
    lengths exact, nothing after the last field — and it maps them back to the same value. -/
theorem C03_ref : C03_full_ref :=
  Ref.decRef_enc

/-- well-formedness alone: the strict reference decoder accepts the encoding -/
theorem C03_wf (env : Env) (rk : String → Nat) (S : String) (v : Val) (hW : WellTyped env rk S v) :
    (Ref.decRef env S (encStruct env S v)).isSome = true := by
  rw [C03_ref env rk S v hW]; rfl

/-- **C03_wf, spelled out.** What acceptance by the strict reference decoder means for the encoding
    of a well-typed value: the whole byte string parses (schema-free, lengths exact, nothing left
    over) as a sequence of fields `ms` with strictly ascending tags (so each member at most once),
    every field carries a declared tag, every required member is present, and the decoded struct has
    one value per declared member.  (`Ref.decRef_strict` is the general fact for arbitrary bytes;
    admissible wire types and narrowest integer widths are enforced per field by `Ref.interp`, see
    `Ref.interpInt_strict`.) -/
theorem C03_wf_structure (env : Env) (rk : String → Nat) (S : String) (fs : List Field) (v : Val)
    (hW : WellTyped env rk S v) (hfs : env.find S = some fs) :
    ∃ ms vs, Ref.parseTop (encStruct env S v).length ((encStruct env S v).length + 2)
        (encStruct env S v) = some ms ∧
      norm env S v = .struct vs ∧ vs.length = fs.length ∧
      ms.Pairwise (fun x y => x.tag < y.tag) ∧
      (∀ m ∈ ms, ∃ f ∈ fs, f.tag = m.tag) ∧
      (∀ f ∈ fs, f.req = true → ∃ m ∈ ms, m.tag = f.tag) :=
  Ref.decRef_strict env S fs (encStruct env S v) (norm env S v) hfs (C03_ref env rk S v hW)

/-- the decoder under test and the reference decoder agree on every encoding -/
theorem C03_agree (env : Env) (rk : String → Nat) (S : String) (v : Val)
    (hW : WellTyped env rk S v) :
    (decStruct env S (freshStruct env S) (Reader.mk0 (encStruct env S v))).1
      = match Ref.decRef env S (encStruct env S v) with
        | some w => .ok w
        | none => .error .mismatch := by
  rw [C03_roundtrip env rk S v _ [] hW (Or.inl rfl) (Reader.rest_mk0_append_nil _), C03_ref env rk S v hW]

/-! ## Non-vacuity: a schema with nesting, defaults, a vector of structs, a map to byte vectors,
    a fixed array, an extended tag; a value with −0.0 in an optional float, empty and non-empty
    containers, members at and away from their defaults -/

namespace C03Example

def env : Env := [
  ("Inner", [⟨0, true, .i32, none⟩, ⟨3, false, .str, some (.str [byte 65])⟩, ⟨5, false, .f32, none⟩,
             ⟨6, false, .enum, some (.int 2)⟩]),
  ("Outer", [⟨1, true, .struct "Inner", none⟩, ⟨2, false, .vec (.struct "Inner"), none⟩,
             ⟨4, false, .map .str (.vec .i8), none⟩, ⟨20, true, .arr 2 .u16, none⟩,
             ⟨21, false, .i64, some (.int 7)⟩, ⟨22, false, .vec .i8, none⟩, ⟨200, false, .bool, none⟩]),
  -- a recursive type: a struct may contain itself below a vector or a map
  ("Tree", [⟨0, true, .i16, none⟩, ⟨1, false, .vec (.struct "Tree"), none⟩,
            ⟨2, false, .map .u8 (.struct "Tree"), none⟩])]

def rk (s : String) : Nat := if s = "Outer" then 1 else 0

def inner1 : Val := .struct [.int 70000, .str [byte 65], .f32 (2^31), .int 2]
def inner2 : Val := .struct [.int 0, .str [], .f32 5, .int (-1)]
def v : Val := .struct [inner1, .list [inner2, inner1],
  .map [(.str [byte 1], .list [.int (-3), .int 4]), (.str [], .list [])],
  .list [.int 65535, .int 0], .int 7, .list [.int 1], .bool true]

def leaf (i : Int) : Val := .struct [.int i, .list [], .map []]
def tree : Val := .struct [.int 1, .list [leaf 2, .struct [.int 3, .list [leaf 4], .map []]],
  .map [(.int 200, leaf (-5))]]

end C03Example

open C03Example in
theorem C03_example_env_wf : EnvWF env rk := EnvWF.of_check (by decide)

open C03Example in
theorem C03_example_v_wt : WT env (.struct "Outer") v := by
  simp [v, inner1, inner2, WT, WTm, WTs, WTp, ScalarOK, env, Env.find, KeysDistinct, keyEq]

open C03Example in
theorem C03_example_tree_wt : WT env (.struct "Tree") tree := by
  simp [tree, leaf, WT, WTm, WTs, WTp, ScalarOK, env, Env.find, KeysDistinct]

open C03Example in
/-- the hypotheses of the C03 theorems are satisfiable by non-trivial instances -/
example : WellTyped env rk "Outer" v := ⟨C03_example_env_wf, C03_example_v_wt⟩
open C03Example in
example : WellTyped env rk "Tree" tree := ⟨C03_example_env_wf, C03_example_tree_wt⟩

open C03Example in
/-- a reused target full of stale data (members of the wrong Go type included) is admissible:
    only the by-value struct skeleton matters -/
example : TargetOK env "Outer" (.struct [.struct [.str [byte 9], .int 3, .list [], .map []],
    .list [.int 1, .int 2], .int 5, .list [], .str [], .list [.int 77], .int 42]) := by
  simp [TargetOK, Ready, ReadyMembers, env, Env.find]

open C03Example in
/-- decoding into that stale target gives the same result as into a fresh one -/
example : (decStruct env "Outer" (.struct [.struct [.str [byte 9], .int 3, .list [], .map []],
      .list [.int 1, .int 2], .int 5, .list [], .str [], .list [.int 77], .int 42])
    (Reader.mk0 (encStruct env "Outer" v))).1 = .ok (norm env "Outer" v) := by
  rw [C03_roundtrip_any_target env rk "Outer" v _ _ [] ⟨C03_example_env_wf, C03_example_v_wt⟩
    (by simp [TargetOK, Ready, ReadyMembers, env, Env.find]) (Or.inl rfl) (Reader.rest_mk0_append_nil _)]

example : Terminated [] := Or.inl rfl
example : Terminated (writeHead tyStructEnd 0 ++ [byte 1, byte 2]) :=
  Or.inr ⟨0, [byte 1, byte 2], by decide, rfl⟩

open C03Example in
/-- the normal form differs from the value exactly at the optional float holding −0.0 -/
example : norm env "Outer" v = .struct [
    .struct [.int 70000, .str [byte 65], .f32 0, .int 2],
    .list [inner2, .struct [.int 70000, .str [byte 65], .f32 0, .int 2]],
    .map [(.str [byte 1], .list [.int (-3), .int 4]), (.str [], .list [])],
    .list [.int 65535, .int 0], .int 7, .list [.int 1], .bool true] := by
  simp [norm, normVar, normMembers, normElems, normPairs, v, inner1, inner2, env, Env.find, f32Eq,
    f32IsNaN]

open C03Example in
/-- the instances through the theorems -/
example : Ref.decRef env "Outer" (encStruct env "Outer" v) = some (norm env "Outer" v) :=
  C03_ref env rk "Outer" v ⟨C03_example_env_wf, C03_example_v_wt⟩

open C03Example in
example : Ref.decRef env "Tree" (encStruct env "Tree" tree) = some (norm env "Tree" tree) :=
  C03_ref env rk "Tree" tree ⟨C03_example_env_wf, C03_example_tree_wt⟩

open C03Example in
example : (decStruct env "Outer" (freshStruct env "Outer") (Reader.mk0 (encStruct env "Outer" v))).1
    = .ok (norm env "Outer" v) := by
  rw [C03_roundtrip env rk "Outer" v _ [] ⟨C03_example_env_wf, C03_example_v_wt⟩ (Or.inl rfl)
    (Reader.rest_mk0_append_nil _)]

open C03Example in
/-- `ReadBlock` of the recursive instance at an extended tag, followed by arbitrary bytes -/
example (t : Bytes) (r : Reader)
    (h : r.rest = encVar env 77 false (.struct "Tree") none tree ++ t) :
    decVar env (decFuel env r) 77 false (.struct "Tree") (freshStruct env "Tree") r
      = (.ok (norm env "Tree" tree), r.adv (encVar env 77 false (.struct "Tree") none tree).length) :=
  C03_block env rk "Tree" tree 77 false r t ⟨C03_example_env_wf, C03_example_tree_wt⟩ (by decide) h

/-! ### the reference decoder is strict: concrete rejections
    (`Inner`: 0 require int; 3 optional string = "A"; 5 optional float; 6 optional enum = 2) -/

open C03Example in
example : (Ref.decRef env "Inner" [byte 0x00, byte 0x01]).isSome = true := by decide
open C03Example in  -- integer not in its narrowest width (SHORT 0x0001)
example : (Ref.decRef env "Inner" [byte 0x01, byte 0x00, byte 0x01]).isNone = true := by decide
open C03Example in  -- required member missing
example : (Ref.decRef env "Inner" []).isNone = true := by decide
open C03Example in  -- unknown member (tag 1)
example : (Ref.decRef env "Inner" [byte 0x00, byte 0x01, byte 0x1c]).isNone = true := by decide
open C03Example in  -- tags not ascending (5 before 0)
example : (Ref.decRef env "Inner"
    [byte 0x54, byte 0, byte 0, byte 0, byte 1, byte 0x00, byte 0x01]).isNone = true := by decide
open C03Example in  -- member twice
example : (Ref.decRef env "Inner" [byte 0x00, byte 0x01, byte 0x00, byte 0x01]).isNone = true := by
  decide
open C03Example in  -- truncated trailing field
example : (Ref.decRef env "Inner" [byte 0x00, byte 0x01, byte 0x36]).isNone = true := by decide
open C03Example in  -- inadmissible wire type (STRING1 for an int member)
example : (Ref.decRef env "Inner" [byte 0x06, byte 0x00]).isNone = true := by decide

end Tars
