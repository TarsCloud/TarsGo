import TarsModel.Proofs.PoolTrace

/-!
# C19 — Worker pool runs every job exactly once with bounded parallelism

Property theorems only.  The model is the labelled transition system of `Model/Pool.lean`
(one action = one channel operation or call/return boundary of one goroutine of
`tars/util/gpool/gpool.go`).  Every statement is for **all** pool sizes `cfg.n`, **all** queue
capacities `cfg.q ≥ 0` (`q = 0`: unbuffered job queue), any number of submitters and jobs, and
**all** interleavings: `Reach cfg s` = "`s` is reachable from `NewPool(n, q)` by some action
sequence", `run cfg s as` = "execute schedule `as` from `s`".  `cfg.n ≥ 1` is assumed exactly where
it is needed (progress); `NewPool(0, q)` deadlocks on the first job (`C19_counterexample_no_workers`).

Environment actions (`Action.isEnv`): a client begins a submission (`subCall`), a submission's
channel send completes (`subSend`), `Release` is called (`relCall`).  All other actions are steps of
the pool's goroutines, of job bodies, or returns to clients.

Liveness: what is proved is (a) *progress* — in the situations the property speaks about, some
non-environment action is enabled (`C19_no_deadlock`, `C19_release_progress`), and (b) *a variant* —
every non-environment step strictly decreases the measure `mu` (`C19_progress_bounded`).  Together:
every maximal run of the pool without new work is finite and ends with all submitted jobs done /
`Release` returned.  That the Go scheduler actually keeps running runnable goroutines (and that
`select` does not starve the stop case while clients keep submitting) is assumed, not proved.

What the property does **not** promise, and the model says precisely: jobs still in `JobQueue` when
the dispatcher takes the stop request are never executed and stay in the queue
(`C19_queued_jobs_never_run`). Submitters blocked at that time stay blocked (Q = 0: the rendezvous
needs the dispatcher in its `select`) or their jobs are buffered and never run; the former is not
stated as a theorem.
-/
namespace Tars.Pool

/-- The synchronous hand-off actions of the model are only adequate while `JobChannel`,
    `Worker.Stop` and `Pool.stop` are unbuffered in the source (capacities re-extracted on every run). -/
theorem C19_model_applicable : unbufferedOk = true := by decide

/-! ## every job exactly once -/

/-- **Conservation.** In every reachable state — released or not — every submitted job is in
    exactly one of {job queue, dispatcher, a worker, done}: none is lost, none is duplicated;
    a job that was not submitted is nowhere; no job is submitted twice. -/
theorem C19_conservation {cfg : Cfg} {s : State} (h : Reach cfg s) (j : Job) :
    (j ∈ s.submitted → places s j = 1) ∧ (j ∉ s.submitted → places s j = 0) ∧ s.submitted.Nodup := by
  have hi := inv_reach h
  have hc : places s j = s.submitted.count j := by
    rw [places, workerJobs_count]; exact hi.cons j
  rw [hc, hi.subNodup.count]
  exact ⟨fun hj => if_pos hj, fun hj => if_neg hj, hi.subNodup⟩

example : ∃ s, Reach ⟨1, 1⟩ s ∧ 7 ∈ s.submitted ∧ places s 7 = 1 ∧ s.d = .hold 7 :=
  ⟨_, reach_run [.subCall 7, .subSend 7, .dTake] Reach.init rfl, by decide⟩

/-- **Exactly once.** Along every schedule from `NewPool`, the body of job `j` is entered
    (`start _ j`) at most once; the number of times it was entered equals "it is running now or has
    returned"; in particular a job that is done was started exactly once and is done once. -/
theorem C19_exactly_once {cfg : Cfg} {s : State} (as : List Action)
    (h : run cfg (init cfg) as = some s) (j : Job) :
    startsOf j as ≤ 1 ∧
    startsOf j as = (runningJobs s).count j + s.done.count j ∧
    (j ∈ s.done → startsOf j as = 1 ∧ s.done.count j = 1) := by
  have hi := inv_reach (reach_run as .init h)
  have h1 := startedN_run j as h
  have h2 := startedN_le_one hi j
  rw [startedN_init] at h1
  simp only [startedN, ← runningJobs_count] at h1 h2
  refine ⟨by omega, by omega, fun hj => ?_⟩
  have : 0 < s.done.count j := List.count_pos_iff.mpr hj
  omega

example : (run ⟨1, 1⟩ (init ⟨1, 1⟩)
    [.subCall 7, .subSend 7, .dTake, .wReg 0, .dPick, .dGive, .start 0 7, .fin 0 7]).map (·.done)
    = some [7] := by decide

/-- **At least once (under progress).** From any reachable state in which `Release` was not called,
    the pool's own steps (no further submission needed) lead to a state where every submitted job
    is done; the schedule is no longer than `mu`. -/
theorem C19_all_jobs_done {cfg : Cfg} {s : State} (h : Reach cfg s) (hn : 1 ≤ cfg.n)
    (hr : s.rel = .idle) :
    ∃ (as : List Action) (s' : State), (∀ a ∈ as, a.isEnv = false) ∧ run cfg s as = some s' ∧
      as.length ≤ mu cfg s ∧ s'.submitted = s.submitted ∧ ∀ j ∈ s'.submitted, j ∈ s'.done := by
  obtain ⟨as, s', hne, hrun, hlen, hk, hall⟩ := exists_run hn
    (keep := fun t => t.rel = .idle ∧ t.submitted = s.submitted)
    (goal := fun t => ∀ j ∈ t.submitted, j ∈ t.done)
    (fun hk ha h => ⟨(nonenv_keeps h ha).2.2 hk.1, (nonenv_keeps h ha).1.trans hk.2⟩)
    (fun hk hg => ⟨fun _ => by simpa using hg, by simp [hk.1]⟩) (inv_reach h) ⟨hr, rfl⟩
  exact ⟨as, s', hne, hrun, hlen, hk.2, hall⟩

/-- hypotheses satisfiable, and the bound is meaningful: two jobs submitted to `NewPool(1, 1)`, none
    done yet, `mu` = 6 (queued) + 5 (held) + 1 (worker registering) + 2 (returns to clients) -/
example : ∃ s, Reach ⟨1, 1⟩ s ∧ s.rel = .idle ∧ s.submitted = [2, 1] ∧ s.done = [] ∧ mu ⟨1, 1⟩ s = 14 :=
  ⟨_, reach_run [.subCall 1, .subSend 1, .dTake, .subCall 2, .subSend 2] Reach.init rfl, by decide⟩

/-! ## bounded parallelism -/

/-- **Bounded.** At most `n` job bodies execute at the same time (indeed at most `n` jobs are
    inside workers, received or running). -/
theorem C19_bounded {cfg : Cfg} {s : State} (h : Reach cfg s) :
    (runningJobs s).length ≤ cfg.n ∧ (workerJobs s).length ≤ cfg.n := by
  have hl := (inv_reach h).len
  constructor
  · have := length_flatMap_le WPc.running (fun x => by cases x <;> simp [WPc.running]) s.ws
    simp only [runningJobs]; omega
  · have := length_flatMap_le WPc.jobs (fun x => by cases x <;> simp [WPc.jobs]) s.ws
    simp only [workerJobs]; omega

/-- the bound is attained: two workers, both running -/
example : (run ⟨2, 0⟩ (init ⟨2, 0⟩)
    [.wReg 0, .wReg 1, .subCall 1, .subSend 1, .dPick, .dGive, .start 0 1,
     .subCall 2, .subSend 2, .dPick, .dGive, .start 1 2]).map runningJobs = some [1, 2] := by decide

/-! ## a submitter blocks only while the queue is full -/

/-- **Submit enabledness.** The send of a pending submission can complete iff the job queue has
    room, or — for an unbuffered queue — the dispatcher is waiting in its `select`. (Any state.) -/
theorem C19_submit_block (cfg : Cfg) (s : State) (j : Job) (hj : j ∈ s.calling) :
    (step cfg s (.subSend j)).isSome ↔ (s.jobQ.length < cfg.q ∨ (cfg.q = 0 ∧ s.d = .sel)) := by
  simp only [step, stepSubSend, hj, if_true]
  by_cases h1 : s.jobQ.length < cfg.q
  · simp [h1]
  · by_cases h2 : cfg.q = 0 ∧ s.d = .sel
    · simp [h2]
    · simp [h1, h2]

/-- **Blocks only while full.** In a reachable state a submission that cannot complete finds the
    job queue holding exactly `q` jobs. -/
theorem C19_submit_blocked_only_when_full {cfg : Cfg} {s : State} (h : Reach cfg s) (j : Job)
    (hj : j ∈ s.calling) (hb : step cfg s (.subSend j) = none) : s.jobQ.length = cfg.q := by
  have hq := (inv_reach h).qcap
  have hiff := C19_submit_block cfg s j hj
  rw [hb] at hiff
  have : ¬ s.jobQ.length < cfg.q := fun hlt => by simpa using hiff.mpr (Or.inl hlt)
  omega

/-- non-vacuity: N = 1, Q = 1, three submissions: the third is blocked with a full queue -/
example : ((run ⟨1, 1⟩ (init ⟨1, 1⟩)
    [.subCall 1, .subSend 1, .dTake, .subCall 2, .subSend 2, .subCall 3]).bind
      (fun s => step ⟨1, 1⟩ s (.subSend 3))) = none := by decide

/-- the pool never blocks itself on its own worker queue: `w.WorkerQueue <- w` always has room -/
theorem C19_register_never_blocks {cfg : Cfg} {s : State} (h : Reach cfg s) (w : Wid)
    (hw : s.ws[w]? = some .reg) : (step cfg s (.wReg w)).isSome :=
  (Step.wReg hw (reg_has_room (inv_reach h) hw)).enabled

example : Reach ⟨2, 0⟩ (init ⟨2, 0⟩) ∧ (init ⟨2, 0⟩).ws[1]? = some .reg := ⟨Reach.init, by decide⟩

/-! ## no deadlock -/

/-- **No deadlock.** While `Release` has not been called and some submitted job is not done, some
    action of the pool (not of its clients) is enabled. -/
theorem C19_no_deadlock {cfg : Cfg} {s : State} (h : Reach cfg s) (hn : 1 ≤ cfg.n)
    (hr : s.rel = .idle) (hj : ∃ j, j ∈ s.submitted ∧ j ∉ s.done) :
    ∃ a : Action, a.isEnv = false ∧ (step cfg s a).isSome :=
  progress (inv_reach h) hn (fun _ => hj) (by simp [hr])

/-- hypotheses satisfiable: one job submitted and queued, not done -/
example : ∃ s, run ⟨1, 1⟩ (init ⟨1, 1⟩) [.subCall 7, .subSend 7] = some s ∧ s.rel = .idle ∧
    7 ∈ s.submitted ∧ 7 ∉ s.done := ⟨_, rfl, by decide⟩

/-- `n ≥ 1` is necessary: `NewPool(0, 1)` with one submitted job is stuck for ever
    (the dispatcher waits on an empty `WorkerQueue` nobody will ever fill). -/
theorem C19_counterexample_no_workers :
    ∃ s, run ⟨0, 1⟩ (init ⟨0, 1⟩) [.subCall 7, .subSend 7, .subRet 7, .dTake] = some s ∧
      s.rel = .idle ∧ 7 ∈ s.submitted ∧ 7 ∉ s.done ∧
      step ⟨0, 1⟩ s .dPick = none ∧ step ⟨0, 1⟩ s .dTake = none ∧ step ⟨0, 1⟩ s .dGive = none ∧
      s.ws = [] :=
  ⟨_, rfl, by decide⟩

/-- **Bounded progress (variant).** From a reachable state, any sequence of non-environment steps
    has length at most `mu cfg s`: without new work the pool cannot run for ever. -/
theorem C19_progress_bounded {cfg : Cfg} {s s' : State} (h : Reach cfg s) (as : List Action)
    (hrun : run cfg s as = some s') (hne : ∀ a ∈ as, a.isEnv = false) :
    as.length + mu cfg s' ≤ mu cfg s :=
  run_bounded as (inv_reach h) hrun hne

example : ∃ s', run ⟨1, 1⟩ (init ⟨1, 1⟩) [.wReg 0] = some s' ∧ (∀ a ∈ [Action.wReg 0], a.isEnv = false) ∧
    mu ⟨1, 1⟩ (init ⟨1, 1⟩) = 1 ∧ mu ⟨1, 1⟩ s' = 0 := ⟨_, rfl, by decide⟩

/-! ## Release -/

/-- **Release returned ⇒ everything stopped.** When `Release` has returned, the dispatcher has
    returned, every worker goroutine has returned, no job body is executing and no job is inside a
    worker. (The same already holds once the dispatcher has acknowledged: `stopped`.) -/
theorem C19_release_safe {cfg : Cfg} {s : State} (h : Reach cfg s) (hr : s.rel = .returned) :
    s.d = .done ∧ (∀ x ∈ s.ws, x = .dead) ∧ runningJobs s = [] ∧ workerJobs s = [] :=
  stopped (inv_reach h) (.inr hr)

/-- **No job starts afterwards.** After `Release` has returned, no continuation of the execution
    contains a job start (or changes the set of finished jobs), `Release` stays returned. -/
theorem C19_release_no_start_after {cfg : Cfg} {s s' : State} (h : Reach cfg s)
    (hr : s.rel = .returned) (as : List Action) (hrun : run cfg s as = some s') :
    (∀ a ∈ as, a.isStart = false) ∧ s'.done = s.done ∧ s'.rel = .returned := by
  obtain ⟨h1, h2, _, h4⟩ := after_returned_run as (inv_reach h) hr hrun
  exact ⟨h2, h4, h1⟩

/-- **Release waits for running jobs.** `Release` cannot return while a job is inside a worker:
    in every reachable state with a received or running job, `Release` has not returned. -/
theorem C19_release_waits {cfg : Cfg} {s : State} (h : Reach cfg s) (hw : workerJobs s ≠ []) :
    s.rel ≠ .returned ∧ s.rel ≠ .acked := by
  have hno : ¬ (s.rel = .acked ∨ s.rel = .returned) := fun hr => hw (stopped (inv_reach h) hr).2.2.2
  exact ⟨fun hr => hno (.inr hr), fun hr => hno (.inl hr)⟩

/-- hypotheses satisfiable: `Release` called while job 1 runs — it has not returned -/
example : ∃ s, Reach ⟨1, 1⟩ s ∧ workerJobs s = [1] ∧ s.rel = .sent :=
  ⟨_, reach_run [.wReg 0, .subCall 1, .subSend 1, .dTake, .dPick, .dGive, .start 0 1, .relCall, .relSend]
    Reach.init rfl, by decide⟩

/-- **Release progress.** Once `Release` has been called and until it has returned, some action of
    the pool or the return of `Release` is enabled — whatever the jobs in flight. -/
theorem C19_release_progress {cfg : Cfg} {s : State} (h : Reach cfg s) (hn : 1 ≤ cfg.n)
    (hc : s.rel ≠ .idle) (hr : s.rel ≠ .returned) :
    ∃ a : Action, a.isEnv = false ∧ (step cfg s a).isSome :=
  progress (inv_reach h) hn (fun h => absurd h hc) hr

/-- **Release completes.** From every reachable state in which `Release` has not been called
    (idle pool or not), calling it and then letting the pool run — no further submission needed —
    leads to `Release` returned, within `mu` steps. In particular releasing an idle pool stops all
    workers (`C19_release_safe`) and returns. -/
theorem C19_release_completes {cfg : Cfg} {s : State} (h : Reach cfg s) (hn : 1 ≤ cfg.n)
    (hr : s.rel = .idle) :
    ∃ (s1 : State) (as : List Action) (s' : State), step cfg s .relCall = some s1 ∧
      (∀ a ∈ as, a.isEnv = false) ∧ run cfg s1 as = some s' ∧ as.length ≤ mu cfg s1 ∧
      s'.rel = .returned := by
  have hs1 := Step.to_step (Step.relCall (cfg := cfg) hr)
  obtain ⟨as, s', hne, hrun, hlen, _, hfin⟩ := exists_run hn (keep := fun t => t.rel ≠ .idle)
    (goal := fun t => t.rel = .returned) (fun hk ha h => mt (nonenv_keeps h ha).2.1 hk)
    (fun hk hg => ⟨fun h => absurd h hk, hg⟩) (inv_step (inv_reach h) hs1) (by simp)
  exact ⟨_, as, s', hs1, hne, hrun, hlen, hfin⟩

/-- the shortest case: a fresh pool with one registered worker is released in 3·1 + 3 steps after the call -/
example : (run ⟨1, 0⟩ (init ⟨1, 0⟩)
    [.wReg 0, .relCall, .relSend, .sTake, .sSend, .sAck, .dAck, .relRet]).map
      (fun s => (s.rel, s.ws, s.d)) = some (.returned, [.dead], .done) := by decide

/-- hypotheses of `C19_release_safe` / `C19_release_no_start_after` satisfiable: a reachable state
    with `Release` returned (after a job ran) -/
example : ∃ s, Reach ⟨1, 0⟩ s ∧ s.rel = .returned ∧ s.done = [1] :=
  ⟨_, reach_run [.wReg 0, .subCall 1, .subSend 1, .dPick, .dGive, .start 0 1, .fin 0 1, .subRet 1, .wReg 0,
      .relCall, .relSend, .sTake, .sSend, .sAck, .dAck, .relRet] Reach.init rfl, by decide⟩

/-- **Not promised: jobs still queued at the stop.** A job that is in `JobQueue` when `Release`
    has returned stays there for ever: it is never handed to a worker. -/
theorem C19_queued_jobs_never_run {cfg : Cfg} {s s' : State} (h : Reach cfg s)
    (hr : s.rel = .returned) (j : Job) (hj : j ∈ s.jobQ) (as : List Action)
    (hrun : run cfg s as = some s') : j ∈ s'.jobQ ∧ j ∉ s'.done := by
  obtain ⟨_, _, h3, h4⟩ := after_returned_run as (inv_reach h) hr hrun
  exact ⟨h3 j hj, h4 ▸ (inv_reach h).queued_not_done hj⟩

/-- **Release before drain loses exactly the queued jobs.** When `Release` has returned, a submitted
    job that has not been executed is in `JobQueue` (nowhere else), and it will never be executed.
    This is why a handler must release its pool only after its outstanding invocations have
    drained (`C19_handlers_release_after_drain_current_tree`). -/
theorem C19_release_loses_exactly_the_queued_jobs {cfg : Cfg} {s s' : State} (h : Reach cfg s)
    (hr : s.rel = .returned) (j : Job) (hj : j ∈ s.submitted) (hd : j ∉ s.done)
    (as : List Action) (hrun : run cfg s as = some s') :
    j ∈ s.jobQ ∧ j ∈ s'.jobQ ∧ j ∉ s'.done := by
  obtain ⟨hdone, _, _, hw⟩ := C19_release_safe h hr
  have hq : j ∈ s.jobQ := by
    rcases (inv_reach h).somewhere hj with hq | hq | hq | hq
    · exact hq
    · rw [hdone] at hq; cases hq
    · rw [hw] at hq; cases hq
    · exact absurd hq hd
  exact ⟨hq, C19_queued_jobs_never_run h hr j hq as hrun⟩

/-- hypotheses satisfiable: the witness below — job 2 submitted, not done, `Release` returned -/
example : ∃ s, Reach ⟨1, 1⟩ s ∧ s.rel = .returned ∧ 2 ∈ s.submitted ∧ 2 ∉ s.done :=
  ⟨_, reach_run [.wReg 0, .subCall 1, .subSend 1, .dTake, .dPick, .dGive, .start 0 1,
       .subCall 2, .subSend 2, .subRet 2, .relCall, .relSend, .fin 0 1, .wReg 0,
       .sTake, .sSend, .sAck, .dAck, .relRet] Reach.init rfl, by decide⟩

/-- such a state is reachable: N = 1, Q = 1; job 1 runs, job 2 is still queued when the dispatcher
    takes the stop request; `Release` returns with job 2 in the queue -/
theorem C19_witness_queued_job_dropped :
    ∃ s, run ⟨1, 1⟩ (init ⟨1, 1⟩)
      [.wReg 0, .subCall 1, .subSend 1, .dTake, .dPick, .dGive, .start 0 1,
       .subCall 2, .subSend 2, .subRet 2, .relCall, .relSend, .fin 0 1, .wReg 0,
       .sTake, .sSend, .sAck, .dAck, .relRet] = some s ∧
      s.rel = .returned ∧ s.jobQ = [2] ∧ s.done = [1] :=
  ⟨_, rfl, by decide⟩

/-- In the current tree both handlers release their pool only after the wait for their outstanding
    invocations (statement order, deferred calls last-registered-first), so no submitted handler is
    in the queue when the stop is taken. Regenerated from tcphandler.go / udphandler.go. -/
theorem C19_handlers_release_after_drain_current_tree : handlersReleaseAfterDrain = true := by decide

/-! ## NewPool -/

/-- `NewPool` panics exactly on a negative size, otherwise starts `n` workers and the dispatcher -/
theorem C19_newPool (n q : Int) :
    newPool n q = (if n < 0 ∨ q < 0 then .error .panicMakechan
                   else .ok (⟨n.toNat, q.toNat⟩, init ⟨n.toNat, q.toNat⟩)) := by
  unfold newPool
  by_cases hq : q < 0
  · simp [hq]
  · by_cases hn : n < 0 <;> simp [hq, hn]

end Tars.Pool
