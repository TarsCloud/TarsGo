import TarsModel.Proofs.ConHashInv
import TarsModel.Proofs.ConHashFix
import TarsModel.Proofs.HashRoute

/-!
# C14 — Hash routing is deterministic, history-independent and minimally disruptive

Property theorems only.  Models: `Model/ConHash.lean` (the ring of `consistenthash_new.go`, over an
abstract point function `pts : Host → Nat → List Nat`; `ketamaPts` there instantiates it over `Model/MD5.lean`),
`Model/HashRoute.lean` (mod-hash selector, hash code in the client context, the decision of
`SelectAdapterProxy`); specification vocabulary: `Model/ConHashSpec.lean`, and for the repaired ring the
last section of `Model/ConHashFix.lean` (`epsStep`, `IsPointS`, `Wins`, `OwnerF`, `StrictTotal`, `SameEps`).

Quantification.  `U` is an endpoint universe with pairwise distinct hosts (`HostsInj U`); a history
is any list of `Refresh / Add / Remove` calls mentioning only endpoints of `U` (`OverU U ops`),
including calls that fail ("already exists", "already removed") and `Refresh` lists with
repetitions; keys are arbitrary naturals (all 32-bit codes in particular).  `ew` is
`enableWeight`.  The current endpoint set after a history is `setAfter [] ops`, defined on hosts
only, with no reference to the ring.

The history-independence and minimal-disruption clauses need `NoCollision`: distinct hosts of the
universe have disjoint ring points.  Without it they are FALSE for the code as found (D17):
`C14_collision_history_dependent` (general) and `C14_D17_witness` (the two concrete hosts); the
unrestricted statement is kept as `C14_full` and refuted by `C14_full_refuted`.

Variants (DESIGN §3.5).  `ConHash` = the code as found; `ConHashFix` = the ring as repaired by
`pending/C14-conhash-collision.patch`, for which the same clauses are proved at full strength
(`C14_fix_*`: every point function, every history, no universe).  The extractor records which
variant the tree has (`Consts.conHashRepaired`); the driver runs that variant and the harness holds
the real code to it.
-/
namespace Tars.C14
open Tars.ConHash Tars.HashRoute

variable {H : Type} [DecidableEq H]

/-- configuration of every ring made by `consistenthash.New(ew, _)` -/
abbrev cfgOf (ew : Bool) : Cfg := ⟨ew, Consts.conHashVirtualNodes⟩

/-- the ring after a history, starting from `consistenthash.New` -/
abbrev ringAfter (pts : H → Nat → List Nat) (ew : Bool) (ops : List (Op H)) : Ring H :=
  run pts (Ring.new ew) ops

/-! ## The current set -/

/-- `mapValues` after any history is the specification-level endpoint set -/
theorem C14_set (pts : H → Nat → List Nat) (ew : Bool) (ops : List (Op H)) :
    (ringAfter pts ew ops).mapValues = setAfter [] ops :=
  mapValues_run pts ops (Ring.new ew)

/-! ## Lookup specification -/

/-- `FindInt32 k` is the owner of the least ring point `≥ k`, else of the least ring point; it
    misses exactly when the current set has no ring point; and the prescribed owner always exists
    when there is a point (so the three clauses determine the result). -/
theorem C14_lookup_spec (pts : H → Nat → List Nat) (ew : Bool) (U : List (Ep H))
    (hU : HostsInj U) (hnc : NoCollision (cfgOf ew) pts U)
    (ops : List (Op H)) (hops : OverU U ops) (k : Nat) :
    (∀ e, Owner (cfgOf ew) pts U (setAfter [] ops) k e → findInt32 (ringAfter pts ew ops) k = .ep e) ∧
    ((∀ p, ¬ IsPoint (cfgOf ew) pts U (setAfter [] ops) p) → findInt32 (ringAfter pts ew ops) k = .notFound) ∧
    ((∃ p, IsPoint (cfgOf ew) pts U (setAfter [] ops) p) → ∃ e, Owner (cfgOf ew) pts U (setAfter [] ops) k e) :=
  (tracks_run_new hU hnc ops hops).lookup_spec k

/-- for EVERY history (no universe, no collision hypothesis): `FindInt32` never returns the zero
    endpoint with `ok = true`, and reports "not found" only on an empty ring -/
theorem C14_lookup_total (pts : H → Nat → List Nat) (ew : Bool) (ops : List (Op H)) (k : Nat) :
    ((ringAfter pts ew ops).sortedKeys.size = 0 ∧ findInt32 (ringAfter pts ew ops) k = .notFound) ∨
    (∃ p e, p ∈ (ringAfter pts ew ops).sortedKeys.toList ∧ mget (ringAfter pts ew ops).hashRing p = some e ∧
      findInt32 (ringAfter pts ew ops) k = .ep e) :=
  ((InvK_run_new pts ew ops).lookup k).imp_right fun ⟨p, e, hs, h⟩ => ⟨p, e, Array.mem_def.1 hs.1, h⟩

/-! ## Purity / history independence -/

/-- the lookup is a function of (key, current set): two histories — any interleaving of
    `Refresh`, `Add`, `Remove`, failed calls included — that reach the same set answer every key
    alike -/
theorem C14_pure (pts : H → Nat → List Nat) (ew : Bool) (U : List (Ep H))
    (hU : HostsInj U) (hnc : NoCollision (cfgOf ew) pts U)
    (ops1 ops2 : List (Op H)) (h1 : OverU U ops1) (h2 : OverU U ops2)
    (hset : SameSet (setAfter [] ops1) (setAfter [] ops2)) (k : Nat) :
    findInt32 (ringAfter pts ew ops1) k = findInt32 (ringAfter pts ew ops2) k :=
  (tracks_run_new hU hnc ops1 h1).findInt32_congr (tracks_run_new hU hnc ops2 h2)
    (fun _ => exists_congr fun e => and_congr_right fun _ => and_congr_left fun _ => hset e.host)
    (fun e _ => And.imp_right (And.imp_left (hset e.host).1)) k

/-- two clients that were handed the same endpoints in different orders (and with different
    repetitions) agree on every key -/
theorem C14_two_clients_agree (pts : H → Nat → List Nat) (ew : Bool) (U : List (Ep H))
    (hU : HostsInj U) (hnc : NoCollision (cfgOf ew) pts U)
    (eps1 eps2 : List (Ep H)) (h1 : ∀ e, e ∈ eps1 → e ∈ U) (h2 : ∀ e, e ∈ eps2 → e ∈ U)
    (hsame : ∀ h, h ∈ eps1.map (·.host) ↔ h ∈ eps2.map (·.host)) (k : Nat) :
    findInt32 (refresh pts (Ring.new ew) eps1) k = findInt32 (refresh pts (Ring.new ew) eps2) k :=
  C14_pure pts ew U hU hnc [.refresh eps1] [.refresh eps2] (overU_refresh h1) (overU_refresh h2)
    (fun h => (mem_setAfter_refresh eps1 h).trans ((hsame h).trans (mem_setAfter_refresh eps2 h).symm)) k

/-! ## Minimal disruption -/

/-- `Remove e` re-routes only the codes that were mapped to `e`: a key owned by another host
    keeps its owner (a failing `Remove` changes nothing at all) -/
theorem C14_remove_min (pts : H → Nat → List Nat) (ew : Bool) (U : List (Ep H))
    (hU : HostsInj U) (hnc : NoCollision (cfgOf ew) pts U)
    (ops : List (Op H)) (hops : OverU U ops) (ep : Ep H) (hep : ep ∈ U) (k : Nat) (e : Ep H)
    (hbefore : findInt32 (ringAfter pts ew ops) k = .ep e) (hne : e.host ≠ ep.host) :
    findInt32 (step pts (ringAfter pts ew ops) (.remove ep)) k = .ep e := by
  have hs := sound_run_new hU hnc ops hops
  exact (hs.tracks hU hnc).shrink (hs.tracks_step hU hnc (.remove ep) fun x hx => List.mem_singleton.1 hx ▸ hep)
    (fun p ⟨e, a, b, c⟩ => ⟨e, a, ((mem_setStep_remove ..).1 b).1, c⟩) hbefore
    fun p ⟨a, b, c⟩ => ⟨a, (mem_setStep_remove ..).2 ⟨b, hne⟩, c⟩

/-- `Add e` moves codes only onto `e`: every key keeps its owner or goes to the new endpoint
    (a failing `Add` changes nothing at all) -/
theorem C14_add_min (pts : H → Nat → List Nat) (ew : Bool) (U : List (Ep H))
    (hU : HostsInj U) (hnc : NoCollision (cfgOf ew) pts U)
    (ops : List (Op H)) (hops : OverU U ops) (ep : Ep H) (hep : ep ∈ U) (k : Nat) :
    findInt32 (step pts (ringAfter pts ew ops) (.add ep)) k = findInt32 (ringAfter pts ew ops) k ∨
    findInt32 (step pts (ringAfter pts ew ops) (.add ep)) k = .ep ep := by
  have hs := sound_run_new hU hnc ops hops
  refine (hs.tracks hU hnc).grow (hs.tracks_step hU hnc (.add ep) fun x hx => List.mem_singleton.1 hx ▸ hep) ep
    (fun p ⟨e, a, b, c⟩ => ⟨e, a, (mem_setStep_add ..).2 (Or.inl b), c⟩)
    (fun e p ⟨a, b, c⟩ => ?_) k
  exact ((mem_setStep_add ..).1 b).imp (fun b => ⟨a, b, c⟩) (hU e a ep hep)

/-! ## Collisions: history dependence of the code as found (D17) -/

/-- GENERAL: whenever two distinct hosts share a ring point, there are two histories over these
    two endpoints that reach the same set and route a key differently — `Refresh([e1,e2])` and
    `Refresh([e2,e1])`, on the shared point: the later `addLocked` overwrites. -/
theorem C14_collision_history_dependent (pts : H → Nat → List Nat) (ew : Bool) (e1 e2 : Ep H) (p : Nat)
    (hc : Collide (cfgOf ew) pts e1 e2 p) :
    ∃ ops1 ops2 : List (Op H), OverU [e1, e2] ops1 ∧ OverU [e1, e2] ops2 ∧
      SameSet (setAfter [] ops1) (setAfter [] ops2) ∧
      ∃ k, findInt32 (ringAfter pts ew ops1) k ≠ findInt32 (ringAfter pts ew ops2) k := by
  obtain ⟨hne, hp1, hp2⟩ := hc
  refine ⟨[.refresh [e1, e2]], [.refresh [e2, e1]], overU_refresh fun _ => id,
    overU_refresh fun _ => (List.Perm.swap e1 e2 []).mem_iff.1, fun h => ?_, p, ?_⟩
  · rw [mem_setAfter_refresh, mem_setAfter_refresh]
    exact ((List.Perm.swap e2 e1 []).map _).mem_iff
  · have h2 := findInt32_at_point (InvK.refresh pts (Ring.new ew) _)
      (refresh_last_owner pts _ [e1] e2 (mt List.mem_singleton.1 hne.symm) hp2)
    have h1 := findInt32_at_point (InvK.refresh pts (Ring.new ew) _)
      (refresh_last_owner pts _ [e2] e1 (mt List.mem_singleton.1 hne) hp1)
    exact fun heq => hne (congrArg Ep.host (Found.ep.inj (h1.symm.trans (heq.symm.trans h2))))

/-- GENERAL, the `Remove` side: after `Refresh([e1,e2]); Remove(e1)` the shared point is gone from
    the ring although the remaining member `e2` claims it, whereas `Refresh([e2])` — the same set —
    has it. -/
theorem C14_collision_remove_loses_point (pts : H → Nat → List Nat) (ew : Bool) (e1 e2 : Ep H) (p : Nat)
    (hc : Collide (cfgOf ew) pts e1 e2 p) :
    SameSet (setAfter [] [Op.refresh [e1, e2], Op.remove e1]) (setAfter [] [Op.refresh [e2]]) ∧
    mget (ringAfter pts ew [.refresh [e1, e2], .remove e1]).hashRing p = none ∧
    mget (ringAfter pts ew [.refresh [e2]]).hashRing p = some e2 := by
  obtain ⟨hne, hp1, hp2⟩ := hc
  have hne' : ¬ e2.host = e1.host := fun h => hne h.symm
  refine ⟨?_, ?_, ?_⟩
  · intro h
    simp [setAfter, setStep, hne']
  · have hmem : e1.host ∈ (step pts (Ring.new ew) (.refresh [e1, e2])).mapValues :=
      C14_set pts ew [.refresh [e1, e2]] ▸ (mem_setAfter_refresh [e1, e2] _).2 List.mem_cons_self
    simp only [ringAfter, run, List.foldl_cons, List.foldl_nil]
    rw [step_remove, if_pos hmem, reBuildHashRingLocked, mget_shrunk, cfg_step]
    exact if_pos hp1
  · exact refresh_last_owner pts (Ring.new ew) [] e2 List.not_mem_nil hp2

/-- the `Remove` side does change routing: a point function on three hosts (1 and 2 share the
    point 10, host 3 has 20) for which `Refresh([1,2,3]); Remove(1)` and `Refresh([2,3])` — the
    same set — route key 10 to host 3 resp. host 2.  (The harness finds such triples among real
    host names and keeps one in `corpus/C14/`.) -/
theorem C14_collision_remove_witness :
    let pts : Nat → Nat → List Nat := fun h i => if i = 0 then (if h = 3 then [20] else [10]) else []
    let e : Nat → Ep Nat := fun h => ⟨h, 0⟩
    SameSet (setAfter [] [Op.refresh [e 1, e 2, e 3], Op.remove (e 1)]) (setAfter [] [Op.refresh [e 2, e 3]]) ∧
    findInt32 (ringAfter pts false [.refresh [e 1, e 2, e 3], .remove (e 1)]) 10 = .ep (e 3) ∧
    findInt32 (ringAfter pts false [.refresh [e 2, e 3]]) 10 = .ep (e 2) := by
  intro pts e
  refine ⟨?_, ?_, ?_⟩
  · have a : setAfter [] [Op.refresh [e 1, e 2, e 3], Op.remove (e 1)] = [2, 3] := by decide +kernel
    have b : setAfter [] [Op.refresh [e 2, e 3]] = [2, 3] := by decide +kernel
    intro h; rw [a, b]
  · have hK := InvK_run_new pts false [.refresh [e 1, e 2, e 3], .remove (e 1)]
    have hr : (ringAfter pts false [.refresh [e 1, e 2, e 3], .remove (e 1)]).hashRing = [(20, e 3)] := by
      decide +kernel
    have hmem : ∀ q, q ∈ (ringAfter pts false [.refresh [e 1, e 2, e 3], .remove (e 1)]).sortedKeys ↔ 20 = q := by
      intro q
      rw [hK.2 q, hr, mget, mget]
      split <;> simp [*]
    rw [findInt32_of_succ _ hK.1 10 20 ⟨(hmem 20).2 rfl, Or.inl ⟨by omega, fun q hq _ => (hmem q).1 hq ▸ Nat.le_refl _⟩⟩, hr]
    rfl
  · exact findInt32_at_point (InvK_run_new pts false _) (by decide +kernel)

/-! ### The concrete witness (Ketama over MD5, hosts as their bytes) -/

/-- `"10.0.0.160"` -/
def hostA : List Nat := [49, 48, 46, 48, 46, 48, 46, 49, 54, 48]
/-- `"10.0.3.248"` -/
def hostB : List Nat := [49, 48, 46, 48, 46, 51, 46, 50, 52, 56]
def epA : Ep (List Nat) := ⟨hostA, 0⟩
def epB : Ep (List Nat) := ⟨hostB, 0⟩

/-- virtual node 22 of `10.0.0.160` and virtual node 17 of `10.0.3.248` share the ring point
    1292016174 (kernel evaluation of the MD5 model; the harness re-checks it on `crypto/md5`) -/
theorem C14_D17_points :
    ketamaPts hostA 22 = [2089692872, 1292016174, 426930743, 2466888746] ∧
    ketamaPts hostB 17 = [1292016174, 2460339679, 2050106470, 3602965539] := by
  decide +kernel

theorem C14_D17_collide : Collide (cfgOf false) ketamaPts epA epB 1292016174 := by
  refine ⟨by decide, ?_, ?_⟩
  · simp only [ptsOf, allPts, List.mem_flatMap, List.mem_range]
    exact ⟨22, by decide, by rw [show epA.host = hostA from rfl, C14_D17_points.1]; decide⟩
  · simp only [ptsOf, allPts, List.mem_flatMap, List.mem_range]
    exact ⟨17, by decide, by rw [show epB.host = hostB from rfl, C14_D17_points.2]; decide⟩

/-- D17 on the real point function: the set `{10.0.0.160, 10.0.3.248}` routes some key to
    different hosts depending on the order of installation -/
theorem C14_D17_witness :
    ∃ ops1 ops2 : List (Op (List Nat)), OverU [epA, epB] ops1 ∧ OverU [epA, epB] ops2 ∧
      SameSet (setAfter [] ops1) (setAfter [] ops2) ∧
      ∃ k, findInt32 (ringAfter ketamaPts false ops1) k ≠ findInt32 (ringAfter ketamaPts false ops2) k :=
  C14_collision_history_dependent ketamaPts false epA epB 1292016174 C14_D17_collide

/-- the property's first clauses at full strength (no `NoCollision`), for the ring as deployed
    (Ketama, `enableWeight = false`) -/
def C14_full : Prop :=
  ∀ (U : List (Ep (List Nat))), HostsInj U →
  ∀ (ops1 ops2 : List (Op (List Nat))), OverU U ops1 → OverU U ops2 →
    SameSet (setAfter [] ops1) (setAfter [] ops2) →
    ∀ k, findInt32 (ringAfter ketamaPts false ops1) k = findInt32 (ringAfter ketamaPts false ops2) k

/-- …which the code as found does not satisfy -/
theorem C14_full_refuted : ¬ C14_full := by
  intro h
  obtain ⟨ops1, ops2, h1, h2, hs, k, hk⟩ := C14_D17_witness
  apply hk
  apply h [epA, epB] _ ops1 ops2 h1 h2 hs k
  unfold HostsInj; decide

/-! ## The repaired ring (`pending/C14-conhash-collision.patch`): the clauses at FULL strength

`Model/ConHashFix.lean` mirrors the patched functions.  No `NoCollision`, no universe: the
selector remembers its endpoints, a shared point goes to the claimant with the least hash key
(`hlt` = Go's `<` on the keys, any strict total order), `Remove` rebuilds.  The current set is the
list of endpoints `epsAfter [] ops` (first `Add`/`Refresh` of a host wins, `Remove` is by host). -/

/-- the repaired ring after a history -/
abbrev fixAfter (hlt : H → H → Bool) (pts : H → Nat → List Nat) (ew : Bool) (ops : List (Op H)) : ConHashFix.RingF H :=
  ConHashFix.run hlt pts (ConHashFix.RingF.new ew) ops

/-- repaired: the remembered endpoints are the specification-level set, for every history -/
theorem C14_fix_set (hlt : H → H → Bool) (ho : ConHashFix.StrictTotal hlt) (pts : H → Nat → List Nat) (ew : Bool)
    (ops : List (Op H)) : (fixAfter hlt pts ew ops).mapValues = ConHashFix.epsAfter [] ops :=
  (ConHashFix.good_run_new ho pts ew ops).2

/-- repaired: lookup specification for every history and every point function (collisions allowed):
    the holder — least hash key among the claimants — of the clockwise successor of the key -/
theorem C14_fix_lookup_spec (hlt : H → H → Bool) (ho : ConHashFix.StrictTotal hlt) (pts : H → Nat → List Nat) (ew : Bool)
    (ops : List (Op H)) (k : Nat) :
    (∀ e, ConHashFix.OwnerF hlt (cfgOf ew) pts (ConHashFix.epsAfter [] ops) k e →
        ConHashFix.findInt32 (fixAfter hlt pts ew ops) k = .ep e) ∧
    ((∀ p, ¬ ConHashFix.IsPointS (cfgOf ew) pts (ConHashFix.epsAfter [] ops) p) →
        ConHashFix.findInt32 (fixAfter hlt pts ew ops) k = .notFound) ∧
    ((∃ p, ConHashFix.IsPointS (cfgOf ew) pts (ConHashFix.epsAfter [] ops) p) →
        ∃ e, ConHashFix.OwnerF hlt (cfgOf ew) pts (ConHashFix.epsAfter [] ops) k e) := by
  rw [← C14_fix_set hlt ho pts ew ops]
  exact ((ConHashFix.good_run_new ho pts ew ops).1.tracks ho).lookup_spec k

/-- repaired: C14's history independence WITHOUT any collision hypothesis: two arbitrary histories
    that reach the same set of endpoints answer every key alike -/
theorem C14_fix_pure (hlt : H → H → Bool) (ho : ConHashFix.StrictTotal hlt) (pts : H → Nat → List Nat) (ew : Bool)
    (ops1 ops2 : List (Op H))
    (hset : ConHashFix.SameEps (ConHashFix.epsAfter [] ops1) (ConHashFix.epsAfter [] ops2)) (k : Nat) :
    ConHashFix.findInt32 (fixAfter hlt pts ew ops1) k = ConHashFix.findInt32 (fixAfter hlt pts ew ops2) k := by
  obtain ⟨hg1, hm1⟩ := ConHashFix.good_run_new ho pts ew ops1
  obtain ⟨hg2, hm2⟩ := ConHashFix.good_run_new ho pts ew ops2
  exact hg1.findInt32_congr ho hg2 (hm1 ▸ hm2 ▸ hset) k

/-- repaired: `Remove` re-routes only the keys of the removed host (whatever weight is passed) -/
theorem C14_fix_remove_min (hlt : H → H → Bool) (ho : ConHashFix.StrictTotal hlt) (pts : H → Nat → List Nat) (ew : Bool)
    (ops : List (Op H)) (ep : Ep H) (k : Nat) (e : Ep H)
    (hbefore : ConHashFix.findInt32 (fixAfter hlt pts ew ops) k = .ep e) (hne : e.host ≠ ep.host) :
    ConHashFix.findInt32 (ConHashFix.step hlt pts (fixAfter hlt pts ew ops) (.remove ep)) k = .ep e := by
  have hg := (ConHashFix.good_run_new ho pts ew ops).1
  obtain ⟨hg', hm'⟩ := ConHashFix.step_spec ho pts hg (.remove ep)
  refine hg.shrink ho hg' (fun x hx => ?_) hbefore (fun he => ?_) <;> rw [hm', ConHashFix.mem_epsStep_remove] at *
  · exact hx.1
  · exact ⟨he, hne⟩

/-- repaired: `Add` moves keys only onto the new endpoint -/
theorem C14_fix_add_min (hlt : H → H → Bool) (ho : ConHashFix.StrictTotal hlt) (pts : H → Nat → List Nat) (ew : Bool)
    (ops : List (Op H)) (ep : Ep H) (k : Nat) :
    ConHashFix.findInt32 (ConHashFix.step hlt pts (fixAfter hlt pts ew ops) (.add ep)) k =
        ConHashFix.findInt32 (fixAfter hlt pts ew ops) k ∨
    ConHashFix.findInt32 (ConHashFix.step hlt pts (fixAfter hlt pts ew ops) (.add ep)) k = .ep ep := by
  have hg := (ConHashFix.good_run_new ho pts ew ops).1
  obtain ⟨hg', hm'⟩ := ConHashFix.step_spec ho pts hg (.add ep)
  refine hg.grow ho hg' ep (fun x hx => ?_) (fun x hx => ?_) k <;> rw [hm', ConHashFix.mem_epsStep_add] at *
  · exact Or.inl hx
  · exact hx.imp_right And.left

/-- repaired, on the D17 hosts: both installation orders of 10.0.0.160 / 10.0.3.248 route every
    key alike (Go's string order on the host bytes) -/
theorem C14_fix_D17 (k : Nat) :
    ConHashFix.findInt32 (fixAfter ConHashFix.bytesLt ketamaPts false [.refresh [epA, epB]]) k =
    ConHashFix.findInt32 (fixAfter ConHashFix.bytesLt ketamaPts false [.refresh [epB, epA]]) k := by
  apply C14_fix_pure ConHashFix.bytesLt ConHashFix.bytesLt_strictTotal
  have a : ConHashFix.epsAfter [] [Op.refresh [epA, epB]] = [epA, epB] := by decide
  have b : ConHashFix.epsAfter [] [Op.refresh [epB, epA]] = [epB, epA] := by decide
  intro e; rw [a, b]; simp only [List.mem_cons, List.not_mem_nil, or_false]; exact Or.comm

/-- the hypothesis `StrictTotal` is satisfiable: Go's `<` on strings -/
example : ConHashFix.StrictTotal ConHashFix.bytesLt := ConHashFix.bytesLt_strictTotal

/-! ## Mod-hash -/

/-- mod-hash sends code `h` to slot `h mod N` of the installed endpoint list `l = listAfter [] ops`
    (insertion order of the history), and, when static weights apply and the weighted cycle
    `c = build l` is non-empty, to `l[c[h mod |c|]]`; an empty list is the error result.  `build`
    is the cycle builder (`selector.BuildStaticWeightList`, C13), only assumed to map `[]` to `[]`. -/
theorem C14_modhash (build : List (Ep H) → List Nat) (hb : build [] = []) (ew : Bool) (ops : List (Op H)) (code : Nat) :
    (ModHash.run build (ModHash.new ew) ops).endpoints = listAfter [] ops ∧
    (listAfter [] ops = [] → (ModHash.run build (ModHash.new ew) ops).select code = .err) ∧
    (listAfter [] ops ≠ [] → (ew = false ∨ build (listAfter [] ops) = []) →
      (ModHash.run build (ModHash.new ew) ops).select code = slot (listAfter [] ops) (code % (listAfter [] ops).length)) ∧
    (listAfter [] ops ≠ [] → ew = true → ∀ (hc : build (listAfter [] ops) ≠ []),
      (ModHash.run build (ModHash.new ew) ops).select code =
        slot (listAfter [] ops) ((build (listAfter [] ops))[code % (build (listAfter [] ops)).length]'(
          Nat.mod_lt _ (List.length_pos_iff.2 hc)))) := by
  obtain ⟨⟨_, hcache⟩, hl⟩ := run_spec build ops (MInv.new (H := H) build ew hb)
  have hl' : (ModHash.run build (ModHash.new ew) ops).endpoints = listAfter [] ops := hl
  rw [hl'] at hcache
  refine ⟨hl', fun hnil => select_of_nil (hl'.trans hnil), fun hne hcase => ?_, fun hne hewt hc => ?_⟩
  · exact select_of_cache_nil hl' hne (hcache.trans (by rcases hcase with h | h <;> simp [h]))
  · exact select_of_cache hl' (hcache.trans (if_pos hewt)) hne hc

/-- mod-hash, unlike the ring, follows the ORDER of its list: `Remove b` then `Add b` moves `b` to
    the end, so the same set routes code 1 differently.  This is why a client that wants two
    holders of the same set to agree must re-`Refresh` the mod-hash selector with the canonically
    ordered list whenever the set changes (the endpoint manager orders by crc32 of the key; its
    `addAliveEp` as found only `Add`s — finding D25 of DESIGN.md, harness stream `mgr`).
    The selector state is a value: nothing a caller does to the list it passed to `Refresh` can
    change it afterwards (harness stream `alias` holds the Go code to that). -/
theorem C14_modhash_order_dependent :
    let e : Nat → Ep Nat := fun h => ⟨h, 0⟩
    let build : List (Ep Nat) → List Nat := fun _ => []
    (ModHash.run build (ModHash.new false) [.refresh [e 1, e 2, e 3]]).select 1 = .ep (e 2) ∧
    (ModHash.run build (ModHash.new false) [.refresh [e 1, e 2, e 3], .remove (e 2), .add (e 2)]).select 1 = .ep (e 3) ∧
    (ModHash.run build (ModHash.new false) [.refresh [e 1, e 2, e 3], .remove (e 2), .add (e 2), .refresh [e 1, e 2, e 3]]).select 1 = .ep (e 2) := by
  decide

/-! ## The hash code in the call context survives the other per-call options -/

/-- whatever sequence of per-call options is applied to a client context — `SetClientHash`,
    `SetClientTimeout`, `SetServerIPWithContext`, `SetServerPortWithContext`, in any order, any
    number of times — `GetClientHash` reports the LAST hash that was set (and `isHash = true`), or,
    if none was set, what the context held before; likewise for the timeout.  In particular a hash
    set before a timeout is still there. -/
theorem C14_hash_survives_other_options (cc : ClientCurrent) (ops : List CtxOp) :
    getClientHash (applyCtxOps (some cc) ops) =
      (match lastHash ops with
       | some (t, c) => (true, t, c, true)
       | none => (true, cc.hashType, cc.hashCode, cc.isHash)) ∧
    getClientTimeout (applyCtxOps (some cc) ops) =
      (match lastTimeout ops with
       | some ms => (true, ms, true)
       | none => (true, cc.timeout, cc.isTimeout)) := by
  induction ops generalizing cc with
  | nil => exact ⟨rfl, rfl⟩
  | cons op ops ih =>
    obtain ⟨cc', h, hh, ht⟩ := applyCtxOp_some cc op
    rw [applyCtxOps, List.foldl_cons, h]
    refine ⟨(ih cc').1.trans ?_, (ih cc').2.trans ?_⟩
    · cases hl : lastHash ops with
      | some x => simp only [lastHash, hl]
      | none => simp only [lastHash, hl]; cases op <;> exact hh
    · cases hl : lastTimeout ops with
      | some x => simp only [lastTimeout, hl]
      | none => simp only [lastTimeout, hl]; cases op <;> exact ht

/-- hence a call whose context was given a hash and, afterwards, any other options is routed by
    that hash (decision of `SelectAdapterProxy` on the message `TarsInvoke` builds) -/
theorem C14_ctx_routing_after_other_options (ops : List CtxOp) (t : Int) (c : Nat) (h : lastHash ops = some (t, c)) :
    msgOfCtx (applyCtxOps (some newClientCurrent) ops) = ⟨true, t, c⟩ := by
  have := (C14_hash_survives_other_options newClientCurrent ops).1
  rw [h] at this
  simp only [msgOfCtx, this]
  rfl

/-- the extractor found every setter of clientcurrent.go writing only fields of its own (no
    whole-struct assignment; a field shared by several setters is only ever written with `|=` / `&^=`) -/
theorem C14_ctx_setters_anchor : Consts.conHashCtxSettersDisjoint = 1 := by decide

example : lastHash [.hash 1 77, .timeout 3000, .serverIP "x"] = some (1, 77) := by decide

/-! ## Weight type in force -/

/-- helper-free statement of the loop: it ends `true` iff it started `true` and every element equals `lastType` -/
theorem C14_sameTypeLoop_spec (lastType : Int) (ts : List Int) (b : Bool) :
    sameTypeLoop lastType ts b = (b && ts.all (· == lastType)) := by
  induction ts generalizing b with
  | nil => simp [sameTypeLoop]
  | cons t ts ih =>
    simp only [sameTypeLoop, ih, List.all_cons]
    by_cases h : t = lastType
    · subst h; simp
    · simp [h]

/-- the weight type `updateActiveEp` puts in force for a non-empty endpoint list is
    `effectiveWeightType` of that list — the common `WeightType`, `ELoop` when they differ — and
    does NOT depend on the weight type that was in force before: two managers handed the same
    registry answer build their selectors with the same `enableWeight`, whatever they saw earlier. -/
theorem C14_weight_type_pure (types : List Int) (hne : types ≠ []) (prev prev' : Int) :
    updateWeightType prev types = effectiveWeightType types ∧
    updateWeightType prev types = updateWeightType prev' types ∧
    enableWeight (updateWeightType prev types) = enableWeight (updateWeightType prev' types) := by
  cases types with
  | nil => exact absurd rfl hne
  | cons t ts =>
    have h : ∀ prev, updateWeightType prev (t :: ts) = effectiveWeightType (t :: ts) := fun prev => by
      simp only [updateWeightType, effectiveWeightType, C14_sameTypeLoop_spec, List.all_cons, Bool.true_and]
      simp
    exact ⟨h prev, (h prev).trans (h prev').symm, by rw [h prev, h prev']⟩

/-- the extractor found the shape the model mirrors (`e.weightType = endpoint.ELoop` unconditionally
    before `if sameType`, or the equivalent `else` branch); without it this file does not build -/
theorem C14_weight_type_anchor : Consts.conHashWtResetBeforeSameType = 1 ∧
    Consts.conHashWtELoop ≠ Consts.conHashWtEStaticWeight := by decide

/-- instances: all static ⇒ static weights apply; a loop endpoint among them, or all loop ⇒ they do not -/
example : enableWeight (updateWeightType 0 [1, 1, 1]) = true ∧ enableWeight (updateWeightType 1 [1, 1, 0]) = false ∧
    enableWeight (updateWeightType 1 [0, 0]) = false := by decide

/-! ## A call with a hash code in its context -/

/-- the hash-type enumerations of `tars` (message.go) and `tars/selector` agree
    (`Message.HashType()` converts one into the other by value) -/
theorem C14_hashtype_enums_agree :
    Consts.conHashMsgModHash = Consts.conHashSelModHash ∧
    Consts.conHashMsgConsistentHash = Consts.conHashSelConsistentHash ∧
    Consts.conHashMsgModHash ≠ Consts.conHashMsgConsistentHash := by decide

omit [DecidableEq H] in
/-- decision logic of `SelectAdapterProxy` for a call whose context was given a hash code with
    `current.SetClientHash(ctx, ty, code)`: with endpoints known and no adapter queued for a probe,
    the consistent-hash selector is asked for `code` iff `ty = ConsistentHash`, the mod-hash selector
    iff `ty = ModHash`, and every other type falls through to round robin; a selector error leads
    to the random fallback (registry mode) or to no adapter (direct mode). -/
theorem C14_ctx_routing (directProxy : Bool) (nEp nEpf : Nat)
    (hne : (directProxy && nEp == 0) = false) (hnf : (!directProxy && nEpf == 0) = false)
    (cc : ClientCurrent) (ty : Int) (code : Nat)
    (conHash : Nat → Found H) (modHash : Nat → Sel H) (roundRobin : Sel H) :
    selectAdapterProxy directProxy nEp nEpf false (msgOfCtx (setClientHash (some cc) ty code).1)
        conHash modHash roundRobin =
      (if ty = (Consts.conHashMsgConsistentHash : Int) then Route.ofFound directProxy (conHash code)
       else if ty = (Consts.conHashMsgModHash : Int) then Route.ofSel directProxy (modHash code)
       else Route.ofSel directProxy roundRobin) := by
  unfold selectAdapterProxy strategy
  -- as opaque values `simp` does not evaluate the casts; all that is used of them is `c0 ≠ c1`, got below from `h1`
  generalize ((Consts.conHashMsgConsistentHash : Nat) : Int) = c1
  generalize ((Consts.conHashMsgModHash : Nat) : Int) = c0
  simp only [hne, hnf, msgOfCtx, setClientHash, getClientHash]
  by_cases h1 : ty = c1
  · simp [h1]
  · by_cases h2 : ty = c0
    · have h3 : ¬ c0 = c1 := h2 ▸ h1
      simp [h2, h3]
    · simp [h1, h2]

omit [DecidableEq H] in
/-- a call without a hash code in its context (fresh `ClientCurrent`, or none at all) is routed by
    round robin -/
theorem C14_ctx_no_hash (directProxy : Bool) (nEp nEpf : Nat)
    (hne : (directProxy && nEp == 0) = false) (hnf : (!directProxy && nEpf == 0) = false)
    (conHash : Nat → Found H) (modHash : Nat → Sel H) (roundRobin : Sel H) :
    selectAdapterProxy directProxy nEp nEpf false (msgOfCtx (some newClientCurrent)) conHash modHash roundRobin
      = Route.ofSel directProxy roundRobin ∧
    selectAdapterProxy directProxy nEp nEpf false (msgOfCtx none) conHash modHash roundRobin
      = Route.ofSel directProxy roundRobin := by
  simp [selectAdapterProxy, hne, hnf, msgOfCtx, getClientHash, newClientCurrent, strategy]

/-- end to end on the model: a call with `SetClientHash(ctx, ConsistentHash, code)` is handed the
    adapter of the endpoint that owns the clockwise successor of `code` on the current set,
    whatever history produced the set -/
theorem C14_ctx_conhash_route (pts : H → Nat → List Nat) (ew : Bool) (U : List (Ep H))
    (hU : HostsInj U) (hnc : NoCollision (cfgOf ew) pts U)
    (ops : List (Op H)) (hops : OverU U ops)
    (directProxy : Bool) (nEp nEpf : Nat)
    (hne : (directProxy && nEp == 0) = false) (hnf : (!directProxy && nEpf == 0) = false)
    (cc : ClientCurrent) (code : Nat) (e : Ep H)
    (hown : Owner (cfgOf ew) pts U (setAfter [] ops) code e)
    (modHash : Nat → Sel H) (roundRobin : Sel H) :
    selectAdapterProxy directProxy nEp nEpf false
        (msgOfCtx (setClientHash (some cc) (Consts.conHashMsgConsistentHash : Int) code).1)
        (select (ringAfter pts ew ops)) modHash roundRobin = .selected e := by
  rw [C14_ctx_routing directProxy nEp nEpf hne hnf]
  simp only [↓reduceIte, select]
  rw [(C14_lookup_spec pts ew U hU hnc ops hops code).1 e hown]
  rfl

/-! ## Non-vacuity: concrete instances of the hypotheses -/

section NonVacuity

/-- a toy point function: host `h` owns the points `1000·h + i` -/
def toyPts (h : Nat) (i : Nat) : List Nat := [1000 * h + i]
def toyU : List (Ep Nat) := [⟨1, 0⟩, ⟨2, 0⟩, ⟨3, 0⟩]

example : HostsInj toyU := by unfold HostsInj toyU; decide
example : NoCollision (cfgOf false) toyPts toyU := by
  intro e1 _ e2 _ hne p hp1 hp2
  -- a point names its host: `p / 1000`
  have key : ∀ e : Ep Nat, p ∈ ptsOf (cfgOf false) toyPts e → p / 1000 = e.host := by
    intro e hp
    simp only [ptsOf, allPts, toyPts, List.mem_flatMap, List.mem_range, List.mem_singleton] at hp
    obtain ⟨i, hi, rfl⟩ := hp
    -- `enableWeight = false`: `conHashVirtualNodes / conHashWeightDiv` = 100 / 4 virtual nodes, so `i < 25 < 1000`
    have : weight (cfgOf false) e.weight = 25 := by simp [weight]
    rw [this] at hi
    omega
  exact hne ((key e1 hp1).symm.trans (key e2 hp2))
example : OverU toyU [.refresh [⟨2, 0⟩, ⟨1, 0⟩], .remove ⟨2, 0⟩, .add ⟨3, 0⟩, .add ⟨3, 0⟩] := by
  unfold OverU toyU; decide
set_option maxRecDepth 100000 in
/-- real hosts, one virtual node each (`enableWeight`, weight 4): no collision -/
example : NoCollision (cfgOf true) ketamaPts [⟨hostA, 4⟩, ⟨hostB, 4⟩] := by
  unfold NoCollision; decide +kernel
/-- the hypotheses of `C14_ctx_routing` -/
example : (true && (2 : Nat) == 0) = false ∧ (!true && (0 : Nat) == 0) = false := by decide
/-- the toy ring routes the ring point 2007 to host 2 -/
example : findInt32 (ringAfter toyPts false [.refresh toyU]) 2007 = .ep ⟨2, 0⟩ :=
  findInt32_at_point (InvK_run_new toyPts false _) (by decide +kernel)

end NonVacuity

end Tars.C14
