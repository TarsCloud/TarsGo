import TarsModel.Proofs.ConfGet
import TarsModel.Proofs.ConfPath
import TarsModel.Proofs.ConfTotal

/-!
# C17 — Config parser: complete and exact, or an error, never silently partial

Property theorems only.  They are about `Model/Conf.lean`, the model of `tars/util/conf/conf.go`
from the token stream of `encoding/xml` on.  `Variant.repaired` is conf.go with
`pending/C17-return-parse-errors.patch` (the behaviour the check expects of the tree);
`Variant.asFound` is conf.go as found, kept for the counterexample theorems (defects D7, D21).

* "for all documents generated from the config grammar": `d : Doc` (= `List Item`, nested domains,
  key/value lines, comments, blank lines, arbitrary blanks, duplicates of keys and of domains,
  lines of any length) with `wfL d` (the side conditions of the grammar on blanks, keys, values)
  and `NoClash d` (within one merged domain no key is named like a sub-domain — the stated
  boundary, see `C17_name_clash_*`).  `tokensL d` is the token stream of the document; that Go's
  `xml.Decoder` returns exactly `tokensL d` (and then `io.EOF`) on `renderL d` is not a theorem
  (the tokenizer is outside the model) but checked by the harness on every generated document.
* a domain is addressed by the list of its names `p`; `descend d p = some b` gives the merged
  items `b` of that domain, `entriesOf b` / `linesOf b` / `domsOf b` what is written directly in
  it.  `C17_path_*` connect name lists with the path strings `/a/b<key>` of the getters and state
  which names a path string can spell.
* "all byte strings": every `Stream` (token list + how the stream ended), see `C17_all_or_error`,
  `C17_no_panic`, `C17_bytes`.
-/
namespace Tars.Conf
open Tars

/-- the literal constants of conf.go the model is built on (regenerated from the source on every
    run): trim set `" \n\t"`, `'#'`, `SplitN(line, "=", 2)`, the path meta characters, Node/Leaf -/
theorem C17_consts :
    trimSet = [byte 32, byte 10, byte 9] ∧ Consts.confTrimLen = 3 ∧ Consts.confTrimCalls = 3 ∧
    hashCh = byte 35 ∧ eqCh = byte 61 ∧ Consts.confSplitN = 2 ∧
    slashCh = byte 47 ∧ ltCh = byte 60 ∧ gtCh = byte 62 ∧ Consts.confPathPairLen = 2 ∧
    Consts.confKindNode = 0 ∧ Consts.confKindLeaf = 1 := by decide +kernel

/-! ## Complete and exact on every grammar document -/

/-- every grammar document is accepted -/
theorem C17_accepts (d : Doc) (hwf : wfL d = true) :
    ∃ t, initFromTokens .repaired ⟨tokensL d, false⟩ = .ok t :=
  ⟨_, parsed_repaired d hwf⟩

/-- every key of every domain is retrievable with exactly its value; later duplicates win:
    the value is that of the last entry for the key among all entries of the (merged) domain -/
theorem C17_complete (d : Doc) (hwf : wfL d = true) (hc : NoClash d) (t : Elem)
    (ht : initFromTokens .repaired ⟨tokensL d, false⟩ = .ok t)
    (p : List Txt) (b : List Item) (hd : descend d p = some b)
    (es1 : List (Txt × Txt)) (k v : Txt) (es2 : List (Txt × Txt))
    (he : entriesOf b = es1 ++ (k, v) :: es2) (hlast : k ∉ es2.map Prod.fst) :
    getValueV t (p ++ [k]) = some v := by
  obtain ⟨N, hg, hN⟩ := parsed_node d hwf hc t ht p b hd
  exact getValueV_key hg (hN.key k v ((lastVal_iff_decomp _ k v).mpr ⟨es1, es2, he, hlast⟩))

/-- `C17_complete` and the listing theorems below are not vacuous: a document with a repeated
    (merged) domain, blanks, a comment, a duplicate key and a value containing `=` -/
def exampleDoc : Doc :=
  [ .dom [byte 97] [ .text ⟨[ .blank [], .kv [byte 32] [byte 107] [byte 32] (some ([byte 9], [byte 49])) [byte 32],
                               .comment [] [byte 107, byte 61, byte 50] ], [byte 32]⟩,
                      .dom [byte 98] [ .text ⟨[.kv [] [byte 120] [] none []], []⟩ ] ],
    .text ⟨[.blank []], []⟩,
    .dom [byte 97] [ .text ⟨[.kv [] [byte 107] [] (some ([], [byte 50, byte 61, byte 51])) []], []⟩ ] ]

example : wfL exampleDoc = true := by decide +kernel
example : descend exampleDoc [[byte 97]] ≠ none ∧ descend exampleDoc [[byte 97], [byte 98]] ≠ none := by decide +kernel
example : (descend exampleDoc [[byte 97]]).map entriesOf
    = some [([byte 107], [byte 49]), ([byte 107], [byte 50, byte 61, byte 51])] := by decide +kernel
example : NoClash exampleDoc := by
  -- level by level: the document, its merged domain `a`, and `a/b`, which has no sub-domain
  have hb : NoClash [.text ⟨[.kv [] [byte 120] [] none []], []⟩] :=
    (noClash_iff _).mpr ⟨by decide +kernel, fun _ hn => nomatch hn⟩
  have ha : NoClash (bodyOf [byte 97] exampleDoc) := by
    refine (noClash_iff _).mpr ⟨by decide +kernel, fun n hn => ?_⟩
    obtain rfl : n = [byte 98] := List.mem_singleton.mp hn
    exact hb
  refine (noClash_iff _).mpr ⟨by decide +kernel, fun n hn => ?_⟩
  obtain rfl : n = [byte 97] := by simpa using (show n ∈ [[byte 97], [byte 97]] from hn)
  exact ha

/-- `GetDomainKey`: exactly the keys written in the domain, each once -/
theorem C17_listing_keys (d : Doc) (hwf : wfL d = true) (hc : NoClash d) (t : Elem)
    (ht : initFromTokens .repaired ⟨tokensL d, false⟩ = .ok t)
    (p : List Txt) (b : List Item) (hd : descend d p = some b) :
    ∃ ks, getDomainKeyV t p = some ks ∧ ks.Nodup ∧ ∀ x, x ∈ ks ↔ x ∈ keysOf b := by
  obtain ⟨N, hg, hN⟩ := parsed_node d hwf hc t ht p b hd
  exact ⟨_, by rw [getDomainKeyV, hg]; rfl, hN.listing_nodup _, hN.keys⟩

/-- `GetDomain`: exactly the sub-domains written in the domain, each once -/
theorem C17_listing_domains (d : Doc) (hwf : wfL d = true) (hc : NoClash d) (t : Elem)
    (ht : initFromTokens .repaired ⟨tokensL d, false⟩ = .ok t)
    (p : List Txt) (b : List Item) (hd : descend d p = some b) :
    ∃ ds, getDomainV t p = some ds ∧ ds.Nodup ∧ ∀ x, x ∈ ds ↔ x ∈ domsOf b := by
  obtain ⟨N, hg, hN⟩ := parsed_node d hwf hc t ht p b hd
  exact ⟨_, by rw [getDomainV, hg]; rfl, hN.listing_nodup _, hN.doms⟩

/-- `GetDomainLine`: exactly the written key/value lines (surrounding blanks removed; comments
    and blank lines are not lines), in document order -/
theorem C17_listing_lines (d : Doc) (hwf : wfL d = true) (hc : NoClash d) (t : Elem)
    (ht : initFromTokens .repaired ⟨tokensL d, false⟩ = .ok t)
    (p : List Txt) (b : List Item) (hd : descend d p = some b) :
    getDomainLineV t p = some (linesOf b) := by
  obtain ⟨N, hg, hN⟩ := parsed_node d hwf hc t ht p b hd
  rw [getDomainLineV, hg, Option.map_some, hN.line]

/-- `GetMap`: exactly the written keys, each once, each with the value of its last entry -/
theorem C17_listing_map (d : Doc) (hwf : wfL d = true) (hc : NoClash d) (t : Elem)
    (ht : initFromTokens .repaired ⟨tokensL d, false⟩ = .ok t)
    (p : List Txt) (b : List Item) (hd : descend d p = some b) :
    ∃ m, getMapV t p = some m ∧ (m.map Prod.fst).Nodup ∧
      ∀ k v, (k, v) ∈ m ↔ ∃ es1 es2, entriesOf b = es1 ++ (k, v) :: es2 ∧ k ∉ es2.map Prod.fst := by
  obtain ⟨N, hg, hN⟩ := parsed_node d hwf hc t ht p b hd
  refine ⟨_, by rw [getMapV, hg]; rfl, ?_, fun k v => (hN.map k v).trans (lastVal_iff_decomp _ k v)⟩
  rw [List.map_map]; exact hN.listing_nodup _

/-- a path that is not a domain of the document: all listings are empty (`[]string{}`, empty map) -/
theorem C17_listing_absent_domain (d : Doc) (hwf : wfL d = true) (hc : NoClash d) (t : Elem)
    (ht : initFromTokens .repaired ⟨tokensL d, false⟩ = .ok t)
    (p : List Txt) (hp : ∀ n ∈ p, pathName n = true) (hd : descend d p = none) :
    GetDomain t (domPath p) = [] ∧ GetDomainKey t (domPath p) = [] ∧
    GetDomainLine t (domPath p) = [] ∧ GetMap t (domPath p) = [] := by
  have h := parsed_at d hwf hc t ht p
  rw [hd] at h
  simp only [GetDomain, GetDomainKey, GetDomainLine, GetMap, analysisPath_domPath p hp,
    getDomainV, getDomainKeyV, getDomainLineV, getMapV]
  cases hg : getElem t p with
  | none => exact ⟨rfl, rfl, rfl, rfl⟩
  | some e => obtain ⟨h1, h2⟩ := h e hg; simp [h1, h2]

example : descend exampleDoc [[byte 99]] = none ∧ pathName [byte 99] = true := by decide +kernel

/-! ## Getters through path strings: the written value, or the supplied default -/

/-- `/n1/…/nk<key>` is read as the key `key` of the domain `[n1, …, nk]`, for every name a path
    string can spell: non-empty, no `/`, no `<`; the key moreover without `>` at either end.
    (Other keys are reachable through `GetMap` / `GetDomainKey` only — boundary of the path syntax.) -/
theorem C17_path_key (p : List Txt) (k : Txt) (hp : ∀ n ∈ p, pathName n = true) (hk : pathKey k = true) :
    analysisPath (keyPath p k) = p ++ [k] := analysisPath_keyPath p k hp hk

/-- `/n1/…/nk` is read as the domain `[n1, …, nk]` -/
theorem C17_path_dom (p : List Txt) (hp : ∀ n ∈ p, pathName n = true) : analysisPath (domPath p) = p :=
  analysisPath_domPath p hp

example : pathName [byte 97] = true ∧ pathKey [byte 107, byte 62, byte 49] = true := by decide +kernel
/-- boundary witness: the key `a/b` of domain `d` cannot be spelled (`/d<a/b>` reads `[d<a, b>]`) -/
example : analysisPath (keyPath [[byte 100]] [byte 97, byte 47, byte 98]) ≠ [[byte 100], [byte 97, byte 47, byte 98]] := by
  decide +kernel

/-- present key: `GetString…` returns the written value, the typed getters the `strconv` value of
    the written string, or the supplied default when it is malformed -/
theorem C17_getters_present (d : Doc) (hwf : wfL d = true) (hc : NoClash d) (t : Elem)
    (ht : initFromTokens .repaired ⟨tokensL d, false⟩ = .ok t)
    (p : List Txt) (b : List Item) (hd : descend d p = some b) (hp : ∀ n ∈ p, pathName n = true)
    (es1 : List (Txt × Txt)) (k v : Txt) (es2 : List (Txt × Txt)) (hk : pathKey k = true)
    (he : entriesOf b = es1 ++ (k, v) :: es2) (hlast : k ∉ es2.map Prod.fst) :
    (∀ dflt, GetStringWithDef t (keyPath p k) dflt = v) ∧ GetString t (keyPath p k) = v ∧
    (∀ dflt, GetIntWithDef t (keyPath p k) dflt = (parseIntBits 64 v).getD dflt) ∧
    GetInt t (keyPath p k) = (parseIntBits 64 v).getD 0 ∧
    (∀ dflt, GetInt32WithDef t (keyPath p k) dflt = (parseIntBits 32 v).getD dflt) ∧
    (∀ dflt, GetBoolWithDef t (keyPath p k) dflt = (parseBool v).getD dflt) ∧
    (∀ (F : Type) (parseFloat : Txt → Option F) dflt,
      GetFloatWithDef parseFloat t (keyPath p k) dflt = (parseFloat v).getD dflt) := by
  exact getters_of_value t (keyPath p k) _ (some v) (analysisPath_keyPath p k hp hk)
    (C17_complete d hwf hc t ht p b hd es1 k v es2 he hlast)

/-- absent key: every getter returns the supplied default -/
theorem C17_getters_absent (d : Doc) (hwf : wfL d = true) (hc : NoClash d) (t : Elem)
    (ht : initFromTokens .repaired ⟨tokensL d, false⟩ = .ok t)
    (p : List Txt) (b : List Item) (hd : descend d p = some b) (hp : ∀ n ∈ p, pathName n = true)
    (k : Txt) (hk : pathKey k = true) (hnk : k ∉ keysOf b) (hnd : k ∉ domsOf b) :
    (∀ dflt, GetStringWithDef t (keyPath p k) dflt = dflt) ∧ GetString t (keyPath p k) = [] ∧
    (∀ dflt, GetIntWithDef t (keyPath p k) dflt = dflt) ∧ GetInt t (keyPath p k) = 0 ∧
    (∀ dflt, GetInt32WithDef t (keyPath p k) dflt = dflt) ∧
    (∀ dflt, GetBoolWithDef t (keyPath p k) dflt = dflt) ∧
    (∀ (F : Type) (parseFloat : Txt → Option F) dflt, GetFloatWithDef parseFloat t (keyPath p k) dflt = dflt) := by
  obtain ⟨N, hg, hN⟩ := parsed_node d hwf hc t ht p b hd
  exact getters_of_value t (keyPath p k) _ none (analysisPath_keyPath p k hp hk)
    (getValueV_key hg (hN.absent k hnk hnd))

example : pathName [byte 97] = true ∧ pathKey [byte 107] = true ∧
    [byte 107] ∉ keysOf exampleDoc ∧ [byte 107] ∉ domsOf exampleDoc := by decide +kernel

/-- the typed parsers are not trivial: values, malformed strings, range limits -/
example : parseIntBits 64 [byte 45, byte 55] = some (-7) ∧ parseIntBits 32 [byte 49, byte 50, byte 97] = none ∧
    parseIntBits 64 [] = none ∧ parseIntBits 64 [byte 43] = none ∧
    parseBool [byte 84] = some true ∧ parseBool [byte 116, byte 82, byte 85, byte 69] = none := by decide +kernel

/-! ## The line laws -/

/-- later duplicates win (within one domain, also across repeated instances of the domain) -/
theorem C17_last_wins (d : Doc) (hwf : wfL d = true) (hc : NoClash d) (t : Elem)
    (ht : initFromTokens .repaired ⟨tokensL d, false⟩ = .ok t)
    (p : List Txt) (b : List Item) (hd : descend d p = some b)
    (es1 : List (Txt × Txt)) (k v1 : Txt) (es2 : List (Txt × Txt)) (v2 : Txt) (es3 : List (Txt × Txt))
    (he : entriesOf b = es1 ++ (k, v1) :: es2 ++ (k, v2) :: es3) (hlast : k ∉ es3.map Prod.fst) :
    getValueV t (p ++ [k]) = some v2 :=
  C17_complete d hwf hc t ht p b hd (es1 ++ (k, v1) :: es2) k v2 es3 (by rw [he]) hlast

/-- surrounding blanks are trimmed — around the line, around the key and around the value — and
    the line is listed without its surrounding blanks -/
theorem C17_trim (pre key mid w v post : Txt) (cur : Elem)
    (hpre : isWs pre = true) (hmid : isWs mid = true) (hw : isWs w = true) (hpost : isWs post = true)
    (hkne : key ≠ []) (hkeq : eqCh ∉ key) (hke : noEdge trimSet key = true)
    (hkh : key.head? ≠ some hashCh) (hve : noEdge trimSet v = true) :
    procLine (pre ++ key ++ mid ++ eqCh :: (w ++ v) ++ post) cur
      = (cur.addLine (key ++ mid ++ eqCh :: (if v.isEmpty then [] else w ++ v))).addChild key (newLeaf key v) :=
  procLine_kv_val pre key mid w v post cur hpre hmid hw hpost hkne hkeq hke hkh hve

example : isWs [byte 32, byte 9] = true ∧ noEdge trimSet [byte 107, byte 32, byte 107] = true ∧
    eqCh ∉ [byte 107, byte 32, byte 107] := by decide +kernel

/-- the first `=` splits: a value may contain further `=` -/
theorem C17_first_eq (key v1 v2 : Txt) (cur : Elem)
    (hkne : key ≠ []) (hkeq : eqCh ∉ key) (hke : noEdge trimSet key = true)
    (hkh : key.head? ≠ some hashCh) (hve : noEdge trimSet (v1 ++ eqCh :: v2) = true) :
    procLine (key ++ eqCh :: (v1 ++ eqCh :: v2)) cur
      = (cur.addLine (key ++ eqCh :: (v1 ++ eqCh :: v2))).addChild key (newLeaf key (v1 ++ eqCh :: v2)) := by
  have := procLine_kv_val [] key [] [] (v1 ++ eqCh :: v2) [] cur rfl rfl rfl rfl hkne hkeq hke hkh hve
  simpa using this

example : noEdge trimSet ([byte 97] ++ eqCh :: [byte 98]) = true := by decide +kernel

/-- a line whose first non-blank byte is `#` is ignored: no key, no listed line — whatever follows
    the `#` (including `=`) -/
theorem C17_comment (pre text : Txt) (cur : Elem) (hpre : isWs pre = true) :
    procLine (pre ++ hashCh :: text) cur = cur :=
  procLine_comment pre text cur hpre

/-- a blank line is ignored -/
theorem C17_blank (ws : Txt) (cur : Elem) (h : isWs ws = true) : procLine ws cur = cur :=
  procLine_blank ws cur h

/-! ## All or error, never a panic -/

/-- the tokenizer reported a syntax error: `InitFromBytes` does not return success -/
theorem C17_all_or_error (root0 : Elem) (toks : List Token) (t : Elem) :
    initFrom .repaired root0 ⟨toks, true⟩ ≠ .ok t := by
  unfold initFrom
  cases run .repaired toks [⟨[], root0⟩] <;> simp

/-- no line of any text is dropped: with the repaired buffer size the scanner never fails and
    every complete line `l` of a text `a ++ l ++ "\n" ++ b` (of any length) is scanned -/
theorem C17_no_line_dropped (a l b : Txt) (ha : atLineStart a) (hnl : nlCh ∉ l) (hcr : crCh ∉ l) :
    (scanLines (scanMax .repaired (a ++ l ++ nlCh :: b)) (a ++ l ++ nlCh :: b) [] []).2 = false ∧
    l ∈ (scanLines (scanMax .repaired (a ++ l ++ nlCh :: b)) (a ++ l ++ nlCh :: b) [] []).1 :=
  scan_complete _ a l b (by simp [scanMax]) ha hnl hcr

example : atLineStart [byte 107, byte 10] := Or.inr ⟨[byte 107], rfl⟩

/-- the repaired scanner never reports `ErrTooLong`, on any text -/
theorem C17_scanner_total (text : Txt) : (scanLines (scanMax .repaired text) text [] []).2 = false := by
  obtain ⟨ls, h⟩ := scan_short (scanMax .repaired text) text [] [] (Nat.lt_succ_self _)
  rw [h]

/-- `InitFromBytes` never panics on a token stream in which no end element comes without an open
    start element (what the strict `xml.Decoder` delivers; checked by the harness on every input) -/
theorem C17_no_panic (v : Variant) (root0 : Elem) (toks : List Token) (e : Bool)
    (h : wellNested toks 0 = true) : initFrom v root0 ⟨toks, e⟩ ≠ .panic := by
  unfold initFrom
  have := run_no_panic v toks ⟨[], root0⟩ [] h
  cases hr : run v toks [⟨[], root0⟩] with
  | panic => exact absurd hr this
  | error e => simp
  | done top rest => simp only []; split <;> simp

example : wellNested [.start [byte 97], .chardata [byte 107], .fin [byte 97], .other] 0 = true := by decide +kernel

/-- the hypothesis of `C17_no_panic` is needed: an end element `</root>` at depth 0 pops the root
    and the next iteration indexes an empty `nodeStack` (unreachable through `xml.Decoder`) -/
theorem C17_panic_boundary (v : Variant) : initFromTokens v ⟨[.fin rootName], false⟩ = .panic := by
  cases v <;> rfl

/-- conf.go's own check: an end element that does not match the open node is an error -/
theorem C17_end_mismatch (v : Variant) (root0 : Elem) (n : Txt) (toks : List Token) (e : Bool)
    (h : root0.name ≠ n) : initFrom v root0 ⟨.fin n :: toks, e⟩ = .error .endMismatch := by
  simp [initFrom, run, h]

example : newRoot.name ≠ [byte 97] := by decide +kernel

/-- the token stream of every document is well nested (so `C17_no_panic` applies to it) -/
theorem C17_tokens_wellNested (d : Doc) : wellNested (tokensL d) 0 = true := by
  have := wellNested_doc.2 d [] 0
  rw [List.append_nil] at this
  rw [this]; rfl

/-- the property for `InitFromBytes := initFromTokens .repaired ∘ tk`, `tk` standing for
    `encoding/xml`: on every grammar document that `tk` tokenizes as `tokensL d` every value is
    retrievable; a tokenizer error is never turned into success; no input panics.  `C17_bytes` proves
    it.  The other clauses of the property text (listings exact, typed getters, trimming, first `=`,
    comments, last-wins) are the other theorems of this module, for every grammar document with
    `NoClash`; the two stated boundaries are the name clash (`C17_name_clash_*`) and the names a path
    string can spell (`C17_path_key`). -/
def C17_full (tk : Txt → Stream) : Prop :=
  (∀ d : Doc, wfL d = true → NoClash d → tk (renderL d) = ⟨tokensL d, false⟩ →
      ∃ t, initFromTokens .repaired (tk (renderL d)) = .ok t ∧
        ∀ p b, descend d p = some b → ∀ es1 k v es2, entriesOf b = es1 ++ (k, v) :: es2 →
          k ∉ es2.map Prod.fst → getValueV t (p ++ [k]) = some v) ∧
  (∀ input t, (tk input).err = true → initFromTokens .repaired (tk input) ≠ .ok t) ∧
  (∀ input, initFromTokens .repaired (tk input) ≠ .panic)

/-- `C17_full` holds for every tokenizer that returns well-nested tokens on every input (what the
    strict `xml.Decoder` does; assumption A2, checked by the harness on every input).  That
    `xml.Decoder` tokenizes the rendering of a grammar document as `tokensL d` (the premise of the
    first clause) is likewise checked on every generated document, not proved. -/
theorem C17_bytes (tk : Txt → Stream) (A2 : ∀ input, wellNested (tk input).toks 0 = true) : C17_full tk := by
  refine ⟨?_, ?_, ?_⟩
  · intro d hwf hc hA1
    obtain ⟨t, ht⟩ := C17_accepts d hwf
    refine ⟨t, by rw [hA1]; exact ht, ?_⟩
    intro p b hd es1 k v es2 he hl
    exact C17_complete d hwf hc t ht p b hd es1 k v es2 he hl
  · intro input t herr
    have := C17_all_or_error newRoot (tk input).toks t
    intro h; apply this
    have e : tk input = ⟨(tk input).toks, true⟩ := by rw [← herr]
    rw [e] at h; exact h
  · intro input
    exact C17_no_panic .repaired newRoot (tk input).toks (tk input).err (A2 input)

example : ∃ tk : Txt → Stream, (∀ input, wellNested (tk input).toks 0 = true) ∧
    tk (renderL exampleDoc) = ⟨tokensL exampleDoc, false⟩ :=
  ⟨fun _ => ⟨tokensL exampleDoc, false⟩, fun _ => C17_tokens_wellNested exampleDoc, rfl⟩

/-! ## The code as found (D7, D21): counterexamples, and where it is right -/

/-- D7 (witness `<a>\nk1=v1\nk2=x&y\nk3=v3\n</a>`: the tokenizer returns `<a>` and then the syntax
    error): as found `InitFromBytes` returns nil and the document is empty; repaired: an error -/
theorem C17_counterexample_D7 :
    (∃ t, initFromTokens .asFound ⟨[.start [byte 97]], true⟩ = .ok t ∧ getDomainKeyV t [[byte 97]] = some []) ∧
    initFromTokens .repaired ⟨[.start [byte 97]], true⟩ = .error .tokenizer :=
  ⟨⟨_, rfl, rfl⟩, rfl⟩

/-- D7, unclosed domain (`<a>\nk=v\n`, the tokenizer ends with "unexpected EOF") and mismatched
    end tag (`<a>\nk=v\n</b>`: the tokenizer reports it before conf.go's own check can); both
    inputs give this token stream, ended by an error: success as found, an error after the repair -/
theorem C17_counterexample_D7_unclosed :
    (∃ t, initFromTokens .asFound ⟨[.start [byte 97], .chardata [byte 10, byte 107, byte 61, byte 118, byte 10]], true⟩ = .ok t) ∧
    initFromTokens .repaired ⟨[.start [byte 97], .chardata [byte 10, byte 107, byte 61, byte 118, byte 10]], true⟩
      = .error .tokenizer := by
  exact ⟨⟨_, rfl⟩, rfl⟩

/-- D21, the scanner as found: a line of 64 KiB or more ends the scan; that line and every later
    line of the text are dropped and (in `run .asFound`) the failure is ignored -/
theorem C17_counterexample_D21 (a l b : Txt) (ha : atLineStart a) (halen : a.length < maxScanTokenSize)
    (hnl : nlCh ∉ l) (hlen : maxScanTokenSize ≤ l.length) :
    scanLines (scanMax .asFound (a ++ l ++ nlCh :: b)) (a ++ l ++ nlCh :: b) [] []
      = ((scanLines maxScanTokenSize a [] []).1, true) :=
  scan_too_long maxScanTokenSize a l b halen ha hnl hlen

example : ∃ l : Txt, nlCh ∉ l ∧ maxScanTokenSize ≤ l.length :=
  ⟨List.replicate maxScanTokenSize (byte 120), by simp [nlCh, byte], by simp⟩

/-- D21 end to end on `<a>\nk1=1\n` + long line + `\nk3=3\n</a>`: as found the parse succeeds and
    `k3` (written after the long line) is absent, `k1` is there -/
theorem C17_counterexample_D21_parse (l : Txt) (hnl : nlCh ∉ l) (hlen : maxScanTokenSize ≤ l.length) :
    ∃ t, initFromTokens .asFound
        ⟨[.start [byte 97],
          .chardata ([byte 10, byte 107, byte 49, byte 61, byte 49, byte 10] ++ l ++ nlCh :: [byte 107, byte 51, byte 61, byte 51, byte 10]),
          .fin [byte 97]], false⟩ = .ok t ∧
      getValueV t [[byte 97], [byte 107, byte 49]] = some [byte 49] ∧
      getValueV t [[byte 97], [byte 107, byte 51]] = none := by
  have hs := C17_counterexample_D21 [byte 10, byte 107, byte 49, byte 61, byte 49, byte 10] l
    [byte 107, byte 51, byte 61, byte 51, byte 10] (Or.inr ⟨[byte 10, byte 107, byte 49, byte 61, byte 49], rfl⟩)
    (by decide +kernel) hnl hlen
  have h0 : (scanLines maxScanTokenSize [byte 10, byte 107, byte 49, byte 61, byte 49, byte 10] [] []).1
      = [[], [byte 107, byte 49, byte 61, byte 49]] := by decide +kernel
  rw [h0] at hs
  refine ⟨(newRoot.addChild [byte 97] (newElem .node [byte 97])).addChild [byte 97]
    ([[], [byte 107, byte 49, byte 61, byte 49]].foldl (fun c l => procLine l c) (newElem .node [byte 97])), ?_, ?_, ?_⟩
  · simp only [initFromTokens, initFrom, run]
    rw [hs]
    rfl
  · decide +kernel
  · decide +kernel

/-- where the code as found is right: on grammar documents whose lines are all shorter than 64 KiB
    it computes the same tree as the repaired code -/
theorem C17_asfound_agrees_on_short_lines (d : Doc) (hwf : wfL d = true) (hb : itemsBound .asFound d) :
    initFromTokens .asFound ⟨tokensL d, false⟩ = initFromTokens .repaired ⟨tokensL d, false⟩ := by
  rw [parsed .asFound d hwf hb, parsed_repaired d hwf]

example : itemsBound .asFound exampleDoc :=
  ((bound_iff_maxLine .asFound).2 exampleDoc).2 fun _ => by decide +kernel

/-! ## The name-clash boundary (outside the grammar: `NoClash` fails) -/

/-- a key and a sub-domain of one domain share one child slot.  Key first: the later sub-domain
    continues the *leaf*: it is never listed by `GetDomain` (the key still is, with its value),
    although its own keys are reachable below it -/
theorem C17_name_clash_key_first (n v : Txt) (body : List Item)
    (hwf : wfL [.text ⟨[.kv [] n [] (some ([], v)) []], []⟩, .dom n body] = true) :
    ∃ t, initFromTokens .repaired ⟨tokensL [.text ⟨[.kv [] n [] (some ([], v)) []], []⟩, .dom n body], false⟩ = .ok t ∧
      getDomainV t [] = some [] ∧ getDomainKeyV t [] = some [n] ∧ getValueV t [n] = some v ∧
      ∀ k v', k ∉ domsOf body → (∃ es1 es2, entriesOf body = es1 ++ (k, v') :: es2 ∧ k ∉ es2.map Prod.fst) →
        getValueV t [n, k] = some v' := by
  refine ⟨_, parsed_repaired _ hwf, ?_⟩
  rw [clash_key_first]
  have hkind : (semItems body (newLeaf n v)).kind = .leaf := semItems_kind _ _
  have hname : (semItems body (newLeaf n v)).name = n := semItems_name _ _
  have hfind := findChild_addChild_same (newRoot.addLine (n ++ eqCh :: (if v.isEmpty then [] else v))) n
    (semItems body (newLeaf n v))
  refine ⟨?_, ?_, ?_, fun k v' hk hv => ?_⟩
  -- the root has no other child: `newRoot` has none and `addChild` on an empty map adds one binding
  · show some (([(n, semItems body (newLeaf n v))].filter _).map _) = _
    rw [List.filter_cons_of_neg (by rw [Elem.isNode, hkind]; decide +kernel)]; rfl
  · show some (([(n, semItems body (newLeaf n v))].filter _).map _) = _
    rw [List.filter_cons_of_pos (by rw [Elem.isLeaf, hkind]; rfl)]
    exact congrArg (fun x => some [x]) hname
  · rw [getValueV, getElem, hfind]; exact congrArg some (semItems_value _ _)
  · rw [getValueV, getElem, hfind]
    show (getElem _ [k]).map _ = _
    rw [getElem, semItems_find, slot_key body _ k hk, (lastVal_iff_decomp _ _ _).mpr hv]; rfl

/-- sub-domain first: the later key *replaces* the sub-domain: the name leads to the leaf, and the
    sub-domain's content is lost (nothing is reachable below the name) -/
theorem C17_name_clash_dom_first (n v : Txt) (body : List Item)
    (hwf : wfL [.dom n body, .text ⟨[.kv [] n [] (some ([], v)) []], []⟩] = true) :
    ∃ t, initFromTokens .repaired ⟨tokensL [.dom n body, .text ⟨[.kv [] n [] (some ([], v)) []], []⟩], false⟩ = .ok t ∧
      getElem t [n] = some (newLeaf n v) ∧ ∀ k, getValueV t [n, k] = none := by
  refine ⟨_, parsed_repaired _ hwf, ?_, ?_⟩
  · simp [getElem, clash_dom_first]
  · intro k
    have h := clash_dom_first n v body
    simp only [getValueV, getElem, h]
    simp [Elem.findChild, children_newLeaf, assocFind]

example : wfL [.text ⟨[.kv [] [byte 98] [] (some ([], [byte 49])) []], []⟩,
    .dom [byte 98] [.text ⟨[.kv [] [byte 120] [] none []], []⟩]] = true := by decide +kernel
example : wfL [.dom [byte 98] [.text ⟨[.kv [] [byte 120] [] none []], []⟩],
    .text ⟨[.kv [] [byte 98] [] (some ([], [byte 49])) []], []⟩] = true := by decide +kernel

end Tars.Conf
