/-
  C04 — Schema evolution.

  "A reader ignores fields it does not know: inserting any well-formed fields (any wire type, any
   nesting, any length) whose tags are not in the reader's schema, anywhere tag order allows,
   changes neither the decoded values of the known fields nor the success of decoding, and the
   reader consumes each skipped field exactly. An absent optional field decodes to its IDL default
   (also when the target struct is reused), and an absent required field is reported as an error,
   so old readers and new writers, and vice versa, interoperate."

  Objects: `WFField` (Model/WireField.lean) is the grammar of well-formed wire fields, `render` /
  `body` its bytes; `skipField`, `skipToNoCheck` (Model/Wire.lean) mirror codec.go; `decVar`,
  `decMembers`, `decStruct`, `resetDefault` (Model/Schema.lean) mirror what tars2go emits.
  Helper lemmas: Proofs/Skip.lean, Evolve.lean, EvolveReset.lean, EvolveAsFound.lean (as-found
  `ResetDefault`, Model/SchemaAsFound.lean); the message of the examples: EvolveExample.lean.
  Props/C04RT.lean (separate, because it imports the C03 development) discharges the per-member
  assumptions of section 3 with the C03 member round trip: `C04_unknown_ignored`.
-/
import TarsModel.Proofs.EvolveAsFound
import TarsModel.Proofs.EvolveExample

namespace Tars
open Consts WFField Evolve

/-! ## 1. Every well-formed field is skipped exactly -/

/-- **C04_skip_exact**: for every well-formed field `f` (every wire type, any nesting, any length,
    tags 0..255 in either head encoding) and every reader whose unread input starts with the body
    of `f`, `skipField(f.ty)` succeeds and advances the reader by exactly the length of the body,
    for every fuel `≥ f.cost`. -/
theorem C04_skip_exact (f : WFField) (hf : f.WF) (fuel : Nat) (hfuel : f.cost ≤ fuel)
    (r : Reader) (t : Bytes) (h : r.rest = f.body ++ t) :
    skipField fuel f.ty r = (.ok (), r.adv f.body.length) ∧ (r.adv f.body.length).rest = t :=
  ⟨Skip.skipField_exact f hf fuel hfuel r t h, r.rest_adv h⟩

/-- a sufficient fuel in terms of the size of the field: twice its length plus one -/
theorem C04_skip_fuel_bound (f : WFField) : f.cost ≤ 2 * f.body.length + 1 := Skip.cost_le f

/-- the fuel the model gives `skipField` inside `SkipToNoCheck` (`Reader.fuel`, a function of the
    size of the whole input) is always sufficient: the field lies inside the reader's data -/
theorem C04_skip_exact_default_fuel (f : WFField) (hf : f.WF) (r : Reader) (t : Bytes)
    (h : r.rest = f.body ++ t) :
    skipField r.fuel f.ty r = (.ok (), r.adv f.body.length) :=
  Skip.skipField_exact_fuel f hf r t h

/-- non-vacuity: a nested field using every container, an extended tag and both string forms -/
def C04_exField : WFField :=
  .struct 20 [
    .map 1 [(.string1 0 [byte 107], .list 1 [.zero 0, .int 0 70000, .long 0 5]),
            (.string4 0 [byte 1, byte 2], .list 1 [])],
    .simpleList 200 [byte 7, byte 8],
    .struct 201 [.float 0 1, .short 15 300],
    .double 255 0,
    .byte 3 (byte 9)]

example : C04_exField.WF := by decide
example : C04_exField.cost = 36 := by decide
example : C04_exField.render.length = 67 := by decide
/-- the model evaluated on that field (with one trailing byte): all 65 body bytes consumed, ok -/
example : (skipField (Reader.mk0 (C04_exField.body ++ [Tars.byte 9])).fuel C04_exField.ty
    (Reader.mk0 (C04_exField.body ++ [Tars.byte 9]))).1.toBool = true ∧
    (skipField (Reader.mk0 (C04_exField.body ++ [Tars.byte 9])).fuel C04_exField.ty
    (Reader.mk0 (C04_exField.body ++ [Tars.byte 9]))).2.pos = 65 := by
  decide +kernel

/-! ## 2. `SkipToNoCheck` passes over unknown fields with a lower tag -/

/-- **C04_skipTo_passes**: `SkipToNoCheck(tag, require)` on input that starts with a well-formed
    field whose tag is lower behaves exactly as on the reader positioned right after that field
    (whatever follows): the unknown field is consumed exactly, head included. -/
theorem C04_skipTo_passes (f : WFField) (hf : f.WF) (tag : Nat) (req : Bool) (r : Reader) (t : Bytes)
    (h : r.rest = f.render ++ t) (hlt : f.tag < tag) :
    skipToNoCheck tag req r = skipToNoCheck tag req (r.adv f.render.length) ∧
    (r.adv f.render.length).rest = t :=
  ⟨Skip.skipToNoCheck_passes f hf tag req r t h hlt, r.rest_adv h⟩

example : C04_exField.tag < 21 := by decide
/-- the model evaluated: looking for tag 21 behind `C04_exField` finds it -/
example : (skipToNoCheck 21 true (Reader.mk0 (C04_exField.render ++ writeInt32 5 21))).2.pos = 69 ∧
    (skipToNoCheck 21 true (Reader.mk0 (C04_exField.render ++ writeInt32 5 21))).1.toBool = true := by
  decide +kernel

/-! ## 3. Unknown fields do not change what the known members decode to -/

/-- the message a new writer produces, as seen by an old reader: for each member of the reader's
    schema a `Slot` (the member, the previous value of its target, the bytes present for it — `[]`
    if the writer left it out), in front of each slot a list of unknown fields, and unknown fields
    behind the last slot.  `merged items tail` are the bytes, `merged (strip items) []` the bytes
    without the unknown fields (`= plain` of the slots). -/
example (items : List (List WFField × Slot)) :
    merged (strip items) [] = plain (items.map (·.2)) := merged_strip items

/-- **C04_unknown_ignored_members** (the member sequence of a generated `ReadFrom`, any fuel):
    for every interleaving (`items`, `tail`: which unknown fields stand in front of which member,
    `Admissible`: at positions the ascending tag order allows, tags outside the schema), the
    decoded values and the success/error are the same with and without the unknown fields; on
    success the unknown fields in front of and between the members have been consumed exactly
    (the reader stands in front of the trailing ones).

    Assumed of the known members' bytes (`hsl`): each is empty or starts with a canonical head
    carrying the member's tag (`HeadOk`), and the member's read is self-delimiting on them
    (`SelfDelimiting`: the outcome does not depend on what follows, and a success leaves exactly
    what followed). Nothing is assumed about the outcome: members may fail. -/
theorem C04_unknown_ignored_members (env : Env) (N : Nat) (items : List (List WFField × Slot))
    (tail : List WFField) (lo : Nat) (hadm : Admissible lo items tail)
    (hsl : ∀ p ∈ items, p.2.HeadOk ∧ p.2.SelfDelimiting env N)
    (t t' : Bytes) (ht : Terminated t) (ht' : Terminated t')
    (fuel fuel' : Nat) (hf : N + items.length < fuel) (hf' : N + items.length < fuel')
    (r r' : Reader) (h : r.rest = merged items tail ++ t)
    (h' : r'.rest = merged (strip items) [] ++ t') :
    (decMembers env fuel (fieldsOf items) (oldsOf items) r).1
      = (decMembers env fuel' (fieldsOf items) (oldsOf items) r').1 ∧
    ∀ vs, (decMembers env fuel (fieldsOf items) (oldsOf items) r).1 = .ok vs →
      (decMembers env fuel (fieldsOf items) (oldsOf items) r).2.rest = renderList tail ++ t ∧
      (decMembers env fuel' (fieldsOf items) (oldsOf items) r').2.rest = t' :=
  decMembers_unknown_ignored env N items tail lo hadm hsl t t' ht ht' fuel fuel' hf hf' r r' h h'

/-- **C04_unknown_ignored_block** (a nested struct member, generated `ReadBlock`): unknown fields
    anywhere inside the block, including behind its last known member, change neither value nor
    success, and on success the whole block (StructBegin … StructEnd) is consumed exactly. -/
theorem C04_unknown_ignored_block (env : Env) (N : Nat) (name : String) (fs : List Field)
    (ovs : List Val) (items : List (List WFField × Slot)) (tail : List WFField)
    (tag : Nat) (req : Bool) (F : Nat)
    (hfind : env.find name = some fs) (hfs : fieldsOf items = fs)
    (holds : oldsOf items = resetDefault env F fs (resetDefault env F fs ovs))
    (hadm : Admissible 0 items tail) (hsl : ∀ p ∈ items, p.2.HeadOk ∧ p.2.SelfDelimiting env N)
    (htag : tag < 256) (hF : N + items.length < F) (r r' : Reader) (t t' : Bytes)
    (h : r.rest = writeHead tyStructBegin tag ++ merged items tail ++ writeHead tyStructEnd 0 ++ t)
    (h' : r'.rest = writeHead tyStructBegin tag ++ merged (strip items) [] ++ writeHead tyStructEnd 0 ++ t') :
    (decVar env (F+1) tag req (.struct name) (.struct ovs) r).1
      = (decVar env (F+1) tag req (.struct name) (.struct ovs) r').1 ∧
    ∀ v, (decVar env (F+1) tag req (.struct name) (.struct ovs) r).1 = .ok v →
      (decVar env (F+1) tag req (.struct name) (.struct ovs) r).2.rest = t ∧
      (decVar env (F+1) tag req (.struct name) (.struct ovs) r').2.rest = t' := by
  have h0 : r.rest = writeHead tyStructBegin tag ++ (merged items tail ++ (writeHead tyStructEnd 0 ++ t)) := by
    simpa using h
  have h0' : r'.rest = writeHead tyStructBegin tag ++ (merged (strip items) [] ++ (writeHead tyStructEnd 0 ++ t')) := by
    simpa using h'
  have hok := targetOk_struct hfind ovs
  have hr1 := r.rest_adv h0
  have hr1' := r'.rest_adv h0'
  have hM := decMembers_unknown_ignored env N items tail 0 hadm hsl
    (writeHead tyStructEnd 0 ++ t) (writeHead tyStructEnd 0 ++ t') (.inr ⟨0, t, by decide, rfl⟩) (.inr ⟨0, t', by decide, rfl⟩)
    F F hF hF _ _ hr1 hr1'
  rw [hfs, holds] at hM
  rw [decVar_hit env F _ _ hok r tyStructBegin tag req _ (by decide) (by decide) htag h0,
    decVar_hit env F _ _ hok r' tyStructBegin tag req _ (by decide) (by decide) htag h0',
    memberBody_struct F ovs hfind, blockBody, blockBody]
  simp only [ne_eq, not_true_eq_false, if_false]
  -- the members end alike; then the trailing unknown members and the StructEnd are skipped
  refine hM.elim (fun _ _ _ => Alike.err ..) fun vs r2 r2' hb1 hb2 => ?_
  obtain ⟨r3, hk, hk2⟩ := Skip.skipToStructEnd_tail tail (admissible_tail items tail 0 hadm) r2 t
    (by simpa using hb1)
  dsimp only
  rw [hk, skipToStructEnd_end r2' t' hb2]
  exact Alike.ok _ hk2 (r2'.rest_adv hb2)

/-- **C04_unknown_ignored_of_stable** (`st.ReadFrom(readBuf)`, most general form): the same outcome
    — decoded struct or error — with and without the unknown fields, for any schema, provided the
    two amounts of model fuel give the same `ResetDefault` of the target (`hstable`).
    `C04_resetDefault_decFuel` discharges `hstable` for every acyclic schema. -/
theorem C04_unknown_ignored_of_stable (env : Env) (N : Nat) (S : String) (fs : List Field)
    (ovs : List Val) (items : List (List WFField × Slot)) (tail : List WFField)
    (r r' : Reader) (t t' : Bytes)
    (hfind : env.find S = some fs) (hfs : fieldsOf items = fs)
    (holds : oldsOf items = resetDefault env (decFuel env r) fs ovs)
    (hstable : resetDefault env (decFuel env r') fs ovs = resetDefault env (decFuel env r) fs ovs)
    (hadm : Admissible 0 items tail) (hsl : ∀ p ∈ items, p.2.HeadOk ∧ p.2.SelfDelimiting env N)
    (hF : N + items.length < decFuel env r) (hF' : N + items.length < decFuel env r')
    (ht : Terminated t) (ht' : Terminated t')
    (h : r.rest = merged items tail ++ t) (h' : r'.rest = merged (strip items) [] ++ t') :
    (decStruct env S (.struct ovs) r).1 = (decStruct env S (.struct ovs) r').1 := by
  have hA := decMembers_unknown_ignored env N items tail 0 hadm hsl t t' ht ht'
    (decFuel env r) (decFuel env r') hF hF' r r' h h'
  rw [hfs, holds] at hA
  simp only [decStruct_struct hfind, hstable]
  exact hA.elim (fun _ _ _ => rfl) fun _ _ _ _ _ => rfl

/-- **C04_resetDefault_stable_acyclic**: for every schema whose by-value struct nesting (members
    and elements of fixed-size arrays) is acyclic (`EnvAcyclic`; Go rejects the other schemas at
    compile time: `invalid recursive type`), `ResetDefault` of any struct on ANY target gives the
    same result for any two amounts of model fuel above the rank `rk S` of the struct (its by-value
    nesting depth; `rk S ≤ env.length`). -/
theorem C04_resetDefault_stable_acyclic (env : Env) (rk : String → Nat) (hac : EnvAcyclic env rk)
    (S : String) (fs : List Field) (ovs : List Val) (F F' : Nat) (hfind : env.find S = some fs)
    (hF : rk S < F) (hF' : rk S < F') :
    resetDefault env F' fs ovs = resetDefault env F fs ovs :=
  resetDefault_acyclic env rk hac F' (rk S) F fs ovs (hac S fs hfind).2 hF' hF

/-- **C04_resetDefault_stable**: the same for schemas without fixed-size arrays of structs (acyclic
    or not), for fuels above the struct-nesting depth of the target (`listDepth ovs`; 0 for a
    target without nested struct members, and `decFuel ≥ 6`). -/
theorem C04_resetDefault_stable (env : Env) (hna : NoStructArrays env) (S : String) (fs : List Field)
    (ovs : List Val) (F F' : Nat) (hfind : env.find S = some fs)
    (hdep : listDepth ovs < F) (hdep' : listDepth ovs < F') :
    resetDefault env F' fs ovs = resetDefault env F fs ovs :=
  resetDefault_fuel env hna _ _ fs ovs (hna S fs hfind) hdep' hdep

/-- **C04_resetDefault_decFuel**: for an acyclic schema the `ResetDefault` that `ReadFrom` performs
    on ANY target does not depend on the size of the input (the model fuel `decFuel` always exceeds
    the rank of the struct, `rk S ≤ env.length < decFuel`) -/
theorem C04_resetDefault_decFuel (env : Env) (rk : String → Nat) (hac : EnvAcyclic env rk)
    (S : String) (fs : List Field) (hfind : env.find S = some fs) (ovs : List Val) (r r' : Reader) :
    resetDefault env (decFuel env r') fs ovs = resetDefault env (decFuel env r) fs ovs :=
  C04_resetDefault_stable_acyclic env rk hac S fs ovs _ _ hfind
    (rank_lt_decFuel env rk hac S fs hfind r) (rank_lt_decFuel env rk hac S fs hfind r')

/-- **C04_unknown_ignored_partial** (`st.ReadFrom(readBuf)`, acyclic schemas): the same outcome with
    and without the unknown fields, for ANY target.

    Partial with respect to `C04_unknown_ignored` (Props/C04RT.lean: unknown fields merged into
    `encStruct` of a well-typed value) in that (a) the known members' bytes are characterised by
    `HeadOk`/`SelfDelimiting` instead of being `encVar` of a well-typed value, and (b) the model
    fuel `decFuel` of either run is assumed to exceed `N + #members`, where `N` is the fuel from
    which the members' reads are self-delimiting; the C03 round trip per member discharges both
    there.  `ResetDefault` needs no fuel hypothesis: `decFuel` exceeds the rank of every struct
    (`C04_resetDefault_decFuel`). -/
theorem C04_unknown_ignored_partial (env : Env) (rk : String → Nat) (hac : EnvAcyclic env rk)
    (N : Nat) (S : String) (fs : List Field)
    (ovs : List Val) (items : List (List WFField × Slot)) (tail : List WFField)
    (r r' : Reader) (t t' : Bytes)
    (hfind : env.find S = some fs) (hfs : fieldsOf items = fs)
    (holds : oldsOf items = resetDefault env (decFuel env r) fs ovs)
    (hadm : Admissible 0 items tail) (hsl : ∀ p ∈ items, p.2.HeadOk ∧ p.2.SelfDelimiting env N)
    (hF : N + items.length < decFuel env r) (hF' : N + items.length < decFuel env r')
    (ht : Terminated t) (ht' : Terminated t')
    (h : r.rest = merged items tail ++ t) (h' : r'.rest = merged (strip items) [] ++ t') :
    (decStruct env S (.struct ovs) r).1 = (decStruct env S (.struct ovs) r').1 :=
  C04_unknown_ignored_of_stable env N S fs ovs items tail r r' t t' hfind hfs holds
    (C04_resetDefault_decFuel env rk hac S fs hfind ovs r r') hadm hsl hF hF' ht ht' h h'

/-- **C04_unknown_ignored_enc_partial**: the same with the known members given as `encVar` of the
    members of a value (`encSlots`), compared against `encStruct` of that value: merging unknown
    fields into the encoding of a value does not change what `ReadFrom` returns.  The per-member
    assumptions remain (`hsl`); they are exactly what the C03 round trip has to deliver. -/
theorem C04_unknown_ignored_enc_partial (env : Env) (rk : String → Nat) (hac : EnvAcyclic env rk)
    (N : Nat) (S : String) (fs : List Field)
    (vals ovs : List Val) (gaps : List (List WFField)) (tail : List WFField)
    (r r' : Reader) (t t' : Bytes)
    (hfind : env.find S = some fs) (hlo : ovs.length = fs.length) (hlv : vals.length = fs.length)
    (hlg : gaps.length = fs.length)
    (hadm : Admissible 0
      (gaps.zip (encSlots env fs (resetDefault env (decFuel env r) fs ovs) vals)) tail)
    (hsl : ∀ s ∈ encSlots env fs (resetDefault env (decFuel env r) fs ovs) vals,
      s.HeadOk ∧ s.SelfDelimiting env N)
    (hF : N + fs.length < decFuel env r) (hF' : N + fs.length < decFuel env r')
    (ht : Terminated t) (ht' : Terminated t')
    (h : r.rest = merged
      (gaps.zip (encSlots env fs (resetDefault env (decFuel env r) fs ovs) vals)) tail ++ t)
    (h' : r'.rest = encStruct env S (.struct vals) ++ t') :
    (decStruct env S (.struct ovs) r).1 = (decStruct env S (.struct ovs) r').1 := by
  obtain ⟨hf, ho, hp, hl⟩ := zip_encSlots env fs _ vals gaps
    (resetDefault_decFuel_length env r fs ovs hlo) hlv hlg
  refine C04_unknown_ignored_partial env rk hac N S fs ovs _ tail r r' t t' hfind hf ho hadm
    (fun p hp => hsl _ (List.of_mem_zip hp).2) (hl ▸ hF) (hl ▸ hF') ht ht' h ?_
  rw [hp, h']
  simp [encStruct, hfind]

/-- the statement with a typing predicate `WellTyped` on member lists left open (stated, not
    proved): for every schema, every well-typed value `vals`, every target `ovs`, every admissible
    interleaving with unknown well-formed fields, decoding the merged message gives the same
    outcome as decoding `encStruct` of the value.  What is proved is `C04_unknown_ignored`
    (Props/C04RT.lean), with the member-wise typing `MembersTyped` and the target taken after
    `ResetDefault`. -/
def C04_unknown_ignored_full (WellTyped : Env → List Field → List Val → Prop) : Prop :=
  ∀ (env : Env) (S : String) (fs : List Field) (vals ovs : List Val)
    (gaps : List (List WFField)) (tail : List WFField) (t : Bytes),
    env.find S = some fs → WellTyped env fs vals → WellTyped env fs ovs → gaps.length = fs.length →
    Admissible 0 (gaps.zip (encSlots env fs ovs vals)) tail → Terminated t →
    (decStruct env S (.struct ovs)
        (Reader.mk0 (merged (gaps.zip (encSlots env fs ovs vals)) tail ++ t))).1
      = (decStruct env S (.struct ovs) (Reader.mk0 (encStruct env S (.struct vals) ++ t))).1

/-! ### instances of the assumptions (non-vacuity) -/

/-- an absent member of non-struct type is self-delimiting -/
theorem C04_selfDelimiting_absent (env : Env) (s : Slot) (henc : s.enc = [])
    (hty : isStructTy s.f.ty = false) (hok : targetOk env s.f.ty s.old = true) :
    s.SelfDelimiting env 1 := by
  cases hreq : s.f.req with
  | false =>
    refine .of_run (.ok s.old) fun fuel hf r t h haft => ?_
    obtain ⟨F, rfl⟩ := Nat.exists_eq_add_one.mpr hf
    rw [henc, List.nil_append] at h
    exact ⟨r, by rw [hreq, decVar_absent_opt env F _ _ hok r _ (h ▸ haft).nextTagGt, absentVal_plain env _ _ _ hty],
      fun _ _ => h⟩
  | true =>
    refine .of_run (.error .require) fun fuel hf r t h haft => ?_
    obtain ⟨F, rfl⟩ := Nat.exists_eq_add_one.mpr hf
    rw [henc, List.nil_append] at h
    obtain ⟨r', hm⟩ := decVar_missing_req env F _ _ hok r _ (h ▸ haft).nextTagGt
    exact ⟨r', hreq ▸ hm, nofun⟩

/-- a present `int` member as written by `WriteInt32` is self-delimiting (C02 round trip) -/
theorem C04_selfDelimiting_int (env : Env) (s : Slot) (v o : Int) (hty : s.f.ty = .i32)
    (hold : s.old = .int o) (htag : s.f.tag < 256) (hv : -(2:Int)^31 ≤ v ∧ v < (2:Int)^31)
    (henc : s.enc = writeInt32 v s.f.tag) : s.SelfDelimiting env 1 := by
  refine .of_run (.ok (.int v)) fun fuel hf r t h _ => ?_
  obtain ⟨F, rfl⟩ := Nat.exists_eq_add_one.mpr hf
  rw [henc] at h
  refine ⟨r.adv (writeInt32 v s.f.tag).length, ?_, fun _ _ => r.rest_adv h⟩
  rw [hty, hold]; unfold decVar
  simp [readScalar, readInt32_writeInt32 v s.f.tag o s.f.req htag hv r t h, mapRes]

private theorem C04_ex_slots : ∀ p ∈ C04_exItems, p.2.HeadOk ∧ p.2.SelfDelimiting C04_exEnv 1 := by
  intro p hp
  simp only [C04_exItems, List.mem_cons, List.mem_nil_iff, or_false] at hp
  rcases hp with rfl | rfl
  · exact ⟨.inr ⟨tyBYTE, [byte 5], by decide, by decide⟩,
      C04_selfDelimiting_int _ _ 5 0 rfl rfl (by decide) (by decide) rfl⟩
  · exact ⟨.inl rfl, C04_selfDelimiting_absent _ _ rfl rfl rfl⟩

example : Admissible 0 C04_exItems C04_exTail := C04_ex_adm
example : ∀ p ∈ C04_exItems, p.2.HeadOk ∧ p.2.SelfDelimiting C04_exEnv 1 := C04_ex_slots
example : merged C04_exItems C04_exTail
    = [byte 0x0C, 0x16, 0x01, 0x41, 0x20, 0x05, 0x39, 0x00, 0x02, 0x0C, 0x0C, 0xFA, 0xC8, 0x10, 0x01, 0x0B] := by
  decide
example : merged (strip C04_exItems) [] = [byte 0x20, 0x05] := by decide

/-- all hypotheses of `C04_unknown_ignored_partial` hold together on that message: the old reader
    decodes it to the same outcome as the message without the unknown members -/
example :
    (decStruct C04_exEnv "S" (.struct [.int 0, .str []]) (Reader.mk0 (merged C04_exItems C04_exTail))).1
      = (decStruct C04_exEnv "S" (.struct [.int 0, .str []])
          (Reader.mk0 (merged (strip C04_exItems) []))).1 := by
  have hac : EnvAcyclic C04_exEnv (fun _ => 0) := (flat_schema (by decide)).1
  refine C04_unknown_ignored_partial C04_exEnv (fun _ => 0) hac 1 "S" C04_exFs _ C04_exItems
    C04_exTail _ _ [] [] C04_ex_find rfl ?_ C04_ex_adm C04_ex_slots ?_ ?_ (.inl rfl) (.inl rfl)
    (Reader.rest_mk0_append_nil _) (Reader.rest_mk0_append_nil _)
  · rw [C04_ex_fuel, C04_ex_reset]; rfl
  · rw [C04_ex_fuel]; decide
  · decide

/-- the rank bound is tight: below the rank of the struct the model's `ResetDefault` is cut short
    (fuel 1 leaves the stale string of the nested struct, fuel 2 resets it) -/
example :
    resetDefault [("A", [⟨0, false, .struct "B", none⟩]), ("B", [⟨0, false, .str, none⟩])] 1
        [⟨0, false, .struct "B", none⟩] [.struct [.str [Tars.byte 1]]] = [.struct [.str [Tars.byte 1]]] ∧
    resetDefault [("A", [⟨0, false, .struct "B", none⟩]), ("B", [⟨0, false, .str, none⟩])] 2
        [⟨0, false, .struct "B", none⟩] [.struct [.str [Tars.byte 1]]] = [.struct [.str []]] := by
  constructor
  · simp [resetDefault_cons, resetDefault_nil_left, resetMember, Env.find, resetDefault_fuel0]
  · simp [resetDefault_cons, resetDefault_nil_left, resetMember, Env.find, zeroOf, zeroVal, scalarZero]

/-- non-vacuity of `C04_resetDefault_stable`: the example schema has no arrays of structs -/
example : NoStructArrays C04_exEnv := (flat_schema (by decide)).2

/-! ## 4. Absent members -/

/-- **C04_absent_optional_member** (one generated member read, every member kind, any target): when
    the member's tag is not there (`After`: end of input, a StructEnd, or a head with a higher
    tag), the read succeeds, leaves the reader where it was, and the target keeps the value
    `ResetDefault` gave it (a nested struct: its value after its own `ResetDefault`). -/
theorem C04_absent_optional_member (env : Env) (F tag : Nat) (ty : Ty) (old : Val) (r : Reader)
    (hok : targetOk env ty old = true) (h : After tag r.rest) :
    decVar env (F+1) tag false ty old r = (.ok (absentVal env F ty old), r) :=
  decVar_absent_opt env F ty old hok r tag h.nextTagGt

/-- the value an absent optional member that is not a struct decodes to (`defaultOf`,
    Proofs/EvolveReset.lean), spelled out: the explicit IDL default; else, for a fixed-size array
    of structs `S x[n]`, `n` copies of `S` after its own `ResetDefault`; else the Go zero value -/
theorem C04_defaultOf (env : Env) (F : Nat) (f : Field) :
    (∀ d, f.dflt = some d → defaultOf env F f = d) ∧
    (f.dflt = none → isArrStructTy f.ty = false → defaultOf env F f = zeroOf env f.ty) ∧
    (∀ n s ifs, f.dflt = none → f.ty = .arr n (.struct s) → env.find s = some ifs →
      defaultOf env F f = .list (List.replicate n
        (.struct (resetDefault env F ifs (ifs.map fun g => zeroOf env g.ty))))) :=
  ⟨defaultOf_dflt env F f, defaultOf_plain env F f, defaultOf_arr env F f⟩

/-- the reuse clause of the property at full strength: decoding (`ReadFrom`) into ANY target
    `ovs` — fresh or holding the values of an earlier packet — an optional member (not a struct)
    that is absent when its turn comes decodes to `defaultOf` (`C04_defaultOf`: its explicit IDL
    default, else `n` reset structs for an array of structs, else the Go zero value of its type);
    the previous content `o` of the member is irrelevant.  (`decFuel env r - 1` is the model fuel
    of the nested `ResetDefault` of array elements, immaterial otherwise.)
    (`hd`: an explicit default is a value of the member's type — schema well-formedness.) -/
def C04_reuse_full : Prop :=
  ∀ (env : Env) (S : String) (fs : List Field) (ovs vs : List Val) (r r' : Reader) (i : Nat)
    (f : Field) (o : Val), env.find S = some fs →
    decStruct env S (.struct ovs) r = (.ok (.struct vs), r') →
    fs[i]? = some f → ovs[i]? = some o → f.req = false → isStructTy f.ty = false →
    (∀ d, f.dflt = some d → targetOk env f.ty d = true) →
    After f.tag (readerBefore env S (.struct ovs) r i).rest →
    vs[i]? = some (defaultOf env (decFuel env r - 1) f)

/-- **C04_reuse**: the reuse clause holds: the generated `ResetDefault` resets every member, also the
    elements of arrays of structs (the as-found copy does not: `C04_asFound_reuse_stale` below). -/
theorem C04_reuse : C04_reuse_full := by
  intro env S fs ovs vs r r' i f o hS h hf ho hopt hty hd habs
  rw [decStruct_absent_opt env S fs ovs vs r r' hS h i f o hf ho hopt
      (resetMember_nonstruct env _ f o hty) (targetOk_defaultOf env _ f hty hd) habs,
    absentVal_plain env _ _ _ hty]

/-- **C04_reuse_plain**: for a member that is not an array of structs: the explicit IDL default, or
    the Go zero value of its type -/
theorem C04_reuse_plain (env : Env) (S : String) (fs : List Field) (ovs vs : List Val)
    (r r' : Reader) (i : Nat) (f : Field) (o : Val) (hS : env.find S = some fs)
    (h : decStruct env S (.struct ovs) r = (.ok (.struct vs), r'))
    (hf : fs[i]? = some f) (ho : ovs[i]? = some o) (hopt : f.req = false)
    (hty : isStructTy f.ty = false) (harr : isArrStructTy f.ty = false)
    (hd : ∀ d, f.dflt = some d → targetOk env f.ty d = true)
    (habs : After f.tag (readerBefore env S (.struct ovs) r i).rest) :
    vs[i]? = some (f.dflt.getD (zeroOf env f.ty)) := by
  rw [C04_reuse env S fs ovs vs r r' i f o hS h hf ho hopt hty hd habs,
    ← resetMember_nonstruct env _ f o hty, resetMember_getD env _ f o (.inl ⟨hty, harr⟩)]

/-- **C04_absent_optional** (`ReadFrom` into a fresh target): the instance of `C04_reuse` for the Go
    zero value of the struct — the same result as for any reused target. -/
theorem C04_absent_optional (env : Env) (S : String) (fs : List Field) (vs : List Val)
    (r r' : Reader) (i : Nat) (f : Field) (hS : env.find S = some fs)
    (h : decStruct env S (freshStruct env S) r = (.ok (.struct vs), r'))
    (hf : fs[i]? = some f) (hopt : f.req = false) (hty : isStructTy f.ty = false)
    (hd : ∀ d, f.dflt = some d → targetOk env f.ty d = true)
    (habs : After f.tag (readerBefore env S (freshStruct env S) r i).rest) :
    vs[i]? = some (defaultOf env (decFuel env r - 1) f) := by
  rw [freshStruct_eq env S fs hS] at h habs
  have ho : (fs.map fun f => zeroVal env env.length f.ty)[i]? = some (zeroVal env env.length f.ty) := by
    simp [hf]
  exact C04_reuse env S fs _ vs r r' i f _ hS h hf ho hopt hty hd habs

/-- **C04_reuse_struct**: decoding into ANY target, an absent optional nested-struct member decodes
    to a struct in which every member with an explicit default holds that default and every other
    member that is neither a struct nor an array of structs holds the Go zero value of its type,
    whatever the nested target held. -/
theorem C04_reuse_struct (env : Env) (S : String) (fs : List Field) (ovs vs : List Val)
    (r r' : Reader) (i : Nat) (f : Field) (name : String) (inner : List Val) (ifs : List Field)
    (hS : env.find S = some fs)
    (h : decStruct env S (.struct ovs) r = (.ok (.struct vs), r'))
    (hf : fs[i]? = some f) (ho : ovs[i]? = some (.struct inner)) (hopt : f.req = false)
    (hdf : f.dflt = none) (hty : f.ty = .struct name) (hfind : env.find name = some ifs)
    (habs : After f.tag (readerBefore env S (.struct ovs) r i).rest) :
    ∃ res, vs[i]? = some (.struct res) ∧
      ∀ (j : Nat) (g : Field) (w : Val), ifs[j]? = some g → inner[j]? = some w →
        (isStructTy g.ty = false ∧ isArrStructTy g.ty = false) ∨ g.dflt.isSome →
        res[j]? = some (g.dflt.getD (zeroOf env g.ty)) := by
  have := decStruct_absent_opt env S fs ovs vs r r' hS h i f _ hf ho hopt
    (resetMember_struct env _ f name inner ifs hdf hty hfind) (hty ▸ targetOk_struct hfind _) habs
  rw [hty, absentVal_struct env _ name _ ifs hfind] at this
  refine ⟨_, this, fun j g w hg hw hcase => ?_⟩
  -- the nested target has been reset twice: by `ReadFrom` of `S` (fuel `decFuel - 1`, positive) and
  -- by the absent member's own `ReadBlock` (fuel `decFuel - 1 - i - 1`, which may be 0 and then
  -- changes nothing); on the members in question one reset already gives the value, and a second
  -- one gives it again (`resetMember_getD` looks at neither fuel nor previous content)
  obtain ⟨G, hG⟩ : ∃ G, decFuel env r - 1 = G + 1 := ⟨decFuel env r - 2, by
    have := decFuel_lb env (Nat.zero_le r.data.size)
    omega⟩
  have h1 : (resetDefault env (decFuel env r - 1) ifs inner)[j]?
      = some (g.dflt.getD (zeroOf env g.ty)) := by
    rw [hG, resetDefault_getElem? env G ifs inner j g w hg hw, resetMember_getD env G g w hcase]
  rcases hF2 : decFuel env r - 1 - i - 1 with _ | G2
  · rw [resetDefault_fuel0]; exact h1
  · rw [resetDefault_getElem? env G2 ifs _ j g _ hg h1, resetMember_getD env G2 g _ hcase]

/-- **C04_missing_required_member** (one generated member read, every member kind): when a required
    member's tag is not there, the read reports "can not find Tag … But require" -/
theorem C04_missing_required_member (env : Env) (F tag : Nat) (ty : Ty) (old : Val) (r : Reader)
    (hok : targetOk env ty old = true) (h : After tag r.rest) :
    (decVar env (F+1) tag true ty old r).1 = .error .require := by
  obtain ⟨r', hm⟩ := decVar_missing_req env F ty old hok r tag h.nextTagGt
  rw [hm]

/-- **C04_missing_required** (`ReadFrom`): if a required member (any kind) is absent when its turn
    comes, decoding the struct is an error -/
theorem C04_missing_required (env : Env) (S : String) (fs : List Field) (ovs : List Val)
    (r : Reader) (hS : env.find S = some fs)
    (i : Nat) (f : Field) (o : Val) (hf : fs[i]? = some f) (ho : ovs[i]? = some o)
    (hreq : f.req = true)
    (hok : targetOk env f.ty (resetMember env (decFuel env r - 1) f o) = true)
    (habs : After f.tag (readerBefore env S (.struct ovs) r i).rest) :
    ∃ e r', decStruct env S (.struct ovs) r = (.error e, r') := by
  rw [decStruct_struct hS]
  rcases hm : decMembers env (decFuel env r) fs (resetDefault env (decFuel env r) fs ovs) r
    with ⟨e | vs', r1⟩
  · exact ⟨e, r1, rfl⟩
  · rw [readerBefore_eq env S fs ovs r i hS] at habs
    exact absurd hm (decMembers_missing_req env _ fs _ r i f _ hf
      (resetDefault_decFuel_getElem? env r fs ovs i f o hf ho) hreq hok habs vs' r1)

/-! ## 5. The reuse example, on the code and on the as-found copy (D13) -/

/-- `struct S { 0 require int a; 1 optional string b; }` (no default on `b`) -/
def C04_cexFs : List Field := [⟨0, true, .i32, none⟩, ⟨1, false, .str, none⟩]
def C04_cexEnv : Env := [("S", C04_cexFs)]
/-- the bytes of "old" -/
def C04_cexOldStr : Bytes := [byte 111, byte 108, byte 100]
/-- the reused target: `{a: 1, b: "old"}` -/
def C04_cexOld : Val := .struct [.int 1, .str C04_cexOldStr]
/-- a packet with `a = 5` and `b` omitted -/
def C04_cexPkt : Bytes := writeInt32 5 0

example : C04_cexPkt = [byte 0x00, byte 0x05] := by decide

private theorem C04_cex_find : C04_cexEnv.find "S" = some C04_cexFs := by simp [C04_cexEnv, Env.find]
private theorem C04_cex_fuel : decFuel C04_cexEnv (Reader.mk0 C04_cexPkt) = 20 + 1 := by decide
private theorem C04_cex_rest : (Reader.mk0 C04_cexPkt).rest = writeInt32 5 0 ++ [] := Reader.rest_mk0_append_nil _

private theorem C04_cex_a (a : Int) :
    decVar C04_cexEnv 20 0 true .i32 (.int a) (Reader.mk0 C04_cexPkt)
      = (.ok (.int 5), (Reader.mk0 C04_cexPkt).adv (writeInt32 5 0).length) := by
  unfold decVar
  simp [readScalar, readInt32_writeInt32 5 0 a true (by decide) (by decide) _ [] C04_cex_rest, mapRes]

private theorem C04_cex_members (a : Int) (s : Bytes) :
    decMembers C04_cexEnv (20 + 1) C04_cexFs [.int a, .str s] (Reader.mk0 C04_cexPkt)
      = (.ok [.int 5, .str s], (Reader.mk0 C04_cexPkt).adv (writeInt32 5 0).length) := by
  have hb := decVar_absent_opt C04_cexEnv 18 .str (.str s) rfl _ 1
    (.inl ((Reader.mk0 C04_cexPkt).rest_adv C04_cex_rest))
  simp only [C04_cexFs, decMembers_cons, C04_cex_a a, hb, decMembers_nil]
  rfl

private theorem C04_cex_reset :
    resetDefault C04_cexEnv (20 + 1) C04_cexFs [.int 1, .str C04_cexOldStr] = [.int 0, .str []] := by
  simp [C04_cexFs, resetDefault_cons, resetDefault_nil_left, resetMember, zeroOf, zeroVal, scalarZero]

private theorem C04_cex_dec : decStruct C04_cexEnv "S" C04_cexOld (Reader.mk0 C04_cexPkt)
    = (.ok (.struct [.int 5, .str []]), (Reader.mk0 C04_cexPkt).adv (writeInt32 5 0).length) := by
  rw [C04_cexOld, decStruct_struct C04_cex_find]
  simp only [C04_cex_fuel, C04_cex_reset, C04_cex_members]

/-- **C04_reuse_example**: decoding a packet that omits the optional string `b` into
    a target that previously held `b = "old"` yields `b = ""` -/
theorem C04_reuse_example :
    (decStruct C04_cexEnv "S" C04_cexOld (Reader.mk0 C04_cexPkt)).1
      = .ok (.struct [.int 5, .str []]) := by
  rw [C04_cex_dec]

/-- non-vacuity of `C04_reuse`: on that packet and reused target all its hypotheses hold for member
    `b` (index 1), and it yields `b = ""` -/
example : ∃ vs r', decStruct C04_cexEnv "S" C04_cexOld (Reader.mk0 C04_cexPkt) = (.ok (.struct vs), r') ∧
    After 1 (readerBefore C04_cexEnv "S" C04_cexOld (Reader.mk0 C04_cexPkt) 1).rest ∧
    vs[1]? = some (.str []) := by
  have haft : After 1 (readerBefore C04_cexEnv "S" C04_cexOld (Reader.mk0 C04_cexPkt) 1).rest := by
    rw [C04_cexOld, readerBefore_eq _ _ _ _ _ _ C04_cex_find, C04_cex_fuel, C04_cex_reset, C04_cexFs,
      readerAt_succ (C04_cex_a 0), readerAt_zero]
    exact .inl ((Reader.mk0 C04_cexPkt).rest_adv C04_cex_rest)
  refine ⟨_, _, C04_cex_dec, haft, ?_⟩
  rw [C04_reuse C04_cexEnv "S" C04_cexFs [.int 1, .str C04_cexOldStr] _ _ _ 1
    ⟨1, false, .str, none⟩ (.str C04_cexOldStr) C04_cex_find C04_cex_dec rfl rfl rfl rfl
    (fun d hd => by cases hd) haft, defaultOf_plain _ _ _ rfl rfl]
  simp [zeroOf, zeroVal, scalarZero]

/-- **C04_asFound_reuse_stale** (defect D13, general form; about the as-found `ResetDefault` of
    Model/SchemaAsFound.lean only): decoding into a reused target, an absent optional member
    *without* explicit default (and not a struct) kept whatever the target held before, because
    the as-found `ResetDefault` only assigned members that have an explicit default. -/
theorem C04_asFound_reuse_stale (env : Env) (S : String) (fs : List Field) (ovs vs : List Val)
    (r r' : Reader) (i : Nat) (f : Field) (o : Val) (hS : env.find S = some fs)
    (h : AsFound.decStruct env S (.struct ovs) r = (.ok (.struct vs), r'))
    (hf : fs[i]? = some f) (ho : ovs[i]? = some o) (hopt : f.req = false)
    (hdf : f.dflt = none) (hty : isStructTy f.ty = false) (hok : targetOk env f.ty o = true)
    (habs : After f.tag (asFoundReaderBefore env S (.struct ovs) r i).rest) :
    vs[i]? = some o := by
  rw [asFound_decStruct_absent_opt env S fs ovs vs r r' hS h i f o hf ho hopt
      (asFoundResetMember_plain env _ f o hdf hty) hok habs,
    absentVal_plain env _ _ _ hty]

/-- **C04_asFound_reuse_counterexample** (D13, as found): with the as-found `ResetDefault`, the same
    packet decoded into the target that held `b = "old"` yielded `b = "old"`, not `""`. -/
theorem C04_asFound_reuse_counterexample :
    (AsFound.decStruct C04_cexEnv "S" C04_cexOld (Reader.mk0 C04_cexPkt)).1
      = .ok (.struct [.int 5, .str C04_cexOldStr]) := by
  have hreset : AsFound.resetDefault C04_cexEnv (20 + 1) C04_cexFs [.int 1, .str C04_cexOldStr]
      = [.int 1, .str C04_cexOldStr] := by
    simp only [C04_cexFs, asFound_resetDefault_cons, asFound_resetDefault_nil_left, asFoundResetMember]
  unfold AsFound.decStruct
  simp only [C04_cex_find, C04_cexOld, C04_cex_fuel, hreset, C04_cex_members]

end Tars
