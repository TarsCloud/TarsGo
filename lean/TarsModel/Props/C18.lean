import TarsModel.Proofs.EndpointParse
import TarsModel.Proofs.Bytes

/-!
# C18 — Endpoint strings parse to the same endpoint they describe

Property theorems only.  Model: `TarsModel/Model/Endpoint.lean` (`parse` = `endpoint.Parse` incl.
`strings.Fields`, `flag.FlagSet.Parse`, `strconv.ParseInt(s, 0, 64)`; `Endpoint.string`;
`tars2endpoint` / `endpoint2tars`).

What the theorems quantify over: a description `d : Desc` is a protocol (`tcp | udp | ssl`), a
*list* of written options — any subset of the nine options in any order, repetitions allowed,
each in one of the spellings `-x v`, `--x v`, `-x=v`, `--x=v`, preceded by an arbitrary non-empty
run of ASCII blanks (space, `\t \n \v \f \r`) and, for the first two spellings, with such a run
between flag and value — and a run of trailing blanks.  Host and bind values are arbitrary byte
strings that form one word (`FieldTok`), ASCII or not.  `render d` is the string, `d.endpoint` the
endpoint it denotes (options applied to the documented defaults, then the transport kind, the
weight normalisation and the conversion to int32).  Integer values range over all of Go's `int`
(64 bit); the endpoint carries their int32 conversion (`C18_int32`: the identity on int32).

`Variant`: `asFound` is `Parse` without a guard (it slices `endpoint[0:3]` and
`strings.Fields(endpoint)[1:]` unconditionally); `repaired` first returns `Endpoint{}` when the string
is shorter than 3 bytes or has no field (the guard the repaired tree has) and then runs
the same body.  Everything except `C18_total` holds for both.
-/
namespace Tars.Endpoint
open Tars

/-! ## Clause 1: parsing the textual form yields exactly the described values -/

/-- `C18_parse`: for every protocol, every list of written options (every subset, order and
    repetition), every spelling and every choice of blank runs, parsing the rendered string
    yields exactly the described endpoint — for both variants of `Parse`. -/
theorem C18_parse (var : Variant) (d : Desc) (h : d.WF FieldTok) :
    parse var (render d) = .ok d.endpoint :=
  parse_render var d h

/-- every non-empty ASCII string without ASCII blanks is such a value -/
theorem C18_ascii_tokens (t : Bytes) (h : Tok t) : FieldTok t := h.fieldTok

/-- the described endpoint, member by member -/
theorem C18_endpoint_members (d : Desc) :
    d.endpoint.host = d.flags.host ∧ d.endpoint.bind = d.flags.bind ∧
    d.endpoint.port = toI32 d.flags.port ∧ d.endpoint.timeout = toI32 d.flags.timeout ∧
    d.endpoint.grid = toI32 d.flags.grid ∧ d.endpoint.qos = toI32 d.flags.qos ∧
    d.endpoint.weightType = toI32 d.flags.weightType ∧ d.endpoint.authType = toI32 d.flags.authType ∧
    d.endpoint.setId = [] ∧ d.endpoint.key = d.endpoint.string := by
  simp only [Desc.endpoint, finish, Endpoint.string, and_self]

/-- an option that is written (each option at most once) determines its variable: exactly that value -/
theorem C18_parse_present (d : Desc) (nd : (d.opts.map Opt.flag).Nodup) (o : Opt) (ho : o ∈ d.opts) :
    d.flags.get o.flag = o.val := by
  rw [flags_opts]; exact get_foldl_present d.opts defaultFlags o ho nd

/-- with every option written at most once the result does not depend on the order of the options
    (nor on spellings and blanks) -/
theorem C18_parse_perm (var : Variant) (d d' : Desc) (h : d.WF FieldTok) (h' : d'.WF FieldTok)
    (hproto : d.proto = d'.proto) (hperm : d.opts.Perm d'.opts) (nd : (d.opts.map Opt.flag).Nodup) :
    parse var (render d) = parse var (render d') := by
  rw [C18_parse var d h, C18_parse var d' h']
  unfold Desc.endpoint
  rw [flags_opts, flags_opts, foldl_perm d.opts d'.opts defaultFlags hperm nd, hproto]

/-- the int32 conversion is the identity on int32 values -/
theorem C18_int32 (v : Int) (hlo : -(2 : Int) ^ 31 ≤ v) (hhi : v < (2 : Int) ^ 31) : toI32 v = v := by
  unfold toI32 wrapS
  exact toS_toU 32 (by decide) v hlo hhi

/-! ## Clause 2: defaults, weight normalisation, transport kind -/

/-- an option that is not written keeps the default of its variable -/
theorem C18_defaults (d : Desc) (k : Flag) (h : ∀ o ∈ d.opts, o.flag ≠ k) :
    d.flags.get k = defaultFlags.get k := by
  rw [flags_opts]; exact get_foldl_absent d.opts defaultFlags k h

/-- the documented defaults: no host, port 0, timeout 3000, grid 0, qos 0, weight −1 (unset),
    weight type 0, auth type 0, no bind address (constants regenerated from parse.go) -/
theorem C18_default_values :
    defaultFlags = { host := [], port := 0, timeout := 3000, grid := 0, qos := 0, weight := -1,
                     weightType := 0, authType := 0, bind := [] } := rfl

/-- the bare protocol (with optional trailing blanks) parses to the defaults -/
theorem C18_defaults_bare (var : Variant) (p : Proto) (trail : Bytes) (ht : Blank trail) :
    parse var (p.bytes ++ trail) = .ok (finish p.bytes defaultFlags) := by
  have := C18_parse var { proto := p, items := [], trail := trail } ⟨by simp, ht⟩
  simpa [render, renderPairs, Desc.endpoint, Desc.flags] using this

/-- weight normalisation: a weight type other than 0 with no weight (−1) or a weight above 100
    gives weight 100; otherwise the weight is kept (the test is made on the 64-bit values) -/
theorem C18_weight (proto : Bytes) (fl : Flags) :
    (finish proto fl).weight =
      toI32 (if fl.weightType ≠ 0 ∧ (fl.weight = -1 ∨ fl.weight > 100) then 100 else fl.weight) := by
  unfold finish; rfl

/-- transport kind and protocol name: tcp ↦ (1, "tcp"), ssl ↦ (2, "tcp"), udp ↦ (0, "udp") -/
theorem C18_transport (fl : Flags) :
    ((finish sTcp fl).istcp = 1 ∧ (finish sTcp fl).proto = sTcp) ∧
    ((finish sSsl fl).istcp = 2 ∧ (finish sSsl fl).proto = sTcp) ∧
    ((finish sUdp fl).istcp = 0 ∧ (finish sUdp fl).proto = sUdp) :=
  ⟨⟨rfl, rfl⟩, ⟨rfl, rfl⟩, ⟨rfl, rfl⟩⟩

/-! ## Clause 3: conversion to the registry structure and back -/

/-- `Tars2endpoint (Endpoint2tars e)` agrees with `e` on host, port, timeout, transport kind, grid,
    qos, weight, weight type, auth type and set id — for every endpoint value -/
theorem C18_convert (e : Endpoint) :
    let e' := tars2endpoint (endpoint2tars e)
    e'.host = e.host ∧ e'.port = e.port ∧ e'.timeout = e.timeout ∧ e'.istcp = e.istcp ∧
    e'.grid = e.grid ∧ e'.qos = e.qos ∧ e'.weight = e.weight ∧ e'.weightType = e.weightType ∧
    e'.authType = e.authType ∧ e'.setId = e.setId := by
  simp only [tars2endpoint, endpoint2tars, and_self]

/-- the other direction loses nothing of the members the conversions know -/
theorem C18_convert_registry (f : EndpointF) : endpoint2tars (tars2endpoint f) = f := rfl

/-! ## Clause 4: the cache key does not depend on where the description comes from -/

/-- every string that begins with `tcp`, `udp` or `ssl` — whatever follows, well-formed or not —
    is parsed without panic, and a registry entry `f` that describes the same endpoint (same host,
    port, timeout, transport kind) obtains the same `Key` through `Tars2endpoint` -/
theorem C18_key (var : Variant) (s : Bytes) (p : Proto) (hp : s.take 3 = p.bytes) :
    ∃ e, parse var s = .ok e ∧
      ∀ f : EndpointF, f.host = e.host → f.port = e.port → f.timeout = e.timeout → f.istcp = e.istcp →
        (tars2endpoint f).key = e.key := by
  obtain ⟨fl, hfl⟩ := parse_of_proto var s p hp
  exact ⟨_, hfl, key_registry _ rfl (finish_proto p fl)⟩

/-- in particular the round trip through the registry structure keeps the key -/
theorem C18_key_roundtrip (var : Variant) (s : Bytes) (p : Proto) (hp : s.take 3 = p.bytes) :
    ∃ e, parse var s = .ok e ∧ (tars2endpoint (endpoint2tars e)).key = e.key := by
  obtain ⟨e, he, hk⟩ := C18_key var s p hp
  exact ⟨e, he, hk (endpoint2tars e) rfl rfl rfl rfl⟩

/-- boundary of the clause: for a first word other than the three protocols the keys differ
    (`"xyz"` parses to protocol `xyz` but comes back from the registry as `udp`) -/
theorem C18_key_boundary :
    ∃ e, parse .repaired [B 120, B 121, B 122] = .ok e ∧ (tars2endpoint (endpoint2tars e)).key ≠ e.key :=
  -- the keys differ in their first byte already
  ⟨_, rfl, fun h => absurd (congrArg List.head? h) (by decide)⟩

/-! ## Clause 4 at the level of the endpoint manager's key-indexed tables

The manager indexes its adapters (`epList`) and its probe candidates (`checkAdapterList`) by the
endpoint key and compares the cached keys with those of the registry's inactive list on every
refresh.  `keyOfRegistry` / `keyOfString` are the only two ways a key may be made. -/

/-- key of an endpoint as the registry describes it: `endpoint.Tars2endpoint(f).Key` -/
def keyOfRegistry (f : EndpointF) : Bytes := (tars2endpoint f).key

/-- key of an endpoint given by an address string: `endpoint.Parse(s).Key` (`none`: panic) -/
def keyOfString (var : Variant) (s : Bytes) : Option Bytes :=
  match parse var s with
  | .ok e => some e.key
  | .panic _ => none

/-- registry and string descriptions of the same endpoint agree on the key (restatement of
    `C18_key` in terms of the two key functions) -/
theorem C18_keyOf_agree (var : Variant) (s : Bytes) (p : Proto) (hp : s.take 3 = p.bytes) :
    ∃ e, parse var s = .ok e ∧ keyOfString var s = some e.key ∧
      ∀ f : EndpointF, f.host = e.host → f.port = e.port → f.timeout = e.timeout → f.istcp = e.istcp →
        keyOfRegistry f = e.key := by
  obtain ⟨e, he, hk⟩ := C18_key var s p hp
  exact ⟨e, he, by simp [keyOfString, he], hk⟩

/-- probe hand-out: `checkStatus` stores the candidate under `Tars2endpoint(ef).Key`; the adapter
    remembers `ef` itself or `Endpoint2tars(Tars2endpoint(ef))`, and `SelectAdapterProxy` deletes
    under `Tars2endpoint(*adp.GetPoint()).Key` — the same key, for every registry entry -/
theorem C18_manager_probe_key (f : EndpointF) :
    keyOfRegistry (endpoint2tars (tars2endpoint f)) = keyOfRegistry f := rfl

/-- direct proxies: the adapter of an endpoint parsed from an address string that begins with
    tcp/udp/ssl remembers `Endpoint2tars(Parse(s))`; its key is the key of the string -/
theorem C18_manager_direct_key (var : Variant) (s : Bytes) (p : Proto) (hp : s.take 3 = p.bytes) :
    ∃ e, parse var s = .ok e ∧ keyOfRegistry (endpoint2tars e) = e.key := by
  obtain ⟨e, he, hk⟩ := C18_key_roundtrip var s p hp
  exact ⟨e, he, hk⟩

/-- a key made any other way need not agree: the key of an Endpoint assembled with the protocol
    word `udp` for every transport kind other than 1 (what a "tcp only if Istcp == 1" shortcut
    does) differs from the registry key of an ssl endpoint -/
theorem C18_counterexample_local_key :
    let f : EndpointF := { host := [B 97], port := 1, timeout := 2, istcp := 2, grid := 0, qos := 0,
                           weight := 0, weightType := 0, authType := 0, setId := [] }
    ({ (tars2endpoint f) with proto := if f.istcp = 1 then sTcp else sUdp } : Endpoint).string ≠ keyOfRegistry f := by
  intro f h
  exact absurd (congrArg List.head? h) (by decide)

/-- tie to the current tree: in tars/endpointmanager.go and tars/application.go every key used
    with the manager's tables, or compared with an Endpoint's `Key`, is the `Key`/`String()` of an
    Endpoint made by `endpoint.Parse` / `endpoint.Tars2endpoint` or a key taken out of a table
    (extractor rule "key sites" of extract/c18.go; this theorem no longer builds when a site
    formats a key itself) -/
theorem C18_key_sites_current_tree : Consts.epKeySitesCanonical = 1 := by decide

/-! ## Purity

`parse`, `Endpoint.string`, `tars2endpoint`, `endpoint2tars` are Lean functions: what they return
depends on their argument only, so two calls with the same argument agree whatever happens in
between or at the same time.  The Go functions are pure as long as they keep no state between
calls; that is what the anchor below (no package-level flag target, no package-level variable
written / address-taken / method-called in the four functions) and the stream `conc` (results of
concurrent calls = results of the same calls made alone) check on the current tree. -/

/-- In Lean this holds of every function (`rfl`); it records the form in which the harness tests the
    Go functions: the result of a call does not depend on the calls made before. -/
theorem C18_parse_pure (var : Variant) (s : Bytes) (history : List Bytes) :
    (history.map (parse var), parse var s).2 = parse var s := rfl

/-- tie to the current tree: every target registered with the FlagSet is a local of `Parse`, and
    none of Parse / String / Tars2endpoint / Endpoint2tars touches a package-level variable
    (extractor rule "purity" of extract/c18.go) -/
theorem C18_parse_pure_current_tree : Consts.epParsePure = 1 := by decide

/-! ## Clause 5: no string makes the parser crash -/

/-- with the guard `Parse` returns for **every** byte string -/
theorem C18_total (s : Bytes) : ∃ e, parse .repaired s = .ok e := by
  by_cases hg : s.length < Consts.epProtoLen ∨ fields s = []
  · exact ⟨_, if_pos hg⟩
  · obtain ⟨_, h⟩ := parse_ok .repaired hg
    exact ⟨_, h⟩

/-- the guard changes nothing where the as-found code did not panic -/
theorem C18_repair_conservative (s : Bytes) (h : ¬ (s.length < 3 ∨ fields s = [])) :
    parse .repaired s = parse .asFound s := parse_eq_parseCore .repaired s h

/-- D1, exact class: as found, `Parse` panics precisely on strings shorter than 3 bytes and on
    strings without a field -/
theorem C18_asFound_panics_iff (s : Bytes) :
    (∃ site, parse .asFound s = .panic site) ↔ (s.length < 3 ∨ fields s = []) :=
  parseCore_panics_iff s

/-- D1 witnesses: `Parse("")`, `Parse("  ")`, `Parse("tc")` (slice `endpoint[0:3]`) and
    `Parse("   ")` (slice `strings.Fields(endpoint)[1:]`) -/
theorem C18_counterexample_D1_empty : parse .asFound [] = .panic "slice-proto" := rfl
theorem C18_counterexample_D1_two_blanks : parse .asFound [B 32, B 32] = .panic "slice-proto" := rfl
theorem C18_counterexample_D1_short : parse .asFound [B 116, B 99] = .panic "slice-proto" := rfl
theorem C18_counterexample_D1_three_blanks : parse .asFound [B 32, B 32, B 32] = .panic "slice-fields" := rfl

/-! ## The property as one statement -/

/-- C18 at full strength on the model, one conjunct per clause above: Clause 1 (`C18_parse`: parse ∘
    render = described endpoint for all descriptions); Clause 3 in the form "a second round trip changes
    nothing `Endpoint2tars` reads", i.e. the ten members of `C18_convert`; Clause 4 (`C18_key`: a
    registry entry for the endpoint a string starting with tcp/udp/ssl denotes gets the same key);
    Clause 5 (`C18_total`: the guarded parser returns for every byte string).  Clause 2 has no conjunct
    of its own: defaults, weight rule and transport kind are what `d.endpoint` in the first conjunct is
    made of. -/
def C18_full : Prop :=
  (∀ (var : Variant) (d : Desc), d.WF FieldTok → parse var (render d) = .ok d.endpoint) ∧
  (∀ e : Endpoint, endpoint2tars (tars2endpoint (endpoint2tars e)) = endpoint2tars e) ∧
  (∀ (var : Variant) (s : Bytes) (p : Proto), s.take 3 = p.bytes →
    ∃ e, parse var s = .ok e ∧ ∀ f : EndpointF, f.host = e.host → f.port = e.port →
      f.timeout = e.timeout → f.istcp = e.istcp → (tars2endpoint f).key = e.key) ∧
  (∀ s : Bytes, ∃ e, parse .repaired s = .ok e)

theorem C18_full_holds : C18_full :=
  ⟨C18_parse, fun _ => rfl, C18_key, C18_total⟩

/-! ## Non-vacuity -/

/-- `ssl -p 80\t--h=a.b ` is a well-formed description … -/
def exampleDesc : Desc :=
  { proto := .ssl,
    items := [ { opt := .p 80, form := .plain, sep := [B 32], sep2 := [B 32, B 32] },
               { opt := .h [B 97, B 46, B 98], form := .ddeq, sep := [B 9], sep2 := [] } ],
    trail := [B 32] }

example : exampleDesc.WF FieldTok := by
  refine ⟨?_, Blank.cons _ _ (by decide) Blank.nil⟩
  intro it hit
  simp only [exampleDesc, List.mem_cons, List.not_mem_nil, or_false] at hit
  rcases hit with hit | hit <;> subst hit
  · exact ⟨Blank.cons _ _ (by decide) Blank.nil, by decide,
      fun _ => ⟨Blank.cons _ _ (by decide) (Blank.cons _ _ (by decide) Blank.nil), by decide⟩,
      by simp [Opt.IntOk], trivial⟩
  · refine ⟨Blank.cons _ _ (by decide) Blank.nil, by decide, fun h => by simp at h, trivial, ?_⟩
    exact (Tok.cons _ _ (by decide) (Tok.cons _ _ (by decide) (Tok.single _ (by decide)))).fieldTok

/-- a non-ASCII host: `é` (C3 A9) is a value in the sense of `FieldTok`, `a b` and `a\u00a0b` are not -/
example : FieldTok [B 195, B 169] := by
  have h : decodeRune (B 195) [B 169] = (233, 1) := by decide
  rw [FieldTok, fields_eq_unicode, fieldsUnicode, fieldsUniAux_cons, h, if_neg (by decide)]
  exact fieldsUniAux_nil _
example : ¬ FieldTok [B 97, B 32, B 98] := by unfold FieldTok; decide
example : ¬ FieldTok [B 97, B 194, B 160, B 98] := by
  have h : isSpaceRune (decodeRune (B 194) [B 160, B 98]).1 = true := by decide
  rw [FieldTok, fields_eq_unicode, fieldsUnicode, fieldsUniAux_ascii _ _ _ (by decide), if_neg (by decide),
    fieldsUniAux_cons, if_pos h, if_neg (by decide)]
  exact fun hh => absurd (List.cons.inj hh).1 (by decide)

/-- … its options are pairwise distinct (hypothesis of `C18_parse_perm` / `C18_parse_present`) … -/
example : (exampleDesc.opts.map Opt.flag).Nodup := by decide

/-- … and denotes host `a.b`, port 80, default timeout, transport kind 2 over protocol `tcp` -/
example : exampleDesc.endpoint.host = [B 97, B 46, B 98] ∧ exampleDesc.endpoint.port = 80 ∧
    exampleDesc.endpoint.timeout = 3000 ∧ exampleDesc.endpoint.istcp = 2 ∧
    exampleDesc.endpoint.proto = sTcp ∧ exampleDesc.endpoint.weight = -1 := by decide

/-- hypothesis of `C18_key`: a string beginning with `udp` -/
example : ([B 117, B 100, B 112, B 32, B 45] : Bytes).take 3 = Proto.udp.bytes := by decide

/-- hypothesis of `C18_repair_conservative` is satisfiable (`tcp`); the D1 witnesses above satisfy its
    negation -/
example : ¬ (([B 116, B 99, B 112] : Bytes).length < 3 ∨ fields [B 116, B 99, B 112] = []) := by decide

end Tars.Endpoint
