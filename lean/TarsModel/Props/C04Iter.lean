/-
  C04 for the code as it is: `Reader.skipField` and `Reader.SkipToStructEnd` of codec.go are a loop
  over an explicit stack (`skipFields`, literal model in Model/SkipIter.lean), not a recursion per
  nesting level (D12).  The recursive family of Model/Wire.lean is the specification all other
  theorems are stated over; the theorems here say that the loop computes exactly the same function
  on EVERY input (well-formed or not), never exhausts the model's loop fuel, and keeps its stack no
  longer than the unread input (+1), and they restate the C04 skip results for the loop.
  Helper lemmas: Proofs/SkipIterSpec.lean, Proofs/SkipIterSim.lean.
-/
import TarsModel.Props.C04
import TarsModel.Proofs.SkipIterSim

namespace Tars
open Consts WFField

/-- for every wire type (also invalid ones) and every reader state (any input: malformed fields,
    errors swallowed inside LIST/MAP elements, zero and negative counts, the int32 wrap of `len*2`,
    extended tags, seeks past the end), the iterative `skipField` returns exactly the result —
    outcome and reader position — of the recursive `skipField`. -/
theorem skipFieldIter_eq (ty : Nat) (r : Reader) : skipFieldIter ty r = skipField r.fuel ty r :=
  SkipIter.skipFieldIter_eq ty r

/-- the same for `SkipToStructEnd` (`skipFields(StructBegin, nil)`) -/
theorem skipToStructEndIter_eq (r : Reader) : skipToStructEndIter r = skipToStructEnd r.fuel r :=
  SkipIter.skipToStructEndIter_eq r

/-- with `Reader.iterFuel` the loop never returns the model artefact `.error .fuel` (nor a panic):
    its outcome is a value or a plain Go error -/
theorem skipIter_never_fuel (ty : Nat) (r : Reader) :
    PlainRes (skipFieldIter ty r).1 ∧ (skipFieldIter ty r).1 ≠ .error .fuel ∧
    PlainRes (skipToStructEndIter r).1 ∧ (skipToStructEndIter r).1 ≠ .error .fuel := by
  rw [skipFieldIter_eq, skipToStructEndIter_eq]
  exact ⟨skipField_fuel_plain ty r, (skipField_fuel_plain ty r).ne_fuel,
    skipToStructEnd_fuel_plain r, (skipToStructEnd_fuel_plain r).ne_fuel⟩

/-- the loop fuel is immaterial from `4·remaining + 4` on (each loop step either consumes a byte,
    pops the stack, or is one of a bounded number of bookkeeping steps per byte/entry);
    `Reader.iterFuel = 6·size + 16` exceeds that for every reader -/
theorem skipIter_fuel_sufficient (F ty : Nat) (r : Reader) (hF : 4 * r.remaining + 4 ≤ F) :
    skipFieldsF F ty [] r = skipField r.fuel ty r ∧ 4 * r.remaining + 4 ≤ r.iterFuel :=
  ⟨SkipIter.skipFieldsF_eq F ty r hF, SkipIter.iterFuel_ge r⟩

/-- during the whole run the explicit stack never holds more entries than there are unread bytes,
    plus one: every push but the first follows the consumption of at least one byte of head.
    Nesting costs heap proportional to the input, and no call stack.  (Holds for every amount of
    loop fuel.) -/
theorem skipIter_stack_bound (ty : Nat) (r : Reader) :
    maxStackFields r.iterFuel ty [] r ≤ r.remaining + 1 ∧
    ∀ F, maxStackFields F ty [] r ≤ r.remaining + 1 :=
  ⟨SkipIter.stack_bound_nil _ ty r, fun F => SkipIter.stack_bound_nil F ty r⟩

/-- the code as it is skips every well-formed field exactly -/
theorem C04_skip_exact_iter (f : WFField) (hf : f.WF) (r : Reader) (t : Bytes)
    (h : r.rest = f.body ++ t) :
    skipFieldIter f.ty r = (.ok (), r.adv f.body.length) ∧ (r.adv f.body.length).rest = t := by
  rw [skipFieldIter_eq]
  exact ⟨C04_skip_exact_default_fuel f hf r t h, r.rest_adv h⟩

/-- `SkipToStructEnd` as it is consumes the remaining (unknown) members of a struct and its
    StructEnd exactly — what the generated `ReadBlock` relies on -/
theorem C04_skipToStructEnd_exact_iter (ms : List WFField) (hw : ∀ m ∈ ms, m.WF) (r : Reader)
    (t : Bytes) (h : r.rest = renderList ms ++ writeHead tyStructEnd 0 ++ t) :
    ∃ r2, skipToStructEndIter r = (.ok (), r2) ∧ r2.rest = t := by
  rw [skipToStructEndIter_eq]
  exact Skip.skipToStructEnd_tail ms hw r t h

/-! ### non-vacuity: the loop evaluated -/

/-- the nested field of Props/C04.lean (all containers, extended tags): 65 body bytes consumed -/
example : (skipFieldIter C04_exField.ty (Reader.mk0 (C04_exField.body ++ [Tars.byte 9]))).1.toBool = true ∧
    (skipFieldIter C04_exField.ty (Reader.mk0 (C04_exField.body ++ [Tars.byte 9]))).2.pos = 65 := by
  decide +kernel

/-- a malformed input: a LIST of 2 whose first element is a struct containing a field of the invalid
    wire type 14 (the error ends the struct and is swallowed by the element loop), the second
    element a BYTE; loop and recursion agree: ok, all 6 bytes consumed -/
example :
    (skipFieldIter tyLIST (Reader.mk0 [Tars.byte 0x00, 0x02, 0x0A, 0x0E, 0x00, 0x07])).2.pos = 6 ∧
    (skipFieldIter tyLIST (Reader.mk0 [Tars.byte 0x00, 0x02, 0x0A, 0x0E, 0x00, 0x07])).1.toBool = true ∧
    (skipField (Reader.mk0 [Tars.byte 0x00, 0x02, 0x0A, 0x0E, 0x00, 0x07]).fuel tyLIST
      (Reader.mk0 [Tars.byte 0x00, 0x02, 0x0A, 0x0E, 0x00, 0x07])).2.pos = 6 := by
  decide +kernel

/-- a truncated struct (StructBegin ×3, then the input ends): error `.eof` from both, and the stack
    held 3 entries for 2 unread bytes -/
example :
    SkipIter.errOf (skipToStructEndIter (Reader.mk0 [Tars.byte 0x0A, 0x0A])).1 = some .eof ∧
    SkipIter.errOf (skipToStructEnd (Reader.mk0 [Tars.byte 0x0A, 0x0A]).fuel
      (Reader.mk0 [Tars.byte 0x0A, 0x0A])).1 = some .eof ∧
    maxStackFields (Reader.mk0 [Tars.byte 0x0A, 0x0A]).iterFuel tyStructBegin [] (Reader.mk0 [Tars.byte 0x0A, 0x0A]) = 3 := by
  decide +kernel

end Tars
