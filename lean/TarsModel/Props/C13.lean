/-
  C13 — Endpoint selection: members only, strict rotation, weight-proportional.

  Full statement (properties.jsonl): every selection strategy (round-robin, random, mod-hash,
  consistent-hash) returns only endpoints of the current set after any history of refresh, add and
  remove, also when selections run concurrently with updates; it never crashes for any weights and
  fails with an error only when no endpoint is eligible.  Round robin serves the endpoints in strict
  rotation; with static weights `Wᵢ > 0` a full cycle contains endpoint `i` exactly
  `max(1, ⌊Wᵢ·R/Wmax⌋)` times, `R = min(100, max(10, ⌊Wmax/Wmin⌋))`.

  What is proved here (about `Model/Selector.lean`, `Model/Weight.lean`), for ALL histories
  (`List Op`: every interleaving of selectors and updaters is such a list, the methods being atomic
  under the selector's lock), all endpoint sets, all weight vectors:
    * `C13_members`, `C13_members_within`,
      `C13_current_set`                        membership / error iff empty / no panic in `Select`
    * `C13_rotation`, `C13_cycle_rotation`     strict rotation; a window of one cycle is a rotation of it
    * `C13_equal_weights_rotation`,
      `C13_rotation_equal_weights`            equal static weights: every window of N is a permutation (tie-break
                                               by `String()`, which must be injective on the set)
    * `C13_modhash`                            mod-hash selects `list[h mod N]` resp. `cycle[h mod |cycle|]`
    * `C13_cycle_len`, `C13_proportional`,
      `C13_weighted_window`                    the smooth-weighted-round-robin counting argument
    * `C13_no_panic`, `C13_alloc_bounded`      with the D2 guard `if maxWeight <= 0 { return nil }` (`Variant.repaired`)
    * `C13_asFound_panic_iff`, `C13_no_panic_asFound_partial`,
      `C13_counterexample_*`, `C13_repaired_D2_add`       exact panic set of the code as found (D2)
  Not modelled: the consistent-hash selector (ring placement is C14's model; its C13 clauses —
  member of the current set, error iff no endpoint with a ring point — are checked on the real code
  by the harness only), data-race freedom (outside any sequentially consistent model).
-/
import TarsModel.Proofs.Selector

namespace Tars.C13
open Tars.Sel

/-! ## Members only (round robin, random, mod-hash; every history) -/

/-- After any history of `Refresh/Add/Remove/Select` (round robin, random or mod hash, weighted or not, either variant
of the list builder, even after updates that panicked), the selector holds exactly the current set,
and a `Select` returns a member of it, or the error when — and only when — the set is empty.  It
never panics. -/
theorem C13_members (v : Variant) (k : Kind) (ew : Bool) (ops : List Op) (arg : Nat) :
    (after v (State.new k ew) ops).endpoints = currentSet ops ∧
    ((currentSet ops = [] ∧ (step v (after v (State.new k ew) ops) (.select arg)).2 = .err) ∨
     (currentSet ops ≠ [] ∧
        ∃ ep ∈ currentSet ops, (step v (after v (State.new k ew) ops) (.select arg)).2 = .selected ep)) := by
  have h := holds_reach v k ew ops
  exact ⟨h.heps, h.heps ▸ select_res h arg⟩

/-- every result inside a history is fine as well: each `Select` of the history returned the error
or a member of the current set at that point of the history -/
theorem C13_members_within (v : Variant) (k : Kind) (ew : Bool) (pre post : List Op) (arg : Nat) :
    ∃ r, (run v (State.new k ew) (pre ++ .select arg :: post)).2[pre.length]? = some r ∧
      ((currentSet pre = [] ∧ r = .err) ∨ (∃ ep ∈ currentSet pre, r = .selected ep)) := by
  have hrun : ∀ (pre : List Op) (s : State),
      (run v s (pre ++ .select arg :: post)).2[pre.length]? = some (step v (after v s pre) (.select arg)).2 := by
    intro pre
    induction pre with
    | nil => intro s; simp [run, after]
    | cons op pre ih =>
      intro s
      have := ih (step v s op).1
      simp only [List.cons_append, run, List.length_cons, List.getElem?_cons_succ]
      rw [this]
      simp [after, run]
  refine ⟨_, hrun pre _, ?_⟩
  rcases (C13_members v k ew pre arg).2 with h | ⟨_, h⟩
  · exact Or.inl h
  · exact Or.inr h

/-- The current set is what the operations say, endpoints being identified by host: `Refresh`
replaces it by the given hosts, `Add` adds a host, `Remove` takes a host away, `Select` leaves it
alone; hosts stay pairwise different. -/
theorem C13_current_set (ops : List Op) (h : List Nat) :
    ((currentSet ops).map (·.host)).Nodup ∧
    (∀ eps r1 r2, (∃ e ∈ currentSet (ops ++ [.refresh eps r1 r2]), e.host = h) ↔ ∃ e ∈ eps, e.host = h) ∧
    (∀ ep r1 r2, (∃ e ∈ currentSet (ops ++ [.add ep r1 r2]), e.host = h) ↔
        ((∃ e ∈ currentSet ops, e.host = h) ∨ h = ep.host)) ∧
    (∀ ep r1 r2, (∃ e ∈ currentSet (ops ++ [.remove ep r1 r2]), e.host = h) ↔
        ((∃ e ∈ currentSet ops, e.host = h) ∧ h ≠ ep.host)) ∧
    (∀ a, currentSet (ops ++ [.select a]) = currentSet ops) := by
  refine ⟨?_, ?_, ?_, ?_, ?_⟩
  · exact currentSet_hosts_nodup ops
  · intro eps r1 r2
    rw [currentSet_snoc]
    exact foldl_specAdd_hosts eps h
  · intro ep r1 r2
    rw [currentSet_snoc]
    exact specAdd_hosts _ _ _
  · intro ep r1 r2
    rw [currentSet_snoc]
    simp only [specStep, ← List.mem_map]
    exact Keyed.mem_keys_filter_ne
  · exact fun a => currentSet_snoc ops _

/-! ## Strict rotation (round robin) -/

/-- Unweighted round robin, any reachable state, any cursor value: `N` consecutive selections over
the unchanged `N`-endpoint set return a permutation of the set — each endpoint (hosts are pairwise
different) exactly once.  The cursor is a `uint64`; the window must not straddle its wrap-around. -/
theorem C13_rotation (v : Variant) (ops : List Op) (args : List Nat)
    (hN : args.length = (currentSet ops).length) (hpos : 0 < args.length)
    (hwrap : (after v (State.new .roundRobin false) ops).lastPosition + args.length < uint64Mod) :
    ∃ picked : List Ep,
      (run v (after v (State.new .roundRobin false) ops) (args.map Op.select)).2 = picked.map Res.selected ∧
      picked.Perm (currentSet ops) ∧ ((currentSet ops).map (·.host)).Nodup := by
  have h := holds_reach v .roundRobin false ops
  exact ⟨_, h.rotation args hN hpos hwrap, List.rotate_perm _ _, currentSet_hosts_nodup ops⟩

example : ∃ (ops : List Op) (args : List Nat),
    args.length = (currentSet ops).length ∧ 0 < args.length ∧
    (after .repaired (State.new .roundRobin false) ops).lastPosition + args.length < uint64Mod :=
  ⟨[.refresh [⟨[97], 1, 2, [116], 5, 0⟩, ⟨[98], 1, 2, [116], 7, 0⟩] 1 0], [0, 0], by decide⟩

/-- Round robin with a weight list (the cycle): `|cycle|` consecutive selections over an unchanged
set read a rotation of the cycle, i.e. return, up to order, exactly the endpoints the cycle lists
(with multiplicity). -/
theorem C13_cycle_rotation (v : Variant) (ew : Bool) (ops : List Op) (args : List Nat)
    (hcyc : (after v (State.new .roundRobin ew) ops).cache ≠ [])
    (hN : args.length = (after v (State.new .roundRobin ew) ops).cache.length)
    (hwrap : (after v (State.new .roundRobin ew) ops).lastStaticWeightPosition + args.length < uint64Mod) :
    (after v (State.new .roundRobin ew) ops).cache = cacheOf v ew (currentSet ops) ∧
    ∃ picked : List Ep,
      (run v (after v (State.new .roundRobin ew) ops) (args.map Op.select)).2 = picked.map Res.selected ∧
      picked.Perm ((cacheOf v ew (currentSet ops)).filterMap ((currentSet ops)[·]?)) ∧
      picked.length = (cacheOf v ew (currentSet ops)).length := by
  have h := holds_reach v .roundRobin ew ops
  obtain ⟨picked, h1, h2, h3⟩ := h.cycle_rotation args hcyc hN hwrap
  exact ⟨h.hcache, picked, h1, h.hcache ▸ h2, h.hcache ▸ h3⟩

/-! ## Mod hash -/

/-- Mod-hash selection is the pure function `h ↦ list[h mod N]` of the hash code and the current set
(`cycle[h mod |cycle|]` through the weight list when there is one); the state is not changed. -/
theorem C13_modhash (v : Variant) (ew : Bool) (ops : List Op) (h : Nat) (hh : h < uint32Mod) :
    (after v (State.new .modHash ew) ops).endpoints = currentSet ops ∧
    (after v (State.new .modHash ew) ops).cache = cacheOf v ew (currentSet ops) ∧
    (∀ (hn : 0 < (currentSet ops).length), cacheOf v ew (currentSet ops) = [] →
        step v (after v (State.new .modHash ew) ops) (.select h)
          = (after v (State.new .modHash ew) ops,
             .selected ((currentSet ops)[h % (currentSet ops).length]'(Nat.mod_lt _ hn)))) ∧
    (∀ (hc : 0 < (cacheOf v ew (currentSet ops)).length),
        ∃ hi : (cacheOf v ew (currentSet ops))[h % (cacheOf v ew (currentSet ops)).length]'(Nat.mod_lt _ hc)
                < (currentSet ops).length,
        step v (after v (State.new .modHash ew) ops) (.select h)
          = (after v (State.new .modHash ew) ops,
             .selected (currentSet ops)[(cacheOf v ew (currentSet ops))[h % (cacheOf v ew (currentSet ops)).length]'(Nat.mod_lt _ hc)])) := by
  have hs := holds_reach v .modHash ew ops
  exact ⟨hs.heps, hs.hcache, hs.select_modHash h hh⟩

/-! ## Weight-proportional cycle (smooth weighted round robin) -/

/-- **Cycle length.**  Static weights `Wᵢ > 0` (`int32`), `M` the greatest, `m` the least:
`BuildStaticWeightList` returns a cycle of length `Σᵢ max(1, ⌊Wᵢ·R/M⌋)`, `R = min(100, max(10, ⌊M/m⌋))`. -/
theorem C13_cycle_len (v : Variant) (eps : List Ep) (M m : Int)
    (hst : ∀ e ∈ eps, e.weightType = 1)
    (hM : (∀ e ∈ eps, e.weight ≤ M) ∧ ∃ e ∈ eps, e.weight = M)
    (hm : (∀ e ∈ eps, m ≤ e.weight) ∧ ∃ e ∈ eps, e.weight = m)
    (hpos : 0 < m) (h32 : ∀ e ∈ eps, e.weight ≤ 2147483647) :
    ∃ cap cycle, buildStaticWeightList v eps = .ok cap cycle ∧
      (cycle.length : Int) = (eps.map fun e => max 1 (e.weight * (min 100 (max 10 (M / m))) / M)).sum ∧
      ∀ i ∈ cycle, i < eps.length := by
  obtain ⟨cap, l, h1, _, h3⟩ := build_positive_count v hst hM hm hpos h32
  exact ⟨cap, l, h1, h3, build_ok_mem h1⟩

/-- **Proportionality.**  Under the same hypotheses, index `i` occurs in the cycle exactly
`max(1, ⌊Wᵢ·R/M⌋)` times: traffic is proportional to weight (the counting argument for the smooth
weighted round robin: `curᵢ(k) = (k+1)·wᵢ − T·picksᵢ(k)`, `Σ cur = T`, the picked maximum is positive,
hence `picksᵢ ≤ wᵢ` throughout and equality after `T = Σ wᵢ` rounds). -/
theorem C13_proportional (v : Variant) (eps : List Ep) (M m : Int)
    (hst : ∀ e ∈ eps, e.weightType = 1)
    (hM : (∀ e ∈ eps, e.weight ≤ M) ∧ ∃ e ∈ eps, e.weight = M)
    (hm : (∀ e ∈ eps, m ≤ e.weight) ∧ ∃ e ∈ eps, e.weight = m)
    (hpos : 0 < m) (h32 : ∀ e ∈ eps, e.weight ≤ 2147483647) :
    ∃ cap cycle, buildStaticWeightList v eps = .ok cap cycle ∧
      ∀ i (hi : i < eps.length),
        (cycle.count i : Int) = max 1 (eps[i].weight * (min 100 (max 10 (M / m))) / M) := by
  obtain ⟨cap, l, h1, h2, _⟩ := build_positive_count v hst hM hm hpos h32
  exact ⟨cap, l, h1, h2⟩

/-- the hypotheses are satisfiable (weights 5, 1, 1: the cycle of the example in the repository's tests) -/
example :
    let eps : List Ep := [⟨[97], 1, 2, [116], 5, 1⟩, ⟨[98], 1, 2, [116], 1, 1⟩, ⟨[99], 1, 2, [116], 1, 1⟩]
    (∀ e ∈ eps, e.weightType = 1) ∧ ((∀ e ∈ eps, e.weight ≤ 5) ∧ ∃ e ∈ eps, e.weight = 5) ∧
      ((∀ e ∈ eps, 1 ≤ e.weight) ∧ ∃ e ∈ eps, e.weight = 1) ∧ (∀ e ∈ eps, e.weight ≤ 2147483647) := by
  decide

/-- **Proportionality, at the selector.**  Weighted round robin after any history whose current
set carries positive static weights: one window of `|cycle|` consecutive selections returns endpoint
`i` of the set exactly `max(1, ⌊Wᵢ·R/M⌋)` times. -/
theorem C13_weighted_window (v : Variant) (ops : List Op) (args : List Nat) (M m : Int)
    (hst : ∀ e ∈ currentSet ops, e.weightType = 1)
    (hM : (∀ e ∈ currentSet ops, e.weight ≤ M) ∧ ∃ e ∈ currentSet ops, e.weight = M)
    (hm : (∀ e ∈ currentSet ops, m ≤ e.weight) ∧ ∃ e ∈ currentSet ops, e.weight = m)
    (hpos : 0 < m) (h32 : ∀ e ∈ currentSet ops, e.weight ≤ 2147483647)
    (hN : args.length = (after v (State.new .roundRobin true) ops).cache.length)
    (hwrap : (after v (State.new .roundRobin true) ops).lastStaticWeightPosition + args.length < uint64Mod) :
    ∃ picked : List Ep,
      (run v (after v (State.new .roundRobin true) ops) (args.map Op.select)).2 = picked.map Res.selected ∧
      (picked.length : Int)
        = ((currentSet ops).map fun e => max 1 (e.weight * (min 100 (max 10 (M / m))) / M)).sum ∧
      ∀ i (hi : i < (currentSet ops).length),
        (picked.count (currentSet ops)[i] : Int)
          = max 1 ((currentSet ops)[i].weight * (min 100 (max 10 (M / m))) / M) := by
  obtain ⟨cap, l, hb, hcnt, hlen⟩ := build_positive_count v hst hM hm hpos h32
  have hcO : cacheOf v true (currentSet ops) = l := by simp [cacheOf, hb]
  obtain ⟨eM, heM, _⟩ := hM.2
  have hlpos : l ≠ [] := fun e => by
    have := hcnt 0 (List.length_pos_of_mem heM)
    rw [e, List.count_nil] at this
    omega
  have hcache : (after v (State.new .roundRobin true) ops).cache = l :=
    (holds_reach v .roundRobin true ops).hcache.trans hcO
  obtain ⟨_, picked, h1, h2, h3⟩ := C13_cycle_rotation v true ops args (by rw [hcache]; exact hlpos) hN hwrap
  rw [hcO] at h2 h3
  refine ⟨picked, h1, by rw [h3, hlen]; rfl, ?_⟩
  intro i hi
  have hnd : (currentSet ops).Nodup := List.Nodup.of_map _ (currentSet_hosts_nodup ops)
  rw [h2.count_eq, count_filterMap_getElem _ hnd i hi l (build_ok_mem hb)]
  exact hcnt i hi

/-! ## Equal static weights: the weighted round robin is a strict rotation too -/

/-- **Equal static weights, the cycle.**  All endpoints carry the same static weight `W > 0` and
their `String()`s are pairwise different (the tie-break of the `sort.Slice` comparator is then a
total order on the list — a key that is empty or shared, such as the `Key` field of a plain struct
value, would not do): the cycle has length `10·N` and EVERY window of `N` consecutive entries is a
permutation of the `N` indices. -/
theorem C13_equal_weights_rotation (v : Variant) (eps : List Ep) (W : Int) (hne : eps ≠ [])
    (hst : ∀ e ∈ eps, e.weightType = 1) (hW : ∀ e ∈ eps, e.weight = W) (hpos : 0 < W)
    (h32 : W ≤ 2147483647) (hkeys : (eps.map Ep.str).Nodup) :
    ∃ cap cycle, buildStaticWeightList v eps = .ok cap cycle ∧ cycle.length = 10 * eps.length ∧
      ∀ a, a + eps.length ≤ cycle.length →
        ((cycle.drop a).take eps.length).Perm (List.range eps.length) := by
  obtain ⟨cap, σ, hb, hσ⟩ := build_equal v hne hst hW hpos h32 hkeys
  have hlen : σ.length = eps.length := by simpa using hσ.length_eq
  refine ⟨cap, _, hb, by simp, ?_⟩
  intro a ha
  simp only [List.length_map, List.length_range] at ha
  have hwin : (((List.range (10 * eps.length)).map (pickAt σ)).drop a).take eps.length
      = (List.range σ.length).map (fun j => pickAt σ (a + j)) := by
    apply List.ext_getElem
    · simp only [List.length_take, List.length_drop, List.length_map, List.length_range]; omega
    · intro j h1 h2
      simp only [List.getElem_take, List.getElem_drop, List.getElem_map, List.getElem_range]
  rw [hwin, window_pickAt σ a]
  exact (List.rotate_perm σ a).trans hσ

example :
    let eps : List Ep := [⟨[97], 1, 2, [116], 5, 1⟩, ⟨[98], 1, 2, [116], 5, 1⟩, ⟨[99], 1, 2, [116], 5, 1⟩]
    eps ≠ [] ∧ (∀ e ∈ eps, e.weightType = 1) ∧ (∀ e ∈ eps, e.weight = 5) ∧ (eps.map Ep.str).Nodup := by
  decide

/-- **Equal static weights, at the selector.**  Weighted round robin after any history whose
current set carries one static weight `W > 0` and pairwise different `String()`s: `N` consecutive
selections over the unchanged `N`-endpoint set return a permutation of the set, from any cursor. -/
theorem C13_rotation_equal_weights (v : Variant) (ops : List Op) (args : List Nat) (W : Int)
    (hne : currentSet ops ≠ [])
    (hst : ∀ e ∈ currentSet ops, e.weightType = 1) (hW : ∀ e ∈ currentSet ops, e.weight = W)
    (hpos : 0 < W) (h32 : W ≤ 2147483647) (hkeys : ((currentSet ops).map Ep.str).Nodup)
    (hN : args.length = (currentSet ops).length)
    (hwrap : (after v (State.new .roundRobin true) ops).lastStaticWeightPosition + args.length < uint64Mod) :
    ∃ picked : List Ep,
      (run v (after v (State.new .roundRobin true) ops) (args.map Op.select)).2 = picked.map Res.selected ∧
      picked.Perm (currentSet ops) := by
  obtain ⟨cap, σ, hb, hσ⟩ := build_equal v hne hst hW hpos h32 hkeys
  exact (holds_reach v .roundRobin true ops).equal_weights_window hb hσ hne args hN hwrap

/-! ## No crash for any weights — with the guard; exact failure set of the code as found (D2) -/

/-- With the guard of `pending/C13-static-weight-guard.patch` no operation of any history, on any
strategy, with any weights (zero, negative, huge, mixed weight types), panics. -/
theorem C13_no_panic (k : Kind) (ew : Bool) (ops : List Op) :
    ∀ r ∈ (run .repaired (State.new k ew) ops).2, ∀ site, r ≠ .panic site := by
  intro r hr site
  exact run_results (fun r => r ≠ .panic site)
    (fun hs op h => (step_panic hs h).elim fun eps => build_repaired_no_panic eps site) ops
    (Holds.new .repaired k ew) r hr

/-- … and the list builder itself never panics, asks `make` for at most `100·N + 1` slots and never
appends more than it asked for (no re-allocation: the capacity of the patch is an upper bound). -/
theorem C13_alloc_bounded (eps : List Ep) :
    (∀ site, buildStaticWeightList .repaired eps ≠ .panic site) ∧
    ∀ cap l, buildStaticWeightList .repaired eps = .ok cap l →
      0 < cap ∧ cap ≤ 100 * eps.length + 1 ∧ (l.length : Int) ≤ cap :=
  ⟨fun site => build_repaired_no_panic eps site,
   fun _ _ => build_repaired_bounds⟩

/-- **D2, exact boundary.**  `BuildStaticWeightList` as found panics exactly when every endpoint has
a static weight type and either the weights sum to less than −100 (`make` with a negative capacity)
or the greatest weight is 0 (`… / maxWeight`). -/
theorem C13_asFound_panic_iff (eps : List Ep) :
    (∃ site, buildStaticWeightList .asFound eps = .panic site) ↔
      (∀ e ∈ eps, e.weightType = 1) ∧
        (sumWeights eps + 100 < 0 ∨ (eps ≠ [] ∧ (∀ e ∈ eps, e.weight ≤ 0) ∧ ∃ e ∈ eps, e.weight = 0)) :=
  build_asFound_panic_iff eps

/-- hence no panic as found when all weights are positive (what the repository's test suite exercises) -/
theorem C13_no_panic_asFound_partial (eps : List Ep) (hpos : ∀ e ∈ eps, 0 < e.weight) (site : String) :
    buildStaticWeightList .asFound eps ≠ .panic site := by
  intro h
  obtain ⟨_, h2⟩ := (build_asFound_panic_iff eps).1 ⟨site, h⟩
  rcases h2 with h2 | ⟨_, _, e, he, h0⟩
  · have := sumWeights_nonneg eps hpos
    omega
  · have := hpos e he; omega

/-- a static-weight endpoint (`-v 1`) with the given host byte and weight -/
def ep (h : Nat) (w : Int) : Ep := ⟨[h], 19386, 60000, [116, 99, 112], w, 1⟩

/-- D2 witness 1: a single endpoint `-w 0 -v 1` — integer divide by zero -/
theorem C13_counterexample_D2_divzero :
    buildStaticWeightList .asFound [ep 97 0] = .panic "integer divide by zero" := by decide

/-- D2 witness 2: weights −60, −50 (sum < −100) — `make` with negative capacity -/
theorem C13_counterexample_D2_negcap :
    buildStaticWeightList .asFound [ep 97 (-60), ep 98 (-50)] = .panic "makeslice: cap out of range" := by
  decide

/-- D2 witness 3: a healthy endpoint next to a very negative one (5, −200) -/
theorem C13_counterexample_D2_mixed :
    buildStaticWeightList .asFound [ep 97 5, ep 98 (-200)] = .panic "makeslice: cap out of range" := by
  decide

/-- D2 at the selector: `Add` of a `-w 0 -v 1` endpoint to a weighted round robin panics as found … -/
theorem C13_counterexample_D2_add :
    (step .asFound (State.new .roundRobin true) (.add (ep 97 0) 0 0)).2 = .panic "integer divide by zero" := by
  decide

/-- … and does not with the guard (the selector then rotates over the plain list). -/
theorem C13_repaired_D2_add :
    (run .repaired (State.new .roundRobin true) [.add (ep 97 0) 0 0, .select 0]).2
      = [.done, .selected (ep 97 0)] := by
  decide

/-- D2, allocation: as found the requested capacity is the sum of the raw weights + 100 — eight
endpoints of weight `MaxInt32` ask for 2³⁴ slots (128 GiB; observed: fatal out of memory), the
repaired function for 81. -/
theorem C13_counterexample_D2_alloc :
    (∃ l, buildStaticWeightList .asFound (List.replicate 8 (ep 97 2147483647)) = .ok 17179869276 l) ∧
    (∃ l, buildStaticWeightList .repaired (List.replicate 8 (ep 97 2147483647)) = .ok 81 l) := by
  have hmem : ∀ e ∈ List.replicate 8 (ep 97 2147483647), e = ep 97 2147483647 := fun _ =>
    List.eq_of_mem_replicate
  have hst : AllStatic (List.replicate 8 (ep 97 2147483647)) := fun e he => hmem e he ▸ rfl
  have hW : ∀ e ∈ List.replicate 8 (ep 97 2147483647), e.weight = 2147483647 := fun e he =>
    hmem e he ▸ rfl
  exact ⟨⟨_, build_const_eq .asFound (by simp) hst hW (by decide) (by decide)⟩,
    ⟨_, build_const_eq .repaired (by simp) hst hW (by decide) (by decide)⟩⟩

end Tars.C13
