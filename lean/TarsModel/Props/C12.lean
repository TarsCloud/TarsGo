import TarsModel.Proofs.ServerConnNotify
import TarsModel.Proofs.ServerConnDrop
import TarsModel.Proofs.AppShutdown

/-!
# C12 — Graceful shutdown answers every request already received

The property theorems, their variants and schedules (helper lemmas: `Proofs/ServerConn*.lean`,
`Proofs/AppShutdown.lean`; model: `Model/ServerConn.lean`, an LTS of
`tcpHandler.Handle / recv / handleConn / CloseIdles / sendCloseMsg / OnShutdown`, `TarsServer.Shutdown`
and the part of `gpool` the handlers go through).

"All numbers of in-flight and queued requests at the moment of shutdown, all handler durations, pool
sizes 0 and N>0, all interleavings of accept loop, receive loops, handlers and the shutdown poller" is:
every configuration `cfg`, every schedule `acts : List Action` and every state `s` with
`run cfg acts = some s` (any number of connections and requests; a handler's duration is the number
of other actions scheduled between its `start` and `fin`; nothing is bounded).

Vocabulary: `k.srvClosed` — the server has executed `conn.Close()` on connection `k`; `k.buf` — packages
`conn.Read` has returned and `handleConn` has not been called for; `k.reqs` — the requests
`handleConn` has counted (`numInvoke+1`), `q.st = .done true` — the handler of `q` ran, wrote its
response to the open connection and executed its deferred `numInvoke-1`; `q.dispOpen` — the connection
was open when `handleConn` counted `q`; `k.notified` — `sendCloseMsg` wrote the close message to the
open connection; `s.spc = .returned d` — `Shutdown` has returned (`d = true`: because `CloseIdles`
reported all connections closed, `false`: because its context expired).
-/
namespace Tars.ServerConn

/-- the steps of the handler of request `i` of connection `c` -/
def handlerActions (c i : Nat) : List Action :=
  [.start c i, .fin c i, .finEarly c i, .write c i, .skip c i, .dec c i]

/-- a connection whose goroutine exists and has not finished: `Accept` returned it, its deferred close
has not run -/
def Conn.live (k : Conn) : Prop := k.rpc ≠ .backlog ∧ k.rpc ≠ .closed

/-- C12 at full strength for the variant `cfg`, over all schedules:
 1. answered before close: when the server has closed a connection, nothing it had read from it is
    left — no package waits in the receive buffer and every dispatched request is `done true`;
 2. executed: a dispatched, unfinished request can always still be executed — without a pool its
    handler's next step is enabled, with a pool the dispatcher that must hand it to a worker is
    still taking jobs;
 3. notified: when `sendCloseMsg` runs, every connection the accept loop has handed to a goroutine
    and that is still open gets the close message (and keeps that fact);
 4. return: `Shutdown` returns through `CloseIdles` only when every accepted connection is closed. -/
def C12_full (cfg : Cfg) : Prop :=
  ∀ (acts : List Action) (s : State), run cfg acts = some s →
    (∀ (c : Nat) (k : Conn), s.conns[c]? = some k → k.srvClosed = true →
        k.buf = [] ∧ ∀ q ∈ k.reqs, q.st = .done true) ∧
    (∀ (c i : Nat) (k : Conn) (q : Req), s.conns[c]? = some k → k.reqs[i]? = some q → q.st.isDone = false →
        (cfg.pool = none → ∃ a ∈ handlerActions c i, (step cfg s a).isSome = true) ∧
        (cfg.pool ≠ none → s.pst = .live)) ∧
    (∀ (a : Action) (s1 : State) (post : List Action) (s2 : State),
        (a = .closeMsg ∨ (a = .ciBegin ∧ s.listenClosed = 1)) → step cfg s a = some s1 →
        runFrom cfg s1 post = some s2 →
        ∀ (c : Nat) (k : Conn), s.conns[c]? = some k → k.live → k.srvClosed = false →
          ∃ k2, s2.conns[c]? = some k2 ∧ k2.notified = true) ∧
    (s.spc = .returned true →
        ∀ (c : Nat) (k : Conn), s.conns[c]? = some k → k.rpc ≠ .backlog → k.srvClosed = true)

/-! ## The current code: the pool is released after the connections have drained, and `CloseIdles`
only wakes receivers (commits 41042a2 and cd3726f of /repo: `pending/C12-fix-pool-release.patch`,
`pending/C12-d16-closeidles-wake.patch`) -/

/-- clauses 1 and 2 of `C12_full`: every request the server has read from a connection is executed
and answered before the server closes that connection -/
def C12_safety (cfg : Cfg) : Prop :=
  ∀ (acts : List Action) (s : State), run cfg acts = some s →
    (∀ (c : Nat) (k : Conn), s.conns[c]? = some k → k.srvClosed = true →
        k.buf = [] ∧ ∀ q ∈ k.reqs, q.st = .done true) ∧
    (∀ (c i : Nat) (k : Conn) (q : Req), s.conns[c]? = some k → k.reqs[i]? = some q → q.st.isDone = false →
        (cfg.pool = none → ∃ a ∈ handlerActions c i, (step cfg s a).isSome = true) ∧
        (cfg.pool ≠ none → s.pst = .live))

/-- **Answered before close** (clause 1 of `C12_full`, at full strength): when `CloseIdles` leaves the
closing to the receive loops, then for every pool configuration and every interleaving of accept loop,
receive loops, handlers, pool and shutdown poller: once the server has closed a connection, no
package that `conn.Read` returned is left in its receive buffer, and EVERY request handed to
`handleConn` has been executed, its response written to the open connection and its handler
finished. No atomicity hypothesis, no restriction to requests dispatched before the close. (`decEarly =
false`: the handler decrements `numInvoke` after its write, as the code does; see
`C12_early_decrement_counterexample`.) -/
theorem C12_answered_before_close (cfg : Cfg) (hci : cfg.ci = .kickOnly) (hde : cfg.decEarly = false)
    (acts : List Action) (s : State) (hrun : run cfg acts = some s) (c : Nat) (k : Conn) (hk : s.conns[c]? = some k)
    (hcl : k.srvClosed = true) : k.buf = [] ∧ ∀ q ∈ k.reqs, q.st = .done true :=
  answered_before_close hci hde (run_reachable hrun) hk hcl

/-- **Executed, without a pool**: for every variant and every interleaving, the handler of a request
that `handleConn` has counted always has its next step enabled (goroutine per request: nothing can
block it), so under a fair scheduler it runs to its end — also on the early return for one-way requests and empty
responses, provided the decrement of `numInvoke` is deferred. -/
theorem C12_handler_enabled (cfg : Cfg) (hpool : cfg.pool = none) (hdec : cfg.decDeferred = true)
    (acts : List Action) (s : State)
    (hrun : run cfg acts = some s) (c i : Nat) (k : Conn) (q : Req) (hk : s.conns[c]? = some k)
    (hq : k.reqs[i]? = some q) (hnd : q.st.isDone = false) :
    ∃ a ∈ handlerActions c i, (step cfg s a).isSome = true := by
  -- without a pool no job is in the dispatcher's hand, with the deferred decrement none has leaked
  have hp := (((ginv_reachable (run_reachable hrun)).conns c k hk).reqs q (List.mem_of_getElem? hq)).possible
  cases hst : q.st with
  | queued =>
    exact ⟨.start c i, by simp [handlerActions], by simp [step, poolOn, hpool, updConn, hk, cStart, cSetSt, hq, hst]⟩
  | handed => simp [hst, HSt.possible, poolOn, hpool] at hp
  | running =>
    cases hde : cfg.decEarly with
    | false =>
      exact ⟨.fin c i, by simp [handlerActions], by simp [step, hde, updConn, hk, cFin, cSetSt, hq, hst]⟩
    | true =>
      exact ⟨.finEarly c i, by simp [handlerActions], by simp [step, hde, updConn, hk, cFinEarly, hq, hst]⟩
  | writePending => simp [hst, HSt.isDone] at hnd
  | doneLate ok => simp [hst, HSt.isDone] at hnd
  | finished =>
    cases hnr : q.noReply with
    | false =>
      exact ⟨.write c i, by simp [handlerActions], by simp [step, updConn, hk, cWrite, cSetSt, hq, hst, hnr]⟩
    | true =>
      exact ⟨.skip c i, by simp [handlerActions], by simp [step, updConn, hk, cSkip, cSetSt, hq, hst, hnr]⟩
  | wrote ok =>
    exact ⟨.dec c i, by simp [handlerActions], by simp [step, updConn, hk, cDec, hq, hst]⟩
  | done ok => simp [hst, HSt.isDone] at hnd
  | leaked => simp [hst, HSt.possible, hdec] at hp

/-- **Executed, with a pool**: when `Handle` waits for all connection goroutines before
`pool.Release()`, then for any pool size, any queue capacity, any behaviour of `CloseIdles` and every
interleaving: as long as some request has been counted by `handleConn` and its handler has not
finished, the pool's dispatcher is alive (`Release` has not even been called) — no queued handler is
ever dropped. Together with C19 (the live pool executes every submitted job) this is clause 2 of
`C12_full` for the pool. -/
theorem C12_fixed_pool (cfg : Cfg) (hfix : cfg.releaseAfterDrain = true) (acts : List Action) (s : State)
    (hrun : run cfg acts = some s) (c i : Nat) (k : Conn) (q : Req) (hk : s.conns[c]? = some k)
    (hq : k.reqs[i]? = some q) (hnd : q.st.isDone = false) : s.pst = .live := by
  have hI := ginv_reachable (run_reachable hrun)
  have hki := hI.conns c k hk
  have hpos := hki.numInvoke_pos hq hnd
  -- once `Release` is called every goroutine is gone, and a goroutine that is gone has nothing counted
  exact Decidable.byContradiction fun hp => by
    have := hki.numInvoke_zero ((hI.poolInv hfix hp).2 c k hk); omega

/-- **C12, safety part, for the repaired code**: clauses 1 and 2 of `C12_full` hold for every pool
configuration and every interleaving. (Clauses 3 and 4 — notification and return — are
`C12_notify` and `C12_returns`, which hold for connections in the connection table; see
`C12_notify_unregistered_counterexample` for what is missing there.) -/
theorem C12_repaired_safety (pool : Option (Nat × Nat)) : C12_safety (repaired pool) := by
  intro acts s hrun
  refine ⟨fun c k hk hcl => C12_answered_before_close _ rfl rfl acts s hrun c k hk hcl, ?_⟩
  intro c i k q hk hq hnd
  exact ⟨fun hp => C12_handler_enabled _ hp rfl acts s hrun c i k q hk hq hnd,
         fun _ => C12_fixed_pool _ rfl acts s hrun c i k q hk hq hnd⟩

/-- **The current tree is the repaired variant.** The extractor regenerates
`Consts.srvHandleWaitsBeforeRelease` (calls of `Wait()` in `tcpHandler.Handle`),
`Consts.srvCloseIdlesCloses` (calls of `conn.conn.Close()` in `tcpHandler.CloseIdles`),
`Consts.srvInvokeDecDeferred` (`defer atomic.AddInt32(&connSt.numInvoke, -1)` in the handler closure
of `tcpHandler.handleConn`), `Consts.srvInvokeDecBeforeWrite` (a decrement before `conn.Write`) and
`Consts.srvRecvDrainTickFirst` (the deferred drain of `recv` tests `numInvoke` after a tick) from the source
on every run; if either repair is reverted, the decrement is no longer deferred or moves before the write,
or the drain tests before it waits, this theorem no longer builds. -/
theorem C12_current_tree (pool : Option (Nat × Nat)) : treeCfg pool = repaired pool := by
  simp [treeCfg, repaired, Consts.srvHandleWaitsBeforeRelease, Consts.srvCloseIdlesCloses,
    Consts.srvInvokeDecDeferred, Consts.srvInvokeDecBeforeWrite, Consts.srvRecvDrainTickFirst]

/-- **The deferred close waits without bound.** In the model a connection's own close (`drainClose`)
has `numInvoke = 0` as its only guard, which is what `C12_answered_before_close` rests on: however long a
request that has been read waits — in the pool's job queue, behind other connections' work — its
connection stays open. Regenerated from the source on every run: this theorem no longer builds when the
drain loop of the deferred close gets another exit (a bound on the ticks, a timeout, a second `break`). -/
theorem C12_current_tree_drain_unbounded : treeDrainUnbounded = true := by
  simp [treeDrainUnbounded, Consts.srvRecvDrainUnbounded]

/-- hence the safety part of C12 holds for the model variant of the current tree -/
theorem C12_current_tree_safety (pool : Option (Nat × Nat)) : C12_safety (treeCfg pool) := by
  rw [C12_current_tree]; exact C12_repaired_safety pool

/-- non-vacuity, and the D16 schedule under the repaired `CloseIdles`: the same connection with a
stale idle stamp and a request just read; `CloseIdles` looks at it (it only wakes the receiver and
reports "not all closed"); the request is dispatched, executed and answered; the receiver sees the
wake-up, drains and closes; the client has the response, the close message and EOF; the next
`CloseIdles` call finds the table empty and `Shutdown` returns. -/
example : ∃ s, run (repaired none)
    [.connect, .accept 0, .register 0, .stamp 0, .age 0, .send 0 7, .read 0 1,
     .shutdownCall, .setClosed, .acceptExit, .onShutdownRet, .ciBegin, .ciVisit 0, .ciEnd,
     .dispatch 0, .start 0 0, .fin 0 0, .write 0 0, .dec 0 0, .stamp 0, .readErr 0 false, .drainTick 0, .drainClose 0,
     .recvRsp 0 0, .recvMsg 0, .recvEof 0, .ciBegin, .ciEnd] = some s ∧
    s.spc = .returned true ∧
    (s.conns.map fun k => (k.srvClosed, k.reqs.map (·.st), k.got, k.gotMsg, k.sawEof)) =
      [(true, [.done true], [7], true, true)] := by
  exact ⟨_, rfl, by decide⟩

/-! ## `numInvoke` accounting on the handler's early return (one-way requests, empty responses) -/

/-- the handler of the request is over (it will touch neither the connection nor `numInvoke` again) -/
def HSt.returned : HSt → Bool
  | .done _ | .leaked | .doneLate _ => true
  | _ => false

/-- the handler will still call `conn.Write` (or has not even decided that there is nothing to write) -/
def HSt.writeDue : HSt → Bool
  | .queued | .handed | .running | .finished | .writePending => true
  | _ => false

/-- **Drained connections can be closed**: with the deferred decrement, for every interleaving,
`numInvoke` of a connection is exactly the number of its requests whose handler has not returned —
whatever path the handler took (response written, write failed, one-way request, empty response).
So once the receive loop has returned and every handler of the connection has returned, the deferred
drain-then-close is enabled: the server closes the connection. -/
theorem C12_drain_enabled (cfg : Cfg) (hdec : cfg.decDeferred = true) (hde : cfg.decEarly = false)
    (acts : List Action) (s : State)
    (hrun : run cfg acts = some s) (c : Nat) (k : Conn) (hk : s.conns[c]? = some k) :
    k.numInvoke = k.reqs.countP (fun q => !q.st.returned) ∧
    (k.rpc = .draining → (∀ q ∈ k.reqs, q.st.returned = true) → (step cfg s (.drainClose c)).isSome = true) := by
  have hki := (ginv_reachable (run_reachable hrun)).conns c k hk
  -- in the states this variant has, "decrement not yet run" is "not yet returned"
  have hst : ∀ st : HSt, st.possible cfg = true → (!st.isDone) = !st.returned := by
    intro st; cases st <;> simp [HSt.possible, HSt.isDone, HSt.returned, hdec, hde]
  have hcount : k.numInvoke = k.reqs.countP (fun q => !q.st.returned) :=
    hki.count.trans (List.countP_congr fun q hq => by rw [notDone, hst q.st (hki.reqs q hq).possible])
  refine ⟨hcount, ?_⟩
  intro hpc hall
  have hz : k.numInvoke = 0 := by
    rw [hcount, List.countP_eq_zero]
    intro q hq; simp [hall q hq]
  simp [step, updConn, hk, cDrainClose, hpc, hz]

/-- **The drain condition implies that no write is pending.** The handler's order is invoke → write →
decrement: for every interleaving, `numInvoke == 0` — what the receive loop's deferred function
waits for before it closes the connection — means that no handler of the connection still has its
`conn.Write` before it (none is queued, running, or between `invoke` and `Write`), however long
those writes were blocked by a client that does not read. -/
theorem C12_drain_no_write_pending (cfg : Cfg) (hde : cfg.decEarly = false) (acts : List Action) (s : State)
    (hrun : run cfg acts = some s) (c : Nat) (k : Conn) (hk : s.conns[c]? = some k)
    (hz : k.numInvoke = 0) : ∀ q ∈ k.reqs, q.st.writeDue = false := by
  have hki := (ginv_reachable (run_reachable hrun)).conns c k hk
  intro q hq
  -- a handler whose decrement has run has its write behind it, unless the decrement is the early one
  have hst : ∀ st : HSt, st.possible cfg = true → (!st.isDone) = false → st.writeDue = false := by
    intro st; cases st <;> simp [HSt.possible, HSt.isDone, HSt.writeDue, hde]
  exact hst q.st (hki.reqs q hq).possible (hki.notDone_of_zero hz q hq)

/-- the current code with `numInvoke--` directly after `invoke`, before the write -/
def earlyCfg : Cfg := { repaired none with decDeferred := false, decEarly := true }

/-- **The early decrement.** One request: read, counted, invoked; the handler decrements `numInvoke`
and is then blocked in `conn.Write` (the client does not read). `Shutdown`: the close message is
queued behind it, the receive loop is woken and returns; its deferred function sees `numInvoke == 0`
and closes the connection; the handler's write fails. The request was read on the open connection and
is never answered (the client gets EOF without its response; in the model a `conn.Write` is one step, so
the close message written before the close is delivered — on the real socket it is stuck behind the
blocked response and lost as well). -/
theorem C12_early_decrement_counterexample :
    ∃ s, run earlyCfg
        [.connect, .accept 0, .register 0, .stamp 0, .send 0 5, .read 0 1, .dispatch 0, .start 0 0,
         .finEarly 0 0, .stamp 0, .shutdownCall, .setClosed, .acceptExit, .onShutdownRet, .ciBegin,
         .ciVisit 0, .ciEnd, .readErr 0 false, .drainTick 0, .drainClose 0, .lateWrite 0 0, .recvMsg 0, .recvEof 0] = some s ∧
      (s.conns.map fun k => (k.srvClosed, k.numInvoke, k.got, k.sawEof)) = [(true, 0, [], true)] ∧
      (s.conns.map fun k => k.reqs.map (fun q => (q.dispOpen, q.st))) = [[(true, .doneLate false)]] ∧
      ¬ C12_safety earlyCfg := by
  refine exists_of_eq_some rfl fun hs => ⟨by decide, by decide, fun hsafe => ?_⟩
  have := ((hsafe _ _ hs).1 0 _ rfl (by decide)).2 { id := 5, st := .doneLate false, dispOpen := true } (by decide)
  simp at this

/-- the current code with the decrement as the handler's last statement instead of a `defer` -/
def leakCfg (pool : Option (Nat × Nat)) : Cfg := { repaired pool with decDeferred := false }

/-- One connection, one one-way request (or one whose response is empty): it is read, counted,
executed; the handler takes the early return. Then `Shutdown`: the close message is sent, the receive
loop is woken and returns. -/
def leakSchedule : List Action :=
  [.connect, .accept 0, .register 0, .stamp 0, .sendNR 0 5, .read 0 1, .dispatch 0, .start 0 0, .fin 0 0,
   .skip 0 0, .stamp 0, .shutdownCall, .setClosed, .acceptExit, .onShutdownRet, .ciBegin, .ciVisit 0,
   .ciEnd, .readErr 0 false, .drainTick 0, .recvMsg 0]

/-- **The leak.** If the handler's `numInvoke--` is not deferred, `leakSchedule` is a run after which
nothing is in flight (the only handler has returned), the client has the close message and the receive
loop has returned — yet `numInvoke = 1`, and in EVERY continuation the server never closes the
connection and `Shutdown` never returns through `CloseIdles` (only its context's expiry ends it). -/
theorem C12_oneway_leak_counterexample :
    ∃ s, run (leakCfg none) leakSchedule = some s ∧
      (s.conns.map fun k => (k.rpc, k.numInvoke, k.reqs.map (·.st), k.gotMsg, k.srvClosed)) =
        [(.draining, 1, [.leaked], true, false)] ∧
      (∀ (acts : List Action) (s' : State), runFrom (leakCfg none) s acts = some s' →
        (∃ k, s'.conns[0]? = some k ∧ k.srvClosed = false ∧ 0 < k.numInvoke) ∧ s'.spc ≠ .returned true) ∧
      (∃ s', runFrom (leakCfg none) s [.ciBegin, .ciVisit 0, .ciEnd, .ctxExpire] = some s' ∧
        s'.spc = .returned false) := by
  refine exists_of_eq_some rfl fun hs => ⟨by decide, fun acts s' hrun' => ?_, _, rfl, by decide⟩
  obtain ⟨⟨k, _, hk, _, _, hpos, hcl⟩, hnr⟩ := leaked_run (c := 0) (i := 0) (run_reachable hs)
    (.of_no_pass ⟨_, _, rfl, rfl, by decide, by decide, by decide⟩ rfl (by decide)) hrun'
  exact ⟨⟨k, hk, hcl, hpos⟩, hnr⟩

/-- with a worker pool the same leak also keeps the accept loop from ever releasing the pool: in every
continuation the connection's goroutine has not finished, so `Handle`'s wait before `Release()` never
ends (`relCall` is not enabled) -/
theorem C12_oneway_leak_pool_counterexample :
    ∃ s, run (leakCfg (some (1, 8)))
        [.connect, .accept 0, .register 0, .stamp 0, .sendNR 0 5, .read 0 1, .dispatch 0, .enqueue 0, .pTake,
         .pGive, .start 0 0, .fin 0 0, .skip 0 0, .stamp 0, .shutdownCall, .setClosed, .acceptExit,
         .onShutdownRet, .ciBegin, .ciVisit 0, .ciEnd, .readErr 0 false, .drainTick 0, .recvMsg 0] = some s ∧
      s.apc = .afterLoop ∧ busy s = 0 ∧ s.jobQ = [] ∧
      (∀ (acts : List Action) (s' : State), runFrom (leakCfg (some (1, 8))) s acts = some s' →
        step (leakCfg (some (1, 8))) s' .relCall = none ∧ s'.spc ≠ .returned true) := by
  refine exists_of_eq_some rfl fun hs => ⟨by decide, by decide, by decide, fun acts s' hrun' => ?_⟩
  obtain ⟨⟨k, _, hk, _, _, hpos, _⟩, hnr⟩ := leaked_run (c := 0) (i := 0) (run_reachable hs)
    (.of_no_pass ⟨_, _, rfl, rfl, by decide, by decide, by decide⟩ rfl (by decide)) hrun'
  have hr' := runFrom_reachable (run_reachable hs) hrun'
  -- with `numInvoke` positive the connection's goroutine has not finished
  have hnot : allConnGoroutinesDone s' = false := Bool.eq_false_iff.mpr fun h => by
    have := ((ginv_reachable hr').conns 0 k hk).numInvoke_zero (allGone_of_check h 0 k hk); omega
  exact ⟨by simp [step, leakCfg, repaired, hnot], hnr⟩

/-! ## The application: `graceShutdown` calls `Shutdown` on every adapter's server -/

section App
open Tars.AppShutdown

/-- **Every adapter is shut down.** The application is a list of independent server LTSs (one
`transport.TarsServer` per tars adapter) plus the loop of `application.graceShutdown` that spawns one
goroutine per adapter. When the server is handed to the goroutine as an argument (the code), then for
every number of adapters, every interleaving of the loop, the goroutines and all the steps of all the
adapters: (a) every adapter's component is a reachable state of the server LTS, so every per-server
theorem of this file applies to every adapter; (b) goroutine j calls `Shutdown` on adapter j and on
no other; (c) once the loop is over and every goroutine has made its call, `Shutdown` has been called
on EVERY adapter. -/
theorem C12_app_all_adapters (cfg : Cfg) (n : Nat) (acts : List AAction) (s : AState)
    (hrun : arun .argument cfg n acts = some s) :
    (∀ (k : Nat) (st : State), s.servers[k]? = some st → Reachable cfg st) ∧
    (∀ (j : Nat) (g : GoR), s.gos[j]? = some g → g.target = none ∨ g.target = some j) ∧
    (s.i = n → (∀ g ∈ s.gos, g.target ≠ none) → ∀ k, k < n → k ∈ s.shutdownOn) := by
  obtain ⟨hA, hI⟩ := ainv_run hrun
  refine ⟨hA.reach, fun j g hg => (hI.bound j g hg).target, ?_⟩
  intro hi hall k hk
  have hlt : k < s.gos.length := by rw [hA.len, hi]; exact hk
  exact (hI.bound k _ (List.getElem?_eq_getElem hlt)).called (hall _ (List.getElem_mem hlt))

/-- non-vacuity: three adapters, the goroutines run in reverse order after the loop -/
example : ∃ s, arun .argument (repaired none) 3 [.iter, .iter, .iter, .call 2, .call 0, .call 1] = some s ∧
    s.i = 3 ∧ s.shutdownOn = [2, 0, 1] ∧ (s.servers.map (·.spc)) = [.called, .called, .called] := by
  exact ⟨_, rfl, by decide⟩

/-- hence the safety part of C12 holds for every adapter of an application (current code) -/
theorem C12_app_adapter_answered (pool : Option (Nat × Nat)) (n : Nat) (acts : List AAction) (s : AState)
    (hrun : arun .argument (repaired pool) n acts = some s) (a : Nat) (st : State)
    (hst : s.servers[a]? = some st) (c : Nat) (k : Conn) (hk : st.conns[c]? = some k)
    (hcl : k.srvClosed = true) : k.buf = [] ∧ ∀ q ∈ k.reqs, q.st = .done true :=
  answered_before_close (cfg := repaired pool) rfl rfl ((C12_app_all_adapters _ n acts s hrun).1 a st hst) hk hcl

/-- **The captured range variable.** If the goroutine's function literal captures the loop variable
(one variable per loop with `go < 1.22` in go.mod), then with two adapters: both iterations run, then
both goroutines: both call `Shutdown` on the LAST adapter. `Shutdown` is never called on adapter 0 —
in every continuation its server stays in the state "Shutdown not called" (no close message, no wake-up,
no drain), whatever its clients and handlers do. -/
theorem C12_app_captured_counterexample :
    ∃ s, arun .loopVariable (repaired none) 2 [.iter, .iter, .call 0, .call 1] = some s ∧
      s.shutdownOn = [1, 1] ∧
      (∀ (acts : List AAction) (s' : AState), arunFrom .loopVariable (repaired none) s acts = some s' →
        ∃ st, s'.servers[0]? = some st ∧ st.spc = .idle) := by
  exact exists_of_eq_some rfl fun _ => ⟨by decide, fun acts s' hrun' =>
    (skipped_run ⟨by decide, by decide, _, rfl, by decide⟩ hrun').idle⟩

/-- **The current tree passes the server as an argument.** Regenerated on every run from
`application.graceShutdown` (goroutines whose `Shutdown` receiver is the captured range variable) and
go.mod; fails to build when a goroutine captures the loop variable. -/
theorem C12_app_current_tree : treeCapture = .argument := by
  simp [treeCapture, Consts.appShutdownServerCaptured]

end App

/-! ## The close message comes before the deferred close -/

/-- **Notified before closed.** In the current code a server connection is closed only by the deferred
function of its own receive loop, and that function tests `numInvoke` only after a tick of a 500 ms
ticker it creates when the receive loop returns (`for range tk.C { if … == 0 { break } }`). The LTS
serves timers in the order of their due times: a drain ticker created after `Shutdown` created its
poll ticker fires after the poller's first tick (`drainTick` needs `firstPoll`). Then, for every
interleaving: a connection
 * whose receive loop returned while `Shutdown` was already polling (`tickAfterPoll`: every connection
   still being served when `Shutdown` started to poll),
 * that was in the connection table when `sendCloseMsg` ran (not `lateReg`: the window between `Accept`
   returning and `t.conns.Store` is `C12_notify_unregistered_counterexample`),
 * in a run where the close message had been sent by the poller's first `CloseIdles` call
   (`fpNotified`: the accept loop had noticed `isClosed` by then; otherwise `sendCloseMsg` is postponed
   to a later poll)
has had the close message written to it before the server closes it — however late its last request
arrived and however quick its handlers were. -/
theorem C12_notified_before_close (cfg : Cfg) (hci : cfg.ci = .kickOnly) (hdt : cfg.drainFirstTick = true)
    (acts : List Action) (s : State) (hrun : run cfg acts = some s) (c : Nat) (k : Conn)
    (hk : s.conns[c]? = some k) (hcl : k.srvClosed = true) (htick : k.tickAfterPoll = true)
    (hreg : k.lateReg = false) (hfp : s.fpNotified = true) : k.notified = true := by
  have hr := run_reachable hrun
  have hN := ninv_reachable hci hdt hr
  have hn := hN.conns c k hk
  have hpc := ((ginv_reachable hr).conns c k hk).ownClose hci hcl
  have hfirst := hn.drainAfterPoll htick (Or.inr hpc)
  have hl := hN.fpSent hfirst hfp
  have hsaw := hn.sawAll hl (by rw [hpc]; simp)
  rcases hn.sawCases hsaw with h | h | h
  · exact h
  · have := hn.missedLate h htick; rw [hfp] at this; contradiction
  · rw [hreg] at h; contradiction

/-- for the model variant of the current tree -/
theorem C12_current_tree_notified (pool : Option (Nat × Nat)) (acts : List Action) (s : State)
    (hrun : run (treeCfg pool) acts = some s) (c : Nat) (k : Conn) (hk : s.conns[c]? = some k)
    (hcl : k.srvClosed = true) (htick : k.tickAfterPoll = true) (hreg : k.lateReg = false)
    (hfp : s.fpNotified = true) : k.notified = true := by
  rw [C12_current_tree] at hrun
  exact C12_notified_before_close _ rfl rfl acts s hrun c k hk hcl htick hreg hfp

/-- A client that is connected when `Shutdown` is called and writes a request after the call and before
the poller's first tick; the handler is quick; then silence: the receive loop returns on its 100 ms
closing-state deadline. -/
def lateRequestSchedule : List Action :=
  [.connect, .accept 0, .register 0, .stamp 0, .shutdownCall, .setClosed, .acceptExit, .onShutdownRet,
   .send 0 5, .read 0 1, .dispatch 0, .start 0 0, .fin 0 0, .write 0 0, .dec 0 0, .stamp 0, .readErr 0 false]

/-- non-vacuity of `C12_notified_before_close`, and what the first tick is for: after
`lateRequestSchedule` the deferred drain may not test `numInvoke` yet (`drainTick` is not enabled); the
poller's first call comes first, notifies the connection, and only then the connection is closed. -/
example : ∃ s, run (repaired none) lateRequestSchedule = some s ∧ step (repaired none) s (.drainTick 0) = none ∧
    ∃ s', runFrom (repaired none) s [.ciBegin, .ciVisit 0, .ciEnd, .drainTick 0, .drainClose 0, .recvRsp 0 0,
        .recvMsg 0, .recvEof 0, .ciBegin, .ciEnd] = some s' ∧
      s'.spc = .returned true ∧ s'.fpNotified = true ∧
      (s'.conns.map fun k => (k.srvClosed, k.tickAfterPoll, k.lateReg, k.notified)) = [(true, true, false, true)] ∧
      (s'.conns.map fun k => (k.got, k.gotMsg, k.sawEof)) = [([5], true, true)] := by
  refine ⟨_, rfl, by decide, _, rfl, ?_, ?_, ?_, ?_⟩ <;> decide

/-- the current code with the drain loop that tests before it waits (`for numInvoke > 0 { <-tk.C }`) -/
def noTickCfg : Cfg := { repaired none with drainFirstTick := false }

/-- **Without the first tick.** Same schedule; the deferred drain tests at once, sees `numInvoke == 0`
and closes the connection — before the poller's first call. That call then sends the close message to
the connections that are left, finds the table empty and `Shutdown` returns "all closed": the client got
its response and EOF and never the reconnect notification, although all three conditions of
`C12_notified_before_close` hold. -/
theorem C12_no_first_tick_counterexample :
    ∃ s, run noTickCfg (lateRequestSchedule ++
        [.drainTick 0, .drainClose 0, .ciBegin, .ciEnd, .recvRsp 0 0, .recvEof 0]) = some s ∧
      s.spc = .returned true ∧ s.fpNotified = true ∧
      (s.conns.map fun k => (k.srvClosed, k.tickAfterPoll, k.lateReg, k.notified)) = [(true, true, false, false)] ∧
      (s.conns.map fun k => (k.got, k.gotMsg, k.sawEof)) = [([5], false, true)] := by
  exact ⟨_, rfl, by decide⟩

/-! ## The code as found, and what an atomic `CloseIdles` would have given -/

/-- **Answered before close, for every request dispatched before the close** — for any pool
configuration, provided `CloseIdles` loads `numInvoke` and closes in one atomic step (`ci = .atomic`;
the statement also covers the kick-only repair, for which `C12_answered_before_close` says more). For every interleaving: once the server has closed a connection,
every request that `handleConn` counted while the connection was open has been executed, its
response has been written to the open connection, and its handler has finished.
What is missing for clause 1 of `C12_full`: requests that were read but not yet counted when an
(atomic) `CloseIdles` closed the connection (`C12_undispatched_counterexample`), and the real,
non-atomic `CloseIdles` (`C12_toctou_counterexample`). -/
theorem C12_safety_atomic_partial (cfg : Cfg) (hci : cfg.ci ≠ .asFound) (hde : cfg.decEarly = false)
    (acts : List Action) (s : State)
    (hrun : run cfg acts = some s) (c : Nat) (k : Conn) (hk : s.conns[c]? = some k)
    (hcl : k.srvClosed = true) : ∀ q ∈ k.reqs, q.dispOpen = true → q.st = .done true :=
  fun q hq => (((ginv_reachable (run_reachable hrun)).conns c k hk).reqs q hq).safe hci hde hcl

/-- **C12 without a worker pool, if the as-found `CloseIdles` were atomic** (the partial theorem of
DESIGN §6, about the variant `ci = .atomic`; for `ci = .kickOnly`, the current code,
`C12_answered_before_close` says more and needs neither `hpool` nor `hdec`): for every interleaving, every request
handed to `handleConn` (a) can always take its next handler step and (b) if it was handed over
before the server closed the connection, it is `done true` once the connection is closed. Missing
with respect to `C12_full` for that code: requests read but not yet counted
(`C12_undispatched_counterexample`), the real non-atomic `CloseIdles` (`C12_toctou_counterexample`),
the worker pool (`C12_pool_counterexample`). -/
theorem C12_nopool_partial (cfg : Cfg) (hpool : cfg.pool = none) (hci : cfg.ci = .atomic)
    (hdec : cfg.decDeferred = true) (hde : cfg.decEarly = false)
    (acts : List Action) (s : State) (hrun : run cfg acts = some s)
    (c : Nat) (k : Conn) (hk : s.conns[c]? = some k) :
    (∀ (i : Nat) (q : Req), k.reqs[i]? = some q → q.st.isDone = false →
        ∃ a ∈ handlerActions c i, (step cfg s a).isSome = true) ∧
    (k.srvClosed = true → ∀ q ∈ k.reqs, q.dispOpen = true → q.st = .done true) :=
  ⟨fun i q hq hnd => C12_handler_enabled cfg hpool hdec acts s hrun c i k q hk hq hnd,
   fun hcl => C12_safety_atomic_partial cfg (by rw [hci]; simp) hde acts s hrun c k hk hcl⟩

/-- non-vacuity of `C12_nopool_partial`: two pipelined requests, shutdown while both handlers run, an
atomic `CloseIdles` pass that finds the connection busy, the receiver's drain-then-close: the
connection ends closed with both requests `done true`, the client has both responses, the close
message and then EOF, and `Shutdown` returns through `CloseIdles`. -/
example : ∃ s, run { pool := none, releaseAfterDrain := false, ci := .atomic }
    [.connect, .accept 0, .register 0, .stamp 0, .send 0 11, .send 0 12, .read 0 2, .dispatch 0,
     .dispatch 0, .start 0 0, .start 0 1, .stamp 0, .shutdownCall, .setClosed, .acceptExit, .onShutdownRet,
     .ciBegin, .ciVisit 0, .ciEnd, .readErr 0 false, .fin 0 1, .write 0 1, .dec 0 1, .fin 0 0, .write 0 0,
     .dec 0 0, .drainTick 0, .drainClose 0, .recvRsp 0 1, .recvRsp 0 0, .recvMsg 0, .recvEof 0, .ciBegin, .ciEnd] = some s ∧
    s.spc = .returned true ∧
    (s.conns.map fun k => (k.srvClosed, k.reqs.map (·.st), k.got, k.gotMsg, k.sawEof)) =
      [(true, [.done true, .done true], [12, 11], true, true)] := by
  exact ⟨_, rfl, by decide⟩

/-- **Notification**: whenever `sendCloseMsg` runs (from `OnShutdown`, action `closeMsg`, or at the
start of a `CloseIdles` call that finds `isListenClosed == 1`, action `ciBegin`), every connection
that is in the connection table and open at that moment has the close message written to it, and
that stays so in every continuation. (Missing for clause 3 of `C12_full`: a connection that `Accept`
has returned but whose goroutine has not yet executed `t.conns.Store` —
`C12_notify_unregistered_counterexample`.) -/
theorem C12_notify (cfg : Cfg) (s s1 s2 : State) (a : Action) (post : List Action)
    (ha : a = .closeMsg ∨ (a = .ciBegin ∧ s.listenClosed = 1)) (hstep : step cfg s a = some s1)
    (hpost : runFrom cfg s1 post = some s2)
    (c : Nat) (k : Conn) (hk : s.conns[c]? = some k) (hreg : k.registered = true)
    (hopen : k.srvClosed = false) : ∃ k2, s2.conns[c]? = some k2 ∧ k2.notified = true := by
  refine runFrom_notified hpost ?_
  rcases ha with rfl | ⟨rfl, hl⟩
  · cases GStep.of_step hstep with
    | conn _ _ _ _ _ _ ha => cases ha
    | closeMsg => exact notifyAll_notified hk hreg hopen
  · cases GStep.of_step hstep with
    | conn _ _ _ _ _ _ ha => cases ha
    | ciNotify => exact notifyAll_notified hk hreg hopen
    | ciBegin _ hne => exact absurd hl hne

/-- non-vacuity of `C12_notify` (both triggers) -/
example : ∃ s s1, run (asFound none) [.connect, .accept 0, .register 0, .shutdownCall, .setClosed, .acceptExit] = some s ∧
    step (asFound none) s .closeMsg = some s1 ∧
    (s.conns.map fun k => (k.registered, k.srvClosed)) = [(true, false)] ∧
    (s1.conns.map (·.notified)) = [true] ∧ s1.listenClosed = 2 := by
  refine ⟨_, _, rfl, rfl, ?_, ?_, ?_⟩ <;> decide

example : ∃ s s1, run (asFound none)
      [.connect, .accept 0, .register 0, .shutdownCall, .setClosed, .onShutdownRet, .acceptExit] = some s ∧
    s.listenClosed = 1 ∧ step (asFound none) s .ciBegin = some s1 ∧ (s1.conns.map (·.notified)) = [true] := by
  refine ⟨_, _, rfl, ?_, rfl, ?_⟩ <;> decide

/-- **Return**: (a) if `Shutdown` has returned because `CloseIdles` reported all connections closed,
every connection that was in the table when that last `CloseIdles` call began has been closed by the
server; (b) while `Shutdown` waits in its `select`, the context's expiry makes it return, and (c) once
the connection table is empty the next `CloseIdles` call makes it return. (Missing for clause 4 of
`C12_full`: connections stored in the table after the last call began.) -/
theorem C12_returns (cfg : Cfg) (acts : List Action) (s : State) (hrun : run cfg acts = some s) :
    (s.spc = .returned true → ∀ c ∈ s.lastPass, ∃ k, s.conns[c]? = some k ∧ k.srvClosed = true) ∧
    (s.spc = .polling → s.pass = none →
      (∃ s', step cfg s .ctxExpire = some s' ∧ s'.spc = .returned false) ∧
      (registeredIds s = [] → ∃ s', runFrom cfg s [.ciBegin, .ciEnd] = some s' ∧ s'.spc = .returned true)) := by
  refine ⟨(ginv_reachable (run_reachable hrun)).retInv, ?_⟩
  intro hs hp
  refine ⟨⟨{ s with spc := .returned false }, by simp [step, hs, hp], rfl⟩, ?_⟩
  intro hreg
  by_cases hl : s.listenClosed = 1
  · have hreg' : registeredIds (notifyAll s) = [] := by rw [registeredIds_notifyAll]; exact hreg
    have hs' : (notifyAll s).spc = .polling := hs
    simp [runFrom, step, hs, hp, hl, hreg', hs']
  · simp [runFrom, step, hs, hp, hl, hreg]

/-- non-vacuity of `C12_returns` (c): an idle server -/
example : ∃ s, run (asFound none) [.shutdownCall, .setClosed, .onShutdownRet] = some s ∧
    s.spc = .polling ∧ s.pass = none ∧ registeredIds s = [] := by
  exact ⟨_, rfl, by decide⟩

/-! ## D15 — with a worker pool, `pool.Release()` at the end of the accept loop drops queued handlers -/

/-- the code as found with one worker and a job queue of 8 -/
def poolCfg : Cfg := asFound (some (1, 8))

/-- Three pipelined requests on one connection, one worker: request 0 is running, request 1 is held
by the dispatcher (waiting for the worker), request 2 is in the job queue; `Shutdown` is called; the
accept loop ends and calls `Release`; the dispatcher finishes the hand-over of request 1 and then, with
both the job queue and the stop request ready, takes the stop request; `Release` returns when the
worker is idle. -/
def d15Schedule : List Action :=
  [.connect, .accept 0, .register 0, .stamp 0, .send 0 1, .send 0 2, .send 0 3, .read 0 3,
   .dispatch 0, .enqueue 0, .pTake, .pGive, .start 0 0, .dispatch 0, .enqueue 0, .pTake, .dispatch 0, .enqueue 0,
   .stamp 0, .shutdownCall, .setClosed, .acceptExit, .relCall,
   .fin 0 0, .write 0 0, .dec 0 0, .pGive, .start 0 1, .pStop, .fin 0 1, .write 0 1, .dec 0 1, .relRet]

/-- what the poller and the receiver do afterwards, until the context expires -/
def d15Rest : List Action :=
  [.onShutdownRet, .ciBegin, .ciVisit 0, .ciEnd, .readErr 0 false, .recvRsp 0 0, .recvRsp 0 1, .recvMsg 0,
   .ciBegin, .ciVisit 0, .ciEnd, .ctxExpire]

/-- **D15.** `d15Schedule` is a run of the model of the code as found. At its end request 3 (index 2)
has been read and counted but is still queued in a pool whose dispatcher has stopped, and in EVERY
continuation it stays queued — it is never executed —, `numInvoke` of its connection stays positive,
the server never closes the connection (the drain never completes, `CloseIdles` always finds it busy)
and `Shutdown` never returns through `CloseIdles`; `d15Rest` is such a continuation, in which the
client has received responses 1 and 2 and the close message and `Shutdown` returns when its context
expires. -/
theorem C12_pool_counterexample :
    ∃ s, run poolCfg d15Schedule = some s ∧ s.pst = .stopped ∧ s.jobQ = [(0, 2)] ∧
      (∀ (acts : List Action) (s' : State), runFrom poolCfg s acts = some s' →
        (∃ k q, s'.conns[0]? = some k ∧ k.reqs[2]? = some q ∧ q.st = .queued ∧
          0 < k.numInvoke ∧ k.srvClosed = false) ∧ s'.spc ≠ .returned true) ∧
      (∃ s', runFrom poolCfg s d15Rest = some s' ∧ s'.spc = .returned false ∧
        (s'.conns.map fun k => (k.srvClosed, k.got, k.gotMsg, k.sawEof, k.reqs.map (·.st))) =
          [(false, [1, 2], true, false, [.done true, .done true, .queued])]) := by
  refine exists_of_eq_some rfl fun hs => ⟨by decide, by decide, fun acts s' hrun' => ?_, _, rfl, by decide, by decide⟩
  exact dropped_run (cfg := poolCfg) (c := 0) (i := 2) rfl (run_reachable hs)
    (dropped_iff.mpr ⟨.of_no_pass ⟨_, _, rfl, rfl, by decide, by decide, by decide⟩ rfl (by decide),
      by decide, by decide, by decide⟩) hrun'

/-- hence the code as found, with a worker pool, does not have the property (clause 2: a counted,
unfinished request sits in a pool whose dispatcher has stopped) -/
theorem C12_pool_not_full : ¬ C12_full poolCfg := by
  intro h
  obtain ⟨s, hs, hst, _, hall, _⟩ := C12_pool_counterexample
  obtain ⟨⟨k, q, hk, hq, hqs, _, _⟩, _⟩ := hall [] s rfl
  have := ((h d15Schedule s hs).2.1 0 2 k q hk hq (by simp [hqs, HSt.isDone])).2 (by simp [poolCfg, asFound])
  rw [hst] at this
  contradiction

/-! ### the repair of D15: release the pool only after every connection goroutine has returned
(theorem `C12_fixed_pool` above) -/

/-- the repaired variant with the same pool -/
def poolFixedCfg : Cfg := { poolCfg with releaseAfterDrain := true }

/-- non-vacuity of `C12_fixed_pool`, and the D15 schedule is no longer a run: in the repaired model
the prefix of `d15Schedule` up to `acceptExit` leaves request 3 queued with the pool alive, and
`relCall` is not enabled there (it is only after the connection has drained and closed). -/
example : ∃ s, run poolFixedCfg (d15Schedule.take 22) = some s ∧ s.pst = .live ∧ s.jobQ = [(0, 2)] ∧
    step poolFixedCfg s .relCall = none ∧ run poolFixedCfg d15Schedule = none := by
  exact ⟨_, rfl, by decide⟩

/-- in the repaired model the same three requests are all answered before the connection is closed,
then the pool is released and `Shutdown` returns through `CloseIdles` -/
example : ∃ s, run poolFixedCfg
    ((d15Schedule.take 22) ++
     [.fin 0 0, .write 0 0, .dec 0 0, .pGive, .start 0 1, .pTake, .fin 0 1, .write 0 1, .dec 0 1, .pGive, .start 0 2,
      .onShutdownRet, .ciBegin, .ciVisit 0, .ciEnd, .readErr 0 false, .fin 0 2, .write 0 2, .dec 0 2,
      .drainTick 0, .drainClose 0, .relCall, .pStop, .relRet, .recvRsp 0 0, .recvRsp 0 1, .recvRsp 0 2, .recvMsg 0,
      .recvEof 0, .ciBegin, .ciEnd]) = some s ∧
    s.spc = .returned true ∧ s.pst = .stopped ∧
    (s.conns.map fun k => (k.srvClosed, k.got, k.gotMsg, k.sawEof, k.reqs.map (·.st))) =
      [(true, [1, 2, 3], true, true, [.done true, .done true, .done true])] := by
  exact ⟨_, rfl, by decide⟩

/-- `C12_fixed_pool` for the model variant of the current tree (no hypothesis: it rests on
`C12_current_tree`, which fails to build if `Handle` no longer waits before `Release()`). -/
theorem C12_current_tree_pool (pool : Option (Nat × Nat))
    (acts : List Action) (s : State) (hrun : run (treeCfg pool) acts = some s) (c i : Nat) (k : Conn)
    (q : Req) (hk : s.conns[c]? = some k) (hq : k.reqs[i]? = some q) (hnd : q.st.isDone = false) :
    s.pst = .live :=
  C12_fixed_pool (treeCfg pool) (by rw [C12_current_tree]; rfl) acts s hrun c i k q hk hq hnd

/-! ## D16 — the variant `ci = .asFound`: `CloseIdles` checks `numInvoke` and the idle stamp, then
closes: not atomic, and the stamp is taken before the blocking `Read` -/

/-- A connection that has been idle for two seconds (its receiver is blocked in `Read`, the stamp is
old); a request arrives and `Read` returns it; `Shutdown` is called; `CloseIdles` loads
`numInvoke == 0` and sees the stale stamp; the receiver calls `handleConn` (`numInvoke = 1`, handler
spawned); `CloseIdles` executes `Close()`; `CloseIdles` reports "all closed" and `Shutdown` returns;
the handler runs, its `Write` fails. -/
def d16Schedule : List Action :=
  [.connect, .accept 0, .register 0, .stamp 0, .age 0, .send 0 7, .read 0 1,
   .shutdownCall, .setClosed, .acceptExit, .onShutdownRet, .ciBegin, .ciVisit 0,
   .dispatch 0, .ciClose, .ciEnd, .start 0 0, .fin 0 0, .write 0 0, .dec 0 0, .recvMsg 0, .recvEof 0]

/-- **D16.** `d16Schedule` is a run of the model of the code as found (no pool). At its end the
server has closed the connection and `Shutdown` has returned "drained", although request 7 was read
and handed to `handleConn` while the connection was open: its response was never written (the write
failed), the client got the close message and EOF and no response. -/
theorem C12_toctou_counterexample :
    ∃ s, run (asFound none) d16Schedule = some s ∧ s.spc = .returned true ∧
      (s.conns.map (·.byIdles)) = [true] ∧
      (s.conns.map fun k => k.reqs.map (fun q => (q.id, q.st, q.dispOpen))) = [[(7, .done false, true)]] ∧
      (s.conns.map fun k => (k.srvClosed, k.got, k.gotMsg, k.sawEof)) =
        [(true, [], true, true)] := by
  exact ⟨_, rfl, by decide⟩

/-- hence the code as found, without a pool, does not have the property either (clause 1) -/
theorem C12_toctou_not_full : ¬ C12_full (asFound none) := by
  intro h
  have hs : run (asFound none) d16Schedule = some _ := rfl
  have := ((h d16Schedule _ hs).1 0 _ rfl (by decide)).2 { id := 7, st := .done false, dispOpen := true } (by decide)
  simp at this

/-- with the repaired `CloseIdles` the D16 schedule is not a run: `ciClose` is never enabled -/
example : run (repaired none) d16Schedule = none := by rfl

/-- **The atomicity hypothesis alone is not enough**: even if `CloseIdles` loaded and closed in one
step, a request that `Read` has returned and `handleConn` has not yet counted is lost, because the
idle stamp it relies on is taken BEFORE the blocking `Read`: same schedule, atomic close. The request
had been read when the server closed the connection; it is executed afterwards and its write fails.
(This is why `C12_nopool_partial` speaks of requests dispatched before the close.) -/
theorem C12_undispatched_counterexample :
    ∃ s, run { pool := none, releaseAfterDrain := false, ci := .atomic }
        [.connect, .accept 0, .register 0, .stamp 0, .age 0, .send 0 7, .read 0 1,
         .shutdownCall, .setClosed, .acceptExit, .onShutdownRet, .ciBegin, .ciVisit 0, .ciEnd,
         .dispatch 0, .start 0 0, .fin 0 0, .write 0 0, .dec 0 0, .recvMsg 0, .recvEof 0] = some s ∧
      s.spc = .returned true ∧
      (s.conns.map (·.byIdles)) = [true] ∧
      (s.conns.map fun k => k.reqs.map (fun q => (q.id, q.st, q.dispOpen))) = [[(7, .done false, false)]] ∧
      (s.conns.map fun k => (k.srvClosed, k.got, k.gotMsg, k.sawEof)) =
        [(true, [], true, true)] := by
  exact ⟨_, rfl, by decide⟩

/-! ## Boundaries of the notification clause -/

/-- A connection that `Accept` has returned but whose goroutine has not yet stored it in the
connection table when `sendCloseMsg` ranges over the table is not notified: it is served, drained and
closed without ever receiving the close message. (The window is the few instructions between
`Accept` returning and `t.conns.Store`; not reproduced on the real code.) -/
theorem C12_notify_unregistered_counterexample :
    ∃ s, run (asFound none)
        [.connect, .accept 0, .shutdownCall, .setClosed, .acceptExit, .closeMsg, .register 0, .stamp 0,
         .readErr 0 false, .drainTick 0, .drainClose 0, .recvEof 0] = some s ∧
      s.listenClosed = 2 ∧ (s.conns.map fun k => (k.srvClosed, k.notified, k.sawEof)) = [(true, false, true)] := by
  exact ⟨_, rfl, by decide⟩

/-- `Shutdown` sends the close message from its poll loop (first tick), not before: if the context
expires before the first tick, `Shutdown` returns with the connection open and not notified. -/
theorem C12_notify_ctx_counterexample :
    ∃ s, run (asFound none)
        [.connect, .accept 0, .register 0, .stamp 0, .shutdownCall, .setClosed, .onShutdownRet, .acceptExit,
         .ctxExpire] = some s ∧
      s.spc = .returned false ∧ (s.conns.map fun k => (k.srvClosed, k.notified)) = [(false, false)] := by
  exact ⟨_, rfl, by decide⟩

end Tars.ServerConn
