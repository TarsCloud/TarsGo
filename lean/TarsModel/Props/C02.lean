import TarsModel.Proofs.WireRead

/-!
# C02 — Primitive codec: exact round trip and wire-format conformance

The property theorems, and the steps of the writers' cascade between widths (`writeInt16_eq32` …)
that the widening theorems rewrite with.  All statements are for every tag `0..255`, every value
in the range of the Go type, an arbitrary reader position, arbitrary bytes `t` after the field, an
arbitrary previous value `old` of the target and both `require` settings.  "Positioned exactly at
the end of the field" is `r.adv (encoding length)` together with `Reader.rest_adv`.
-/
namespace Tars
open Consts

/-! ## Conformance with the wire-format specification (`Proofs/WireSpec.lean`) -/

theorem C02_wire_head (ty tag : Nat) : writeHead ty tag = specHead ty tag :=
  writeHead_eq_specHead ty tag

theorem C02_wire_int64 (v : Int) (tag : Nat) : writeInt64 v tag = specInt v tag :=
  writeInt64_specInt v tag

/-- narrower writers produce the same bytes as the 64-bit writer on their range (the cascade) -/
theorem writeInt32_eq64 (v : Int) (tag : Nat) (h : -(2:Int)^31 ≤ v ∧ v < (2:Int)^31) :
    writeInt32 v tag = writeInt64 v tag := writeInt32_eq_writeInt64 v tag h
theorem writeInt16_eq64 (v : Int) (tag : Nat) (h : -(2:Int)^15 ≤ v ∧ v < (2:Int)^15) :
    writeInt16 v tag = writeInt64 v tag := writeInt16_eq_writeInt64 v tag h
theorem writeInt8_eq64 (v : Int) (tag : Nat) (h : -(2:Int)^7 ≤ v ∧ v < (2:Int)^7) :
    writeInt8 v tag = writeInt64 v tag := writeInt8_eq_writeInt64 v tag h

theorem C02_wire_int32 (v : Int) (tag : Nat) (h : -(2:Int)^31 ≤ v ∧ v < (2:Int)^31) :
    writeInt32 v tag = specInt v tag := by rw [writeInt32_eq64 v tag h, C02_wire_int64]
theorem C02_wire_int16 (v : Int) (tag : Nat) (h : -(2:Int)^15 ≤ v ∧ v < (2:Int)^15) :
    writeInt16 v tag = specInt v tag := by rw [writeInt16_eq64 v tag h, C02_wire_int64]
theorem C02_wire_int8 (v : Int) (tag : Nat) (h : -(2:Int)^7 ≤ v ∧ v < (2:Int)^7) :
    writeInt8 v tag = specInt v tag := by rw [writeInt8_eq64 v tag h, C02_wire_int64]
/-- unsigned values travel as the next wider signed type, hence as their non-negative value -/
theorem C02_wire_uint8 (v tag : Nat) (h : v < 2^8) : writeUint8 v tag = specInt v tag := by
  unfold writeUint8; exact C02_wire_int16 _ _ (by omega)
theorem C02_wire_uint16 (v tag : Nat) (h : v < 2^16) : writeUint16 v tag = specInt v tag := by
  unfold writeUint16; exact C02_wire_int32 _ _ (by omega)
theorem C02_wire_uint32 (v tag : Nat) (_h : v < 2^32) : writeUint32 v tag = specInt v tag := by
  unfold writeUint32; exact C02_wire_int64 _ _

theorem C02_wire_bool (b : Bool) (tag : Nat) :
    writeBool b tag = if b then specHead 0 tag ++ [byte 1] else specHead 12 tag := by
  cases b <;> simp [writeBool, writeInt8, C02_wire_head, toU]

theorem C02_wire_float32 (bits tag : Nat) : writeFloat32 bits tag = specHead 4 tag ++ be 4 bits := by
  simp [writeFloat32, C02_wire_head]
theorem C02_wire_float64 (bits tag : Nat) : writeFloat64 bits tag = specHead 5 tag ++ be 8 bits := by
  simp [writeFloat64, C02_wire_head]

theorem C02_wire_string (s : Bytes) (tag : Nat) :
    writeString s tag =
      if s.length ≤ 255 then specHead 6 tag ++ [byte s.length] ++ s
      else specHead 7 tag ++ be 4 s.length ++ s := by
  unfold writeString
  by_cases h : s.length ≤ 255
  · have : ¬ (s.length > str1Max) := by simp only [str1Max]; omega
    simp [h, this, C02_wire_head]
  · have : s.length > str1Max := by simp only [str1Max]; omega
    simp [h, this, C02_wire_head]

/-! ## Round trips -/

private theorem pow_facts : (256:Nat)^2 = 2^16 ∧ (256:Nat)^4 = 2^32 ∧ (256:Nat)^8 = 2^64 := by decide

/-- reading a 64-bit integer written by `WriteInt64` -/
theorem C02_rt_int64 (r : Reader) (v : Int) (tag : Nat) (old : Int) (req : Bool) (t : Bytes)
    (htag : tag < 256) (hv : -(2:Int)^63 ≤ v ∧ v < (2:Int)^63)
    (h : r.rest = writeInt64 v tag ++ t) :
    readInt64 old tag req r = (.ok v, r.adv (writeInt64 v tag).length) := by
  rw [C02_wire_int64] at h ⊢
  rw [readInt64_body]
  exact readInt_specInt v tag old req htag (minWidth_le_eight v) hv r t h

theorem C02_rt_int32 (r : Reader) (v : Int) (tag : Nat) (old : Int) (req : Bool) (t : Bytes)
    (htag : tag < 256) (hv : -(2:Int)^31 ≤ v ∧ v < (2:Int)^31)
    (h : r.rest = writeInt32 v tag ++ t) :
    readInt32 old tag req r = (.ok v, r.adv (writeInt32 v tag).length) :=
  readInt32_writeInt32 v tag old req htag hv r t h

theorem C02_rt_int16 (r : Reader) (v : Int) (tag : Nat) (old : Int) (req : Bool) (t : Bytes)
    (htag : tag < 256) (hv : -(2:Int)^15 ≤ v ∧ v < (2:Int)^15)
    (h : r.rest = writeInt16 v tag ++ t) :
    readInt16 old tag req r = (.ok v, r.adv (writeInt16 v tag).length) := by
  rw [C02_wire_int16 v tag hv] at h ⊢
  rw [readInt16_body]
  exact readInt_specInt v tag old req htag (minWidth_le_two hv) (by omega) r t h

theorem C02_rt_int8 (r : Reader) (v : Int) (tag : Nat) (old : Int) (req : Bool) (t : Bytes)
    (htag : tag < 256) (hv : -(2:Int)^7 ≤ v ∧ v < (2:Int)^7)
    (h : r.rest = writeInt8 v tag ++ t) :
    readInt8 old tag req r = (.ok v, r.adv (writeInt8 v tag).length) := by
  rw [C02_wire_int8 v tag hv] at h ⊢
  rw [readInt8_body]
  exact readInt_specInt v tag old req htag (minWidth_le_one hv) (by omega) r t h

/-! ### unsigned types and bool -/

theorem C02_rt_uint8 (r : Reader) (v : Nat) (tag : Nat) (old : Nat) (req : Bool) (t : Bytes)
    (htag : tag < 256) (hv : v < 2^8) (h : r.rest = writeUint8 v tag ++ t) :
    readUint8 old tag req r = (.ok v, r.adv (writeUint8 v tag).length) := by
  unfold readUint8 writeUint8 at *
  rw [C02_rt_int16 r v tag old req t htag (by omega) h]
  simp [mapRes, toU_ofNat 8 v hv]

theorem C02_rt_uint16 (r : Reader) (v : Nat) (tag : Nat) (old : Nat) (req : Bool) (t : Bytes)
    (htag : tag < 256) (hv : v < 2^16) (h : r.rest = writeUint16 v tag ++ t) :
    readUint16 old tag req r = (.ok v, r.adv (writeUint16 v tag).length) := by
  unfold readUint16 writeUint16 at *
  rw [C02_rt_int32 r v tag old req t htag (by omega) h]
  simp [mapRes, toU_ofNat 16 v hv]

theorem C02_rt_uint32 (r : Reader) (v : Nat) (tag : Nat) (old : Nat) (req : Bool) (t : Bytes)
    (htag : tag < 256) (hv : v < 2^32) (h : r.rest = writeUint32 v tag ++ t) :
    readUint32 old tag req r = (.ok v, r.adv (writeUint32 v tag).length) := by
  unfold readUint32 writeUint32 at *
  rw [C02_rt_int64 r v tag old req t htag (by omega) h]
  simp [mapRes, toU_ofNat 32 v hv]

theorem C02_rt_bool (r : Reader) (v : Bool) (tag : Nat) (old : Bool) (req : Bool) (t : Bytes)
    (htag : tag < 256) (h : r.rest = writeBool v tag ++ t) :
    readBool old tag req r = (.ok v, r.adv (writeBool v tag).length) := by
  unfold readBool writeBool at *
  rw [C02_rt_int8 r _ tag _ req t htag (by cases v <;> simp) h]
  cases v <;> simp [mapRes]

/-! ### floats (bit patterns: NaN payloads, infinities and signed zeros are just bits) and strings -/

theorem C02_rt_float32 (r : Reader) (bits : Nat) (tag : Nat) (old : Nat) (req : Bool) (t : Bytes)
    (htag : tag < 256) (hv : bits < 2^32) (h : r.rest = writeFloat32 bits tag ++ t) :
    readFloat32 old tag req r = (.ok bits, r.adv (writeFloat32 bits tag).length) := by
  rw [readFloat32_body]
  exact readWith_field old tag req (by decide) (by decide) htag (f32Body_float bits hv) r t h

theorem C02_rt_float64 (r : Reader) (bits : Nat) (tag : Nat) (old : Nat) (req : Bool) (t : Bytes)
    (htag : tag < 256) (hv : bits < 2^64) (h : r.rest = writeFloat64 bits tag ++ t) :
    readFloat64 old tag req r = (.ok bits, r.adv (writeFloat64 bits tag).length) := by
  rw [readFloat64_body]
  exact readWith_field old tag req (by decide) (by decide) htag (f64Body_double bits hv) r t h

/-- strings of any byte content and any length below 2^32 (beyond that Go's `uint32(len)`
    truncates; such a string exceeds every admissible packet size) -/
theorem C02_rt_string (r : Reader) (s : Bytes) (tag : Nat) (old : Bytes) (req : Bool) (t : Bytes)
    (htag : tag < 256) (hs : s.length < 2^32) (h : r.rest = writeString s tag ++ t) :
    readString old tag req r = (.ok s, r.adv (writeString s tag).length) :=
  readString_writeString s tag old req htag hs r t h

/-! ## Widening: a reader of a wider type accepts every narrower encoding with the same value -/

theorem writeInt16_eq32 (v : Int) (tag : Nat) (h : -(2:Int)^15 ≤ v ∧ v < (2:Int)^15) :
    writeInt16 v tag = writeInt32 v tag := by
  rw [writeInt16_eq64 v tag h, writeInt32_eq64 v tag (by omega)]
theorem writeInt8_eq32 (v : Int) (tag : Nat) (h : -(2:Int)^7 ≤ v ∧ v < (2:Int)^7) :
    writeInt8 v tag = writeInt32 v tag := by
  rw [writeInt8_eq64 v tag h, writeInt32_eq64 v tag (by omega)]
theorem writeInt8_eq16 (v : Int) (tag : Nat) (h : -(2:Int)^7 ≤ v ∧ v < (2:Int)^7) :
    writeInt8 v tag = writeInt16 v tag := by
  rw [writeInt8_eq64 v tag h, writeInt16_eq64 v tag (by omega)]

theorem C02_widen_8_16 (r : Reader) (v : Int) (tag : Nat) (old : Int) (req : Bool) (t : Bytes)
    (htag : tag < 256) (hv : -(2:Int)^7 ≤ v ∧ v < (2:Int)^7) (h : r.rest = writeInt8 v tag ++ t) :
    readInt16 old tag req r = (.ok v, r.adv (writeInt8 v tag).length) := by
  rw [writeInt8_eq16 v tag hv] at h ⊢; exact C02_rt_int16 r v tag old req t htag (by omega) h
theorem C02_widen_8_32 (r : Reader) (v : Int) (tag : Nat) (old : Int) (req : Bool) (t : Bytes)
    (htag : tag < 256) (hv : -(2:Int)^7 ≤ v ∧ v < (2:Int)^7) (h : r.rest = writeInt8 v tag ++ t) :
    readInt32 old tag req r = (.ok v, r.adv (writeInt8 v tag).length) := by
  rw [writeInt8_eq32 v tag hv] at h ⊢; exact C02_rt_int32 r v tag old req t htag (by omega) h
theorem C02_widen_8_64 (r : Reader) (v : Int) (tag : Nat) (old : Int) (req : Bool) (t : Bytes)
    (htag : tag < 256) (hv : -(2:Int)^7 ≤ v ∧ v < (2:Int)^7) (h : r.rest = writeInt8 v tag ++ t) :
    readInt64 old tag req r = (.ok v, r.adv (writeInt8 v tag).length) := by
  rw [writeInt8_eq64 v tag hv] at h ⊢; exact C02_rt_int64 r v tag old req t htag (by omega) h
theorem C02_widen_16_32 (r : Reader) (v : Int) (tag : Nat) (old : Int) (req : Bool) (t : Bytes)
    (htag : tag < 256) (hv : -(2:Int)^15 ≤ v ∧ v < (2:Int)^15) (h : r.rest = writeInt16 v tag ++ t) :
    readInt32 old tag req r = (.ok v, r.adv (writeInt16 v tag).length) := by
  rw [writeInt16_eq32 v tag hv] at h ⊢; exact C02_rt_int32 r v tag old req t htag (by omega) h
theorem C02_widen_16_64 (r : Reader) (v : Int) (tag : Nat) (old : Int) (req : Bool) (t : Bytes)
    (htag : tag < 256) (hv : -(2:Int)^15 ≤ v ∧ v < (2:Int)^15) (h : r.rest = writeInt16 v tag ++ t) :
    readInt64 old tag req r = (.ok v, r.adv (writeInt16 v tag).length) := by
  rw [writeInt16_eq64 v tag hv] at h ⊢; exact C02_rt_int64 r v tag old req t htag (by omega) h
theorem C02_widen_32_64 (r : Reader) (v : Int) (tag : Nat) (old : Int) (req : Bool) (t : Bytes)
    (htag : tag < 256) (hv : -(2:Int)^31 ≤ v ∧ v < (2:Int)^31) (h : r.rest = writeInt32 v tag ++ t) :
    readInt64 old tag req r = (.ok v, r.adv (writeInt32 v tag).length) := by
  rw [writeInt32_eq64 v tag hv] at h ⊢; exact C02_rt_int64 r v tag old req t htag (by omega) h

/-- a `double` reader accepts a `float` field and returns its exact widening (`widenF32` is the
    model of Go's `float64(float32)`; its agreement with the compiler is checked by
    correspondence, see DESIGN §5) -/
theorem C02_widen_float (r : Reader) (bits : Nat) (tag : Nat) (old : Nat) (req : Bool) (t : Bytes)
    (htag : tag < 256) (hv : bits < 2^32) (h : r.rest = writeFloat32 bits tag ++ t) :
    readFloat64 old tag req r = (.ok (widenF32 bits), r.adv (writeFloat32 bits tag).length) := by
  rw [readFloat64_body]
  exact readWith_field old tag req (by decide) (by decide) htag (f64Body_float bits hv) r t h

/-- position statement shared by all round trips: after the read the reader is exactly at the
    end of the field, i.e. what remains is what followed the field -/
theorem C02_position (r : Reader) (enc t : Bytes) (h : r.rest = enc ++ t) :
    (r.adv enc.length).rest = t := r.rest_adv h

/-! ## Non-vacuity: concrete instances of the hypotheses -/

example : (Reader.mk0 (writeInt64 (-129) 200 ++ [byte 7])).rest = writeInt64 (-129) 200 ++ [byte 7] := rfl
example : readInt64 5 200 true (Reader.mk0 (writeInt64 (-129) 200 ++ [byte 7]))
    = (.ok (-129), ⟨(writeInt64 (-129) 200 ++ [byte 7]).toArray, 4⟩) := by rfl
example : writeInt64 (-129) 200 = [byte 0xF1, byte 200, byte 0xFF, byte 0x7F] := by decide

end Tars
