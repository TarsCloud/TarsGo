import TarsModel.Proofs.TupTrunc

/-!
# TUP attribute set (`tars/protocol/tup/tup.go`) — the C05 and C06 clauses for `UniAttribute`

Property theorems only (helper lemmas: `Proofs/TupBasic.lean`, `Proofs/TupRT.lean`,
`Proofs/TupTrunc.lean`).  The model is `Model/Tup.lean` (literal model of `UniAttribute.Encode` /
`Decode` / `PutBuffer` / `GetBuffer` over the codec model `Model/Wire.lean`).

`decodeV chk` is `Decode` in the two shapes the extractor recognises: `chk = true` validates the
entry count with `Reader.CheckLength` before the loop (pending/C05-tup-count-spin.patch), `chk = false`
is the code as found.  Everything below is stated for BOTH shapes unless the statement itself
names the shape; which shape `/repo` has is `Consts.tupCountChecked` (`Props/TupTree.lean`).

* C05: `Tup_decode_total` (value or plain error, never a panic, for every input; with the count
  validated the loop runs at most as many iterations as bytes are left), `Tup_alloc_bounded`
  (bytes allocated ≤ bytes of input left behind), both also for a whole input
  (`Tup_decode_total_input`, `Tup_alloc_bounded_input`), `Tup_asFound_spin` (the as-found loop: the
  6-byte input `08 02 7f ff ff ff` costs 2^31−1 iterations) and `Tup_count_validated`.
* C06: `Tup_no_short_read` (every stored key and value is a contiguous piece of the input — no
  partial strings, no zero-filled buffers), `Tup_truncated_entry` (an input cut inside an entry:
  the complete entries before the cut and nothing else are stored, and it is an error unless the cut
  falls on an entry boundary or right behind a key), `Tup_wrong_type_rejected` and its one
  exception `Tup_value_structEnd_skipped`.
* round trip: `Tup_roundtrip`, `Tup_roundtrip_any_order`, `Tup_duplicates_last_wins`.
-/
namespace Tars.Tup
open Tars Consts

/-! ## C05: totality, iterations, allocation -/

/-- **Totality.**  For every input, every starting map and both shapes of the code, `Decode`
    returns `nil` or a plain Go error — never a panic, never the model's fuel artefact.  With the
    count validated, the loop starts at most as many iterations as bytes are left to read (so at
    most `|input|`). -/
theorem Tup_decode_total (chk : Bool) (m0 : TupMap) (r : Reader) :
    (∀ e, (decodeV chk m0 r).err = some e → e.isPlain = true) ∧
    (chk = true → (decodeV chk m0 r).iters ≤ r.remaining) := by
  obtain ⟨n, hn, h⟩ := decodeV_spec chk m0 r
  exact ⟨h.plain, fun hc => Nat.le_trans (Nat.zero_add n ▸ h.iters) (hn hc)⟩

/-- the same for an input given as a byte string -/
theorem Tup_decode_total_input (m0 : TupMap) (input : Bytes) :
    (decodeV true m0 (Reader.mk0 input)).iters ≤ input.length := by
  have := (Tup_decode_total true m0 (Reader.mk0 input)).2 rfl
  rwa [Reader.remaining_of_rest (Reader.rest_mk0 input)] at this

/-- non-vacuity: an error outcome exists and is plain; a success exists -/
example : (decodeV true [] (Reader.mk0 [byte 8, byte 0, byte 1])).err = some .eof := by decide +kernel
example : (decodeV true [] (Reader.mk0 [byte 8, byte 12])).err = none := by decide +kernel

/-- **Allocation.**  The bytes `Decode` asks the allocator for (key strings and value buffers,
    including those of entries that are overwritten later and of the iteration that fails) are
    paid for by input left behind: `alloc + bytes still unread ≤ bytes unread at the start`.  The
    content of the map grows by at most that. -/
theorem Tup_alloc_bounded (chk : Bool) (m0 : TupMap) (r : Reader) :
    (decodeV chk m0 r).alloc + (decodeV chk m0 r).rd.remaining ≤ r.remaining ∧
    dataBytes (decodeV chk m0 r).data ≤ dataBytes m0 + (decodeV chk m0 r).alloc := by
  obtain ⟨_, _, h⟩ := decodeV_spec chk m0 r
  exact ⟨Nat.zero_add r.remaining ▸ h.paid, h.grown⟩

/-- the same for an input given as a byte string: never more than the input length -/
theorem Tup_alloc_bounded_input (chk : Bool) (input : Bytes) :
    (decodeV chk [] (Reader.mk0 input)).alloc ≤ input.length ∧
    dataBytes (decodeV chk [] (Reader.mk0 input)).data ≤ input.length := by
  have h := Tup_alloc_bounded chk [] (Reader.mk0 input)
  rw [Reader.remaining_of_rest (Reader.rest_mk0 input)] at h
  simp only [dataBytes] at h
  omega

/-- **The as-found loop spins.**  Without the count validation, the input "MAP head, count `n`,
    nothing else" runs `n` iterations that read nothing, store nothing and report nothing, and
    `Decode` then returns `nil` with an empty map: the work is not bounded by the input length. -/
theorem Tup_asFound_spin (n : Nat) (hn : n < 2 ^ 31) :
    let input := writeHead tyMAP 0 ++ writeInt32 (wrapS 32 (n : Int)) 0
    (decodeV false [] (Reader.mk0 input)).iters = n ∧ (decodeV false [] (Reader.mk0 input)).err = none ∧
    (decodeV false [] (Reader.mk0 input)).data = [] ∧ input.length ≤ 6 := by
  simp only
  rw [wrapS32_len n hn,
    decodeV_header false [] _ n [] (by omega) (Reader.rest_mk0_append_nil _),
    if_neg (by simp), Int.toNat_natCast,
    decodeLoop_eof (Reader.rest_adv _ (Reader.rest_mk0_append_nil _))]
  refine ⟨Nat.zero_add n, rfl, rfl, ?_⟩
  -- a MAP head at tag 0 is one byte, the count one head byte and its narrowest width, at most four
  have hw := minWidth_le_four (v := (n : Int)) (by omega)
  rw [writeInt32_eq_writeInt64 _ _ (by omega), writeInt64_specInt, specInt, ← writeHead_eq_specHead]
  simp only [List.length_append, writeHead_length, be_length, if_pos (show 0 < 15 by decide)]
  omega

/-- the witness of the finding: six bytes, 2^31 − 1 iterations -/
example : writeHead tyMAP 0 ++ writeInt32 (wrapS 32 ((2 ^ 31 - 1 : Nat) : Int)) 0
    = [byte 0x08, byte 0x02, byte 0x7f, byte 0xff, byte 0xff, byte 0xff] := by decide +kernel
example : (decodeV false [] (Reader.mk0 [byte 0x08, byte 0x02, byte 0x7f, byte 0xff, byte 0xff, byte 0xff])).iters
    = 2 ^ 31 - 1 := by
  have h := (Tup_asFound_spin (2 ^ 31 - 1) (by decide)).1
  have e : writeHead tyMAP 0 ++ writeInt32 (wrapS 32 ((2 ^ 31 - 1 : Nat) : Int)) 0
    = [byte 0x08, byte 0x02, byte 0x7f, byte 0xff, byte 0xff, byte 0xff] := by decide +kernel
  simp only [e] at h
  exact h

/-- **The validated count.**  With `CheckLength`, a count that is negative or larger than the
    number of bytes left is an error before the first iteration; the map is untouched. -/
theorem Tup_count_validated (m0 : TupMap) (c : Int) (body : Bytes)
    (hc : -(2 : Int) ^ 31 ≤ c ∧ c < (2 : Int) ^ 31) (hbad : c < 0 ∨ (body.length : Int) < c) :
    let o := decodeV true m0 (Reader.mk0 (writeHead tyMAP 0 ++ writeInt32 c 0 ++ body))
    o.err = some .eof ∧ o.data = m0 ∧ o.iters = 0 := by
  simp only
  rw [decodeV_header true m0 _ c body hc (Reader.rest_mk0 _), if_pos ⟨rfl, hbad⟩]
  exact ⟨rfl, rfl, rfl⟩

example : (decodeV true [] (Reader.mk0 [byte 0x08, byte 0x02, byte 0x7f, byte 0xff, byte 0xff, byte 0xff])).err
    = some .eof := by decide +kernel

/-! ## Round trip -/

/-- **Round trip.**  For every association list with distinct keys (keys shorter than 2^32, values
    shorter than 2^31, fewer than 2^31 entries), written in the order of the list and followed by
    arbitrary bytes `t`, `Decode` succeeds, stops exactly behind the encoding (for `t = []`: consumes
    everything), ran one iteration per entry, allocated exactly the bytes of the keys and values,
    and the map holds exactly the entries of the list. -/
theorem Tup_roundtrip (chk : Bool) (l : TupMap) (t : Bytes) (hnd : (l.map (·.1)).Nodup) (hs : Sized l)
    (hl : l.length < 2 ^ 31) :
    let o := decodeV chk [] (Reader.mk0 (encode l ++ t))
    o.err = none ∧ o.rd.pos = (encode l).length ∧ o.data = l.reverse ∧
    (∀ k v, get o.data k = some v ↔ (k, v) ∈ l) ∧ o.iters = l.length ∧ o.alloc = dataBytes l := by
  simp only
  obtain ⟨r', hpos, he⟩ := decodeV_encode chk l t hs hl
  have hd : putAll [] l = l.reverse := by
    rw [putAll_nodup l [] hnd (by simp), List.append_nil]
  have hnd' : (l.reverse.map (·.1)).Nodup := by
    rw [List.map_reverse, List.Nodup, List.pairwise_reverse]
    exact hnd.imp Ne.symm
  rw [he, hd]
  exact ⟨rfl, hpos, rfl,
    fun k v => (lookup_nodup _ hnd' k v).trans List.mem_reverse, rfl, rfl⟩

/-- **Round trip in every order.**  Go visits the map in an unspecified order: whatever order `l'`
    of the entries `Encode` writes, `Decode` yields the same map. -/
theorem Tup_roundtrip_any_order (chk : Bool) (l l' : TupMap) (hp : l'.Perm l) (hnd : (l.map (·.1)).Nodup)
    (hs : Sized l) (hl : l.length < 2 ^ 31) :
    let o := decodeV chk [] (Reader.mk0 (encode l'))
    o.err = none ∧ o.rd.pos = (encode l').length ∧ (∀ k v, get o.data k = some v ↔ (k, v) ∈ l) ∧
    o.data.length = l.length := by
  have hnd' : (l'.map (·.1)).Nodup := (hp.map _).nodup_iff.mpr hnd
  have hs' : Sized l' := fun p hp' => hs p (hp.mem_iff.mp hp')
  have hl' : l'.length < 2 ^ 31 := by rw [hp.length_eq]; exact hl
  have h := Tup_roundtrip chk l' [] hnd' hs' hl'
  simp only [List.append_nil] at h
  obtain ⟨a, b, c, d, _, _⟩ := h
  refine ⟨a, b, fun k v => (d k v).trans hp.mem_iff, ?_⟩
  rw [c, List.length_reverse, hp.length_eq]

/-- non-vacuity: two entries (one with empty key and empty value), both orders -/
example :
    let l : TupMap := [([byte 97, byte 98], [byte 1, byte 2, byte 3]), ([], [])]
    (l.map (·.1)).Nodup ∧ Sized l ∧ l.length < 2 ^ 31 ∧ l.reverse.Perm l ∧
    (decodeV true [] (Reader.mk0 (encode l))).data = l.reverse ∧
    (decodeV true [] (Reader.mk0 (encode l.reverse))).data = l := by
  decide +kernel

/-- **Later duplicates win.**  An encoding that repeats a key (only a hostile or foreign writer
    produces one) decodes without error; a lookup sees the LAST entry written under that key. -/
theorem Tup_duplicates_last_wins (chk : Bool) (l : TupMap) (hs : Sized l) (hl : l.length < 2 ^ 31) :
    let o := decodeV chk [] (Reader.mk0 (encode l))
    o.err = none ∧ ∀ k, get o.data k = l.reverse.lookup k := by
  simp only
  obtain ⟨r', _, he⟩ := decodeV_encode chk l [] hs hl
  rw [List.append_nil] at he
  rw [he]
  exact ⟨rfl, fun k => (get_putAll l [] k).trans Option.or_none⟩

example :
    let l : TupMap := [([byte 97], [byte 1]), ([byte 97], [byte 2])]
    get (decodeV true [] (Reader.mk0 (encode l))).data [byte 97] = some [byte 2] := by
  intro l
  rw [(Tup_duplicates_last_wins true l (by decide) (by decide)).2]
  decide

/-! ## C06: no short reads, truncation, wrong wire types -/

/-- **No partial strings, no zero-filled buffers.**  Whatever the input and whatever the outcome
    (`nil` or an error — the generated dispatchers ignore the error of `reqTup.Decode`), every
    key and every value in the map occurs contiguously in the input. -/
theorem Tup_no_short_read (chk : Bool) (input : Bytes) :
    ∀ p ∈ (decodeV chk [] (Reader.mk0 input)).data, p.1 <:+: input ∧ p.2 <:+: input := by
  intro p hp
  obtain ⟨_, _, h⟩ := decodeV_spec chk [] (Reader.mk0 input)
  rcases h.inside p hp with h | h
  · cases h
  · exact h

/-- **An input cut inside an entry.**  The input is a header announcing more entries than follow,
    the complete entries `es`, and then a proper prefix `q` of the encoding of one more entry
    `(k, v)` (for the validated shape the announced count does not exceed the bytes that follow —
    otherwise `Tup_count_validated` applies).  Then the map holds exactly the complete entries,
    never a partial one, and `Decode` reports an error unless the cut falls on the entry boundary
    (`q = []`) or right behind the key (`q = writeString k 0`): in those two cases the remaining
    iterations find nothing to read and `Decode` returns `nil`. -/
theorem Tup_truncated_entry (chk : Bool) (es : TupMap) (k v q s : Bytes) (n' : Nat)
    (hs : Sized es) (hk : k.length < 2 ^ 32) (hv : v.length < 2 ^ 31)
    (hq : q ++ s = encodeEntry k v) (hsne : s ≠ []) (hn : es.length + (n' + 1) < 2 ^ 31)
    (hc : chk = true → es.length + (n' + 1) ≤ (encodeEntries es ++ q).length) :
    let input := writeHead tyMAP 0 ++ writeInt32 (wrapS 32 ((es.length + (n' + 1) : Nat) : Int)) 0
                  ++ (encodeEntries es ++ q)
    (decodeV chk [] (Reader.mk0 input)).data = putAll [] es ∧
    ((decodeV chk [] (Reader.mk0 input)).err = none ↔ (q = [] ∨ q = writeString k 0)) :=
  decodeV_truncated chk _ es k v q s n' hs hk hv hq hsne hn (Reader.rest_mk0 _) hc

/-- non-vacuity: one complete entry, the second cut in the middle of its value: an error, and
    exactly the complete entry is in the map -/
example :
    let e1 : Bytes × Bytes := ([byte 97], [byte 1])
    let k : Bytes := [byte 98]
    let v : Bytes := [byte 7, byte 8, byte 9]
    let q := (encodeEntry k v).take 7
    let input := writeHead tyMAP 0 ++ writeInt32 (wrapS 32 (((([e1] : TupMap).length + (0 + 1) : Nat)) : Int)) 0
      ++ (encodeEntries [e1] ++ q)
    (decodeV true [] (Reader.mk0 input)).err ≠ none ∧ (decodeV true [] (Reader.mk0 input)).data = [e1] := by
  intro e1 k v q input
  have h := Tup_truncated_entry true [e1] k v q ((encodeEntry k v).drop 7) 0 (by decide) (by decide) (by decide)
    (List.take_append_drop 7 _) (by decide) (by decide) (fun _ => by decide)
  refine ⟨fun hn => ?_, ?_⟩
  · have := h.2.mp hn
    revert this; decide
  · rw [h.1]; decide

/-- **Wrong wire types are rejected.**  After the complete entries `es`:
    1. a value head (tag 1) of a wire type other than SimpleList (and other than StructEnd, which
       `SkipToNoCheck(1, false)` reports as "tag 1 is not there": nothing stored, no error) is
       the error "require vector, but not";
    2. a SimpleList whose element head is not `BYTE` at tag 0 is an error ("type not match", or
       "can not find Tag 0" for a StructEnd head / a tag greater than 0);
    3. a key head (tag 0) that is not a string is the error "need string".
    In each case the complete entries before it stay stored and nothing else is. -/
theorem Tup_wrong_type_rejected (chk : Bool) (es : TupMap) (k t : Bytes) (ty tg n' : Nat)
    (hs : Sized es) (hk : k.length < 2 ^ 32) (hty : ty < 16) (htg : tg < 256)
    (hn : es.length + (n' + 1) < 2 ^ 31) :
    let hdr := writeHead tyMAP 0 ++ writeInt32 (wrapS 32 ((es.length + (n' + 1) : Nat) : Int)) 0
    let bad1 := writeString k 0 ++ writeHead ty 1 ++ t
    let bad2 := writeString k 0 ++ writeHead tySimpleList 1 ++ writeHead ty tg ++ t
    let bad3 := writeHead ty 0 ++ t
    (ty ≠ tySimpleList → ty ≠ tyStructEnd →
      (chk = true → es.length + (n' + 1) ≤ (encodeEntries es ++ bad1).length) →
      (decodeV chk [] (Reader.mk0 (hdr ++ (encodeEntries es ++ bad1)))).err = some .mismatch ∧
      (decodeV chk [] (Reader.mk0 (hdr ++ (encodeEntries es ++ bad1)))).data = putAll [] es) ∧
    (¬ (ty = tyBYTE ∧ tg = 0) →
      (chk = true → es.length + (n' + 1) ≤ (encodeEntries es ++ bad2).length) →
      (decodeV chk [] (Reader.mk0 (hdr ++ (encodeEntries es ++ bad2)))).err
        = some (if ty = tyStructEnd ∨ tg > 0 then .require else .mismatch) ∧
      (decodeV chk [] (Reader.mk0 (hdr ++ (encodeEntries es ++ bad2)))).data = putAll [] es) ∧
    (ty ≠ tySTRING1 → ty ≠ tySTRING4 → ty ≠ tyStructEnd →
      (chk = true → es.length + (n' + 1) ≤ (encodeEntries es ++ bad3).length) →
      (decodeV chk [] (Reader.mk0 (hdr ++ (encodeEntries es ++ bad3)))).err = some .mismatch ∧
      (decodeV chk [] (Reader.mk0 (hdr ++ (encodeEntries es ++ bad3)))).data = putAll [] es) := by
  simp only
  refine ⟨fun h1 h2 hc => ?_, fun h1 hc => ?_, fun h1 h4 h2 hc => ?_⟩
  · exact decodeV_bad_entry chk es n' hs hn
      (decodeEntry_value_wrong_type k t ty hk hty h1 h2) (Reader.rest_mk0 _) hc
  · exact decodeV_bad_entry chk es n' hs hn
      (decodeEntry_elem_wrong_type k t ty tg hk hty htg h1) (Reader.rest_mk0 _) hc
  · exact decodeV_bad_entry chk es n' hs hn
      (decodeEntry_key_wrong_type t ty hty h1 h4 h2) (Reader.rest_mk0 _) hc

/-- non-vacuity: a LIST where the byte vector is expected; a SimpleList of INT elements -/
example :
    (decodeV true [] (Reader.mk0 (writeHead tyMAP 0 ++ writeInt32 1 0 ++
      (writeString [byte 97] 0 ++ writeHead tyLIST 1 ++ [byte 12])))).err = some .mismatch := by decide +kernel
example :
    (decodeV true [] (Reader.mk0 (writeHead tyMAP 0 ++ writeInt32 1 0 ++
      (writeString [byte 97] 0 ++ writeHead tySimpleList 1 ++ writeHead tyINT 0 ++ [byte 0, byte 0, byte 0, byte 1])))).err
      = some .mismatch := by decide +kernel

/-- the StructEnd exception of clause 1, stated: nothing is stored and the loop goes on -/
theorem Tup_value_structEnd_skipped (r : Reader) (k t : Bytes) (hk : k.length < 2 ^ 32)
    (h : r.rest = writeString k 0 ++ writeHead tyStructEnd 1 ++ t) :
    (decodeEntry r).res = .ok none := by
  rw [List.append_assoc] at h
  have e1 := readString_writeString k 0 [] false (by decide) hk r _ h
  obtain ⟨ty, e2⟩ := skipToNoCheck_miss _ 1
    (.inr ⟨tyStructEnd, 1, t, by decide, by decide, .inl rfl, r.rest_adv h⟩)
  simp only [decodeEntry, e1, e2]

end Tars.Tup
