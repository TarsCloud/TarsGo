/-
  C07 — Stream framing is independent of TCP segmentation and bounds packet size.

  Model: `TarsModel/Model/Frame.lean` — `tarsRequest` (= `protocol.TarsRequest`), the inner parse
  loops `drainServer` (= `tcpHandler.recv`) and `drainClient` (= `connection.recv`), and the outer
  loop over successful reads `feed`/`feedAll`.  `side` ranges over both receive loops, `maxLen` over
  every value of `maxPackageLength` (any Go `int`), chunk lists over *every* sequence of reads
  (empty reads, single bytes, many packets in one read, reads larger than any buffer).

  What the receive loop hands to the protocol layer (`Invoke` on the server, `Recv` on the client)
  is the packet *including* its 4-byte length prefix: the delivered packets of a stream of framed
  bodies `ps` are `ps.map frame`.

  "closes that connection only": the state of a receive loop is the `Conn` value of that
  connection; `feed` reads nothing else but `maxLen` and writes nothing else, so the status of one
  connection is a function of the bytes read on that connection alone.
-/
import TarsModel.Proofs.FrameFeed

namespace Tars.Frame.C07
open Tars Tars.Frame

/-- **Chunking independence.** For every sequence of reads `cs` (any partition of any byte stream,
empty reads included), both receive loops deliver the same packets in the same order and end in
the same status as if the whole stream had arrived in one read; while the connection is open the
buffered rest is the same too (after a protocol error the chunked run has simply stopped reading
earlier: its buffer is a prefix). -/
theorem C07_chunking (side : Side) (maxLen : Int) (cs : List Bytes) :
    (feedAll side maxLen Conn.init cs).2 = (feed side maxLen Conn.init cs.flatten).2 ∧
    (feedAll side maxLen Conn.init cs).1.status = (feed side maxLen Conn.init cs.flatten).1.status ∧
    ((feedAll side maxLen Conn.init cs).1.status = .open →
      (feedAll side maxLen Conn.init cs).1 = (feed side maxLen Conn.init cs.flatten).1) ∧
    (feedAll side maxLen Conn.init cs).1.buf <+: (feed side maxLen Conn.init cs.flatten).1.buf :=
  feedAll_flatten side maxLen cs Conn.init (settled_init maxLen)

/-- **Any two partitions of the same stream** give the same packets, order and status, and the
same buffered rest while open. -/
theorem C07_chunking_partitions (side : Side) (maxLen : Int) (cs₁ cs₂ : List Bytes)
    (h : cs₁.flatten = cs₂.flatten) :
    (feedAll side maxLen Conn.init cs₁).2 = (feedAll side maxLen Conn.init cs₂).2 ∧
    (feedAll side maxLen Conn.init cs₁).1.status = (feedAll side maxLen Conn.init cs₂).1.status ∧
    ((feedAll side maxLen Conn.init cs₁).1.status = .open →
      (feedAll side maxLen Conn.init cs₁).1 = (feedAll side maxLen Conn.init cs₂).1) := by
  obtain ⟨a1, a2, a3, _⟩ := C07_chunking side maxLen cs₁
  obtain ⟨b1, b2, b3, _⟩ := C07_chunking side maxLen cs₂
  rw [h] at a1 a2 a3
  refine ⟨by rw [a1, b1], by rw [a2, b2], ?_⟩
  intro ho
  rw [a3 ho, b3 (by rw [b2, ← a2]; exact ho)]

example : ([[1, 2], [], [3]] : List Bytes).flatten = ([[1], [2, 3]] : List Bytes).flatten := by decide

/-- **Frames.** For every list of packets whose framed length is at most the maximum (and fits
the 4-byte prefix) and every partition of the concatenated stream into reads: exactly those
packets are delivered, each once, complete, in order; nothing stays buffered; the connection is
open. -/
theorem C07_frames (side : Side) (maxLen : Int) (ps : List Bytes)
    (hp : ∀ p ∈ ps, Legal maxLen p) (cs : List Bytes)
    (hcs : cs.flatten = (ps.map frame).flatten) :
    feedAll side maxLen Conn.init cs = (⟨[], .open⟩, ps.map frame) := by
  apply feedAll_init_open
  rw [hcs, ← List.append_nil (List.flatten _),
    drainServer_parts (wellFormed_frames hp) (rest_nil maxLen)]

/-- non-vacuity: the 1-byte body `[7]` and the empty body are legal for `maxLen = 5`, and
`[frame [7], frame []]` has a partition into single bytes -/
example : ∀ p ∈ ([[7], []] : List Bytes), Legal 5 p := by unfold Legal; decide
example : ([[0], [0], [0], [5], [7], [0], [0], [0], [4]] : List Bytes).flatten
    = (([[7], []] : List Bytes).map frame).flatten := by decide

/-- **Bounds, rejection.** A length prefix smaller than 4 or larger than the maximum, arriving
after any number of legal packets, split in any way (also inside the header, also with bytes
following it): exactly the preceding packets are delivered and the connection is closed. -/
theorem C07_bounds (side : Side) (maxLen : Int) (ps : List Bytes)
    (hp : ∀ p ∈ ps, Legal maxLen p) (hdr rest : Bytes) (hlen : hdr.length = 4)
    (hbad : beVal hdr < 4 ∨ (beVal hdr : Int) > maxLen) (cs : List Bytes)
    (hcs : cs.flatten = (ps.map frame).flatten ++ hdr ++ rest) :
    (feedAll side maxLen Conn.init cs).2 = ps.map frame ∧
    (feedAll side maxLen Conn.init cs).1.status = .closed := by
  obtain ⟨h1, h2, _, _⟩ := C07_chunking side maxLen cs
  rw [feed_init, hcs, List.append_assoc,
    drainServer_parts (wellFormed_frames hp) (rest_illegal_hdr hdr hlen hbad rest)] at h1 h2
  exact ⟨h1, h2⟩

/-- non-vacuity: with `maxLen = 5` the prefixes 3 and 6 are illegal -/
example : beVal ([0, 0, 0, 3] : Bytes) < 4 ∨ (beVal ([0, 0, 0, 3] : Bytes) : Int) > 5 := by decide
example : beVal ([0, 0, 0, 6] : Bytes) < 4 ∨ (beVal ([0, 0, 0, 6] : Bytes) : Int) > 5 := by decide

/-- **Bounds, acceptance at the maximum.** A packet whose framed length is exactly the maximum is
accepted, however it is split. -/
theorem C07_bounds_exact_max (side : Side) (maxLen : Int) (p : Bytes)
    (hmax : ((p.length + 4 : Nat) : Int) = maxLen) (h32 : p.length + 4 < 2 ^ 32)
    (cs : List Bytes) (hcs : cs.flatten = frame p) :
    feedAll side maxLen Conn.init cs = (⟨[], .open⟩, [frame p]) := by
  have := C07_frames side maxLen [p] (by
    intro q hq
    simp only [List.mem_cons, List.not_mem_nil, or_false] at hq
    subst hq
    exact ⟨by omega, h32⟩) cs (by simpa using hcs)
  simpa using this

example : (((([1, 2, 3] : Bytes).length + 4 : Nat) : Int) = 7) := by decide

/-- **Bounds, one more than the maximum is rejected** (instance of `C07_bounds` spelled out for
the boundary): the prefix `maxLen + 1` closes the connection. -/
theorem C07_bounds_max_plus_one (side : Side) (maxLen : Nat) (h32 : maxLen + 1 < 2 ^ 32)
    (rest : Bytes) (cs : List Bytes) (hcs : cs.flatten = be 4 (maxLen + 1) ++ rest) :
    (feedAll side maxLen Conn.init cs).2 = [] ∧
    (feedAll side maxLen Conn.init cs).1.status = .closed := by
  have hv : beVal (be 4 (maxLen + 1)) = maxLen + 1 := by
    rw [beVal_be]; exact Nat.mod_eq_of_lt h32
  have := C07_bounds side maxLen [] (by simp) (be 4 (maxLen + 1)) rest (by simp)
    (Or.inr (by rw [hv]; omega)) cs (by simpa using hcs)
  simpa using this

/-- **Bounds, nothing oversize or incomplete is ever delivered.** Whatever bytes arrive in whatever
reads, every delivered packet has at least 4 and at most `maxLen` bytes and is exactly as long as
its own length prefix says. -/
theorem C07_delivered_wellformed (side : Side) (maxLen : Int) (cs : List Bytes) :
    ∀ p ∈ (feedAll side maxLen Conn.init cs).2,
      4 ≤ p.length ∧ (p.length : Int) ≤ maxLen ∧ beVal (p.take 4) = p.length := by
  intro p hp
  rw [(C07_chunking side maxLen cs).1, feed_init] at hp
  exact drainServer_wellformed maxLen _ p hp

/-- **No loss, no duplication (conservation invariant).** For every sequence of reads — hence
after every step of every run — the bytes delivered so far followed by the bytes buffered are
exactly the bytes read: all of them while the connection is open, and the reads up to the one that
hit the protocol error otherwise (the loop reads nothing after it). -/
theorem C07_no_loss (side : Side) (maxLen : Int) (cs : List Bytes) :
    ∃ k, k ≤ cs.length ∧
      (feedAll side maxLen Conn.init cs).2.flatten ++ (feedAll side maxLen Conn.init cs).1.buf
        = (cs.take k).flatten ∧
      ((feedAll side maxLen Conn.init cs).1.status = .open → k = cs.length) := by
  obtain ⟨k, hk, he, hf⟩ := feedAll_conserve side maxLen cs Conn.init rfl
  exact ⟨k, hk, by simpa [Conn.init] using he, hf⟩

/-- conservation for a single read in an arbitrary open state, and inertness of a stopped loop -/
theorem C07_no_loss_step (side : Side) (maxLen : Int) (st : Conn) (c : Bytes) :
    (st.status = .open →
      (feed side maxLen st c).2.flatten ++ (feed side maxLen st c).1.buf = st.buf ++ c) ∧
    (st.status ≠ .open → feed side maxLen st c = (st, [])) :=
  ⟨feed_conserve side maxLen st c, feed_not_open side maxLen st c⟩

/-- **Incomplete packets wait.** Any proper prefix of a legal framed packet, in any partition:
nothing is delivered, everything is buffered, the connection stays open. -/
theorem C07_partial_waits (side : Side) (maxLen : Int) (p : Bytes) (hp : Legal maxLen p)
    (k : Nat) (hk : k < (frame p).length) (cs : List Bytes) (hcs : cs.flatten = (frame p).take k) :
    feedAll side maxLen Conn.init cs = (⟨(frame p).take k, .open⟩, []) := by
  apply feedAll_init_open
  rw [hcs, drainServer_prefix (wellFormed_frame hp) hk]

/-- non-vacuity: the first three bytes of `frame [7]` (5 bytes) with `maxLen = 5` -/
example : Legal 5 ([7] : Bytes) ∧ 3 < (frame ([7] : Bytes)).length := by unfold Legal; decide

/-- **Reconnect starts from the empty buffer.** For every history of connections of one client
(or one listener) — each cut wherever its reads end: inside a header, in the middle of a body,
after a protocol error — every connection is handled exactly as a first connection: nothing that
an earlier connection left buffered is carried over.  In particular a connection that carries,
in any partition, the framed legal packets `ps` delivers exactly `ps.map frame` whatever the
earlier connections left behind. -/
theorem C07_reconnect_fresh_buffer (side : Side) (maxLen : Int) (prev : Conn)
    (conns : List (List Bytes)) :
    session side maxLen prev conns = conns.map (feedAll side maxLen Conn.init) ∧
    ∀ (before after : List (List Bytes)) (cs : List Bytes) (ps : List Bytes),
      conns = before ++ cs :: after → (∀ p ∈ ps, Legal maxLen p) →
      cs.flatten = (ps.map frame).flatten →
      (session side maxLen prev conns)[before.length]? = some (⟨[], .open⟩, ps.map frame) := by
  have h := session_eq_map side maxLen conns prev
  refine ⟨h, ?_⟩
  intro before after cs ps hc hp hcs
  rw [h, hc, List.map_append, List.map_cons]
  rw [List.getElem?_append_right (by simp)]
  simp only [List.length_map, Nat.sub_self, List.getElem?_cons_zero]
  rw [C07_frames side maxLen ps hp cs hcs]

/-- non-vacuity: connection 1 ends after 2 header bytes of a 9-byte packet, connection 2 carries
`frame [7]` in two reads -/
example : ([[[0, 0]], [[0, 0, 0], [5, 7]]] : List (List Bytes)) = [[[0, 0]]] ++ [[0, 0, 0], [5, 7]] :: []
    ∧ ([[0, 0, 0], [5, 7]] : List Bytes).flatten = (([[7]] : List Bytes).map frame).flatten := by decide

/-- **The receive loops never panic** on any input (no slice expression goes out of range). -/
theorem C07_no_panic (side : Side) (maxLen : Int) (cs : List Bytes) :
    (feedAll side maxLen Conn.init cs).1.status ≠ .panicked := by
  rw [(C07_chunking side maxLen cs).2.1, feed_init]
  exact drainServer_ne_panicked maxLen _

/-- **Client and server** handle the stream identically. -/
theorem C07_client_eq_server (maxLen : Int) (st : Conn) (cs : List Bytes) :
    feedAll .client maxLen st cs = feedAll .server maxLen st cs := by
  induction cs generalizing st with
  | nil => rfl
  | cons c cs ih =>
    have hfeed : ∀ s, feed .client maxLen s c = feed .server maxLen s c := by
      intro s
      unfold feed
      rw [drain_eq .client, drain_eq .server]
    simp only [feedAll, hfeed, ih]

/-- the per-step trace the driver prints is that of `feedAll` -/
theorem C07_trace_sound (side : Side) (maxLen : Int) (cs : List Bytes) :
    ((feedTrace side maxLen Conn.init 0 cs).1, (feedTrace side maxLen Conn.init 0 cs).2.1)
      = feedAll side maxLen Conn.init cs :=
  feedTrace_eq side maxLen cs Conn.init 0

/-- C07, full strength, in one statement (`C07_full_holds`). -/
def C07_full : Prop :=
  ∀ (side : Side) (maxLen : Int) (ps : List Bytes), (∀ p ∈ ps, Legal maxLen p) →
    -- every partition of the stream of framed packets: exactly those packets, nothing buffered, open
    (∀ cs : List Bytes, cs.flatten = (ps.map frame).flatten →
      feedAll side maxLen Conn.init cs = (⟨[], .open⟩, ps.map frame)) ∧
    -- followed by an illegal length and anything else: exactly the packets before it, then closed
    (∀ (hdr rest : Bytes), hdr.length = 4 → (beVal hdr < 4 ∨ (beVal hdr : Int) > maxLen) →
      ∀ cs : List Bytes, cs.flatten = (ps.map frame).flatten ++ hdr ++ rest →
        (feedAll side maxLen Conn.init cs).2 = ps.map frame ∧
        (feedAll side maxLen Conn.init cs).1.status = .closed)

/-- the full statement follows from `C07_frames` and `C07_bounds` -/
theorem C07_full_holds : C07_full := by
  intro side maxLen ps hp
  exact ⟨fun cs hcs => C07_frames side maxLen ps hp cs hcs,
    fun hdr rest hlen hbad cs hcs => C07_bounds side maxLen ps hp hdr rest hlen hbad cs hcs⟩

end Tars.Frame.C07
