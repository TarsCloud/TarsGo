import TarsModel.Proofs.ClientConnLive
import TarsModel.Proofs.ClientConnAdmits
import TarsModel.Proofs.ClientConnHealthy
import TarsModel.Proofs.AdapterPush

/-!
# C11 — Calls keep succeeding across server-initiated connection closes

Property theorems only (helper lemmas: `Proofs/ClientConn*.lean`; model: `Model/ClientConn.lean`, an
LTS of `TarsClient.Send`, `connection.ReConnect / send / recv / close` of
`tars/transport/tarsclient.go`, one action per shared-memory / channel / socket operation).

"All points at which the server closes a connection, all delays between the close and the next
call, all interleavings of the client's sender/receiver goroutines" is: every schedule
`acts : List Action` (peer closes `pClose k`, ticks and calls are actions like any other; time is
abstract, so every delay is some interleaving) and every state `s` with `run v cap acts = some s`;
any number of calls, connections and queue capacity; nothing is bounded.

Vocabulary. Connection `k` is the `k`-th `net.Conn` dialled; the *current* one is the last
(`k + 1 = s.conns.length`). `c.known`: the client has run `close(conn_k)` — it knows the connection
is dead. `c.alive`: the server still reads it. `m.dead`: the connections already `known` when the
call of request `m` was issued. `s.attempts`: every `conn.Write(m)` with the connection it was
attempted on. The three clauses of the property, as predicates on a state (`Proofs/ClientConnLive.lean`):
`NoFalseClose s` — the flag is set only if the current connection is `known`; `NoDeadWrite s` — no attempt
`(m, k)` with `k ∈ m.dead`; `Served s` — while the current connection is not `known` the flag says "open" and
its sender has neither exited nor, if the connection is `alive`, parked its request in a hand-back.

What is proved and what is assumed. The property's main clause is a liveness statement ("the call
succeeds without waiting for its timeout"). The model has no clock and no scheduler: what is proved
is the safety core that liveness needs — the healthy current connection is never treated as closed,
its sender never exits, is never blocked and always has an enabled step, so every queued request is
one fair scheduling away from being written to it; and no request is written to a connection that
was known dead when its call was issued. That a fair Go scheduler and timers that fire then
deliver the request and the answer in time is ASSUMED, not proved. The response path
(`recv` → `Recv`) is outside this model.
-/
namespace Tars.ClientConn

/-- C11 at full strength for the variant `v` of `tarsclient.go`, over all schedules. (Liveness
proper — delivery within the timeout — additionally needs a fair scheduler; see the header.) -/
def C11_full (v : Variant) : Prop :=
  ∀ (cap : Nat) (acts : List Action) (s : State), run v cap acts = some s →
    NoFalseClose s ∧ NoDeadWrite s ∧ Served s

/-! ## The defect (D14): the code as found -/

/-- The losing schedule, derived from the code. Call 1 dials connection 0 and is written to it; the
old sender goes back to its inner `select`. The server closes connection 0 after the response; the
receiver reads EOF, runs `close` (flag set) and signals `connDone`. Call 2 is issued AFTER that:
`ReConnect` dials connection 1 (flag cleared) and starts its goroutines; the new sender polls the
(empty) failure queue and enters its inner `select`. `Send` enqueues request 2. The OLD sender —
still in its inner `select`, it only polls `connDone` at the loop top — wins the receive, writes to
the closed connection 0, fails, parks the request in `sendFailQueue` and runs `close(conn 0)`, which
sets the SHARED flag although connection 1 is healthy. The new sender's tick finds the flag set
and returns. -/
def d14Schedule : List Action :=
  [.callBegin 1, .callReconnect 1, .markReconnected 1, .callEnq 1, .callRet 1,
   .mark .top 0, .sTopGo 0, .sNoFail 0, .mark .inner 0, .sTakeQ 0, .mark .got 0, .sWriteOk 0,
   .mark .top 0, .sTopGo 0, .sNoFail 0, .mark .inner 0,
   .pClose 0, .rEof 0, .mark .closing 0, .rClose 0, .rSignal 0,
   .callBegin 2, .callReconnect 2, .markReconnected 2,
   .mark .top 1, .sTopGo 1, .sNoFail 1, .mark .inner 1,
   .callEnq 2, .callRet 2,
   .sTakeQ 0, .mark .got 0, .sWriteFail 0, .sRequeue 0, .sFailClose 0,
   .sTickClosed 1]

/-- As found, `d14Schedule` is a run of the model (any queue capacity ≥ 1). At its end: request 2,
issued when connection 0 was already known dead, has been written to connection 0 and to nothing
else; it sits in `sendFailQueue`; `Send` has returned; the flag says "closed" although connection 1
is alive and was never closed by the client; both senders have exited. No goroutine is left that
would ever take the request: it stays parked until ANOTHER call dials a third connection — or its
own timeout expires. -/
theorem C11_counterexample (cap : Nat) (hcap : 1 ≤ cap) :
    ∃ s, run .asFound cap d14Schedule = some s ∧
      s.failQ = some ⟨2, [0]⟩ ∧ s.sendQ = [] ∧ s.calls = [] ∧ s.isClosed = true ∧
      s.conns = [⟨false, false, true, true, .done, .exited⟩, ⟨true, false, false, false, .reading, .exited⟩] ∧
      s.attempts = [(⟨1, []⟩, 0), (⟨2, [0]⟩, 0)] ∧ s.arrived = [(1, 0)] ∧
      ¬ NoFalseClose s ∧ ¬ NoDeadWrite s ∧ ¬ Served s := by
  -- on `cap = n + 1` the guards `sendQ.length < cap` of the run evaluate, so the run is `rfl`
  obtain ⟨n, rfl⟩ : ∃ n, cap = n + 1 := ⟨cap - 1, by omega⟩
  refine ⟨_, rfl, rfl, rfl, rfl, rfl, rfl, rfl, rfl, ?_, ?_, ?_⟩
  · intro h
    have := h rfl 1 _ rfl rfl
    cases this
  · intro h
    exact h ⟨2, [0]⟩ 0 (by decide) (by decide)
  · intro h
    exact (h 1 _ rfl rfl rfl).2.1 rfl

/-- The same schedule with an ABORTIVE close by the server (RST: restart, kill, close with unread
input; the receiver's `Read` fails with a `*net.OpError` and takes the first error branch of `recv`)
instead of the orderly one: the run and its end are the same. -/
theorem C11_counterexample_reset :
    ∃ s, run .asFound 100 (d14Schedule.map (fun a => match a with
        | .pClose k => Action.pReset k
        | .rEof k => Action.rErr k
        | a => a)) = some s ∧
      s.failQ = some ⟨2, [0]⟩ ∧ s.isClosed = true ∧ tauSucc .asFound 100 s = [] ∧
      s.conns[1]? = some ⟨true, false, false, false, .reading, .exited⟩ := by
  refine ⟨_, rfl, rfl, rfl, ?_, rfl⟩
  decide

/-- hence the code as found does not have the property -/
theorem C11_counterexample_not_full : ¬ C11_full .asFound := by
  intro h
  obtain ⟨s, hrun, _, _, _, _, _, _, _, hn, _, _⟩ := C11_counterexample 1 (Nat.le_refl 1)
  exact hn (h 1 d14Schedule s hrun).1

/-- The stuck state is really stuck: after `d14Schedule` no internal action of the client is
enabled — only a new call (or the server) can change anything. -/
theorem C11_counterexample_parked :
    ∃ s, run .asFound 100 d14Schedule = some s ∧ tauSucc .asFound 100 s = [] := by
  refine ⟨_, rfl, ?_⟩
  decide

/-- Second way into the same defect, without any dequeue by an old sender: the late `close` of an
old RECEIVER. The client's own sender closes connection 0 on idle timeout; its receiver's `Read`
fails (`*net.OpError`, "use of closed network connection") and it is about to run `close(conn 0)`;
call 2 dials connection 1; now the old receiver's `close` sets the shared flag. Request 2 is still written to connection 1 and arrives, but at its
next tick the sender of the healthy connection 1 exits, and call 3 dials a third connection while
connection 1 was never lost (its receiver keeps reading it). -/
def lateReceiverSchedule : List Action :=
  [.callBegin 1, .callReconnect 1, .markReconnected 1, .callEnq 1, .callRet 1,
   .mark .top 0, .sTopGo 0, .sNoFail 0, .mark .inner 0, .sTakeQ 0, .mark .got 0, .sWriteOk 0,
   .mark .top 0, .sTopGo 0, .sNoFail 0, .mark .inner 0,
   .sTickIdle 0, .sIdleClose 0, .rErr 0, .mark .closing 0,
   .callBegin 2, .callReconnect 2, .markReconnected 2, .callEnq 2, .callRet 2,
   .rClose 0,
   .mark .top 1, .sTopGo 1, .sNoFail 1, .mark .inner 1, .sTakeQ 1, .mark .got 1, .sWriteOk 1,
   .mark .top 1, .sTopGo 1, .sNoFail 1, .mark .inner 1, .sTickClosed 1,
   .callBegin 3, .callReconnect 3]

theorem C11_counterexample_late_receiver :
    ∃ s, run .asFound 100 lateReceiverSchedule = some s ∧
      s.conns.length = 3 ∧ s.arrived = [(1, 0), (2, 1)] ∧ NoDeadWrite s ∧
      s.conns[1]? = some ⟨true, false, false, false, .reading, .exited⟩ :=
  ⟨_, rfl, rfl, rfl, forall_attempts (by decide), rfl⟩

/-! ## What holds for the code as found -/

/-- A write to a connection that was already known dead when the call was issued can only come
from the sender goroutine of an OLD connection, one that a `ReConnect` has since replaced (both
variants, every schedule): the sender of the current connection never does it. In the model a sender
writes only to the `net.Conn` it was started with (`sWrite* k` is a step of sender `k` and records
`k`), as in the code (`conn` is a parameter of `send`); so "never written to a connection known
dead" reduces to excluding the old-sender case — which the code as found does not
(`C11_counterexample`). PARTIAL: says where a dead write can come from, not that there is none. -/
theorem C11_never_dead_write_partial (v : Variant) (cap : Nat) (acts : List Action) (s : State)
    (hrun : run v cap acts = some s) :
    ∀ (m : Msg) (k : Nat), (m, k) ∈ s.attempts → k ∈ m.dead → k + 1 < s.conns.length := by
  intro m k hm hk
  exact (inv0_reachable (run_reachable hrun)).attemptsOld m k hm k hk

/-- non-vacuity: the D14 run contains such a write, by the sender of connection 0 while
connection 1 exists -/
example : ∃ s, run .asFound 100 d14Schedule = some s ∧ (⟨2, [0]⟩, 0) ∈ s.attempts ∧
    s.conns.length = 2 := by
  obtain ⟨s, h, _, _, _, _, hc, ha, _⟩ := C11_counterexample 100 (by decide)
  exact ⟨s, h, by simp [ha], by simp [hc]⟩

/-- C11 for the code as found on all TIMELY schedules (`Timely`, a predicate on the schedule,
`Model/ClientConn.lean`): no sender dequeues a request once the client has closed that sender's
connection ("no sender outlives its connection by a dequeue"), and no goroutine runs
`close(conn_k)` after a `ReConnect` has replaced connection `k`. PARTIAL: among the excluded
schedules are both ways into D14 (`d14Schedule` breaks the first condition at `.sTakeQ 0`,
`lateReceiverSchedule` the second at `.rClose 0`); they do occur in the real code. -/
theorem C11_partial (cap : Nat) (acts : List Action) (s : State)
    (ht : Timely .asFound cap acts) (hrun : run .asFound cap acts = some s) :
    NoFalseClose s ∧ NoDeadWrite s ∧ Served s :=
  run_safe (.inr ht) hrun

/-- A timely schedule with a server close and a call after it: the old sender's tick comes before
the next call (the call is issued more than one poll period after the close). -/
def timelySchedule : List Action :=
  [.callBegin 1, .callReconnect 1, .markReconnected 1, .callEnq 1, .callRet 1,
   .mark .top 0, .sTopGo 0, .sNoFail 0, .mark .inner 0, .sTakeQ 0, .mark .got 0, .sWriteOk 0,
   .mark .top 0, .sTopGo 0, .sNoFail 0, .mark .inner 0,
   .pClose 0, .rEof 0, .mark .closing 0, .rClose 0, .rSignal 0, .sTickClosed 0,
   .callBegin 2, .callReconnect 2, .markReconnected 2, .callEnq 2, .callRet 2,
   .mark .top 1, .sTopGo 1, .sNoFail 1, .mark .inner 1, .sTakeQ 1, .mark .got 1, .sWriteOk 1]

/-- non-vacuity of `C11_partial`: `timelySchedule` is timely, is a run, contains a close and a call
issued after it, and that call's request arrives on the new connection -/
example : Timely .asFound 100 timelySchedule ∧
    ∃ s, run .asFound 100 timelySchedule = some s ∧ s.arrived = [(1, 0), (2, 1)] ∧
      s.attempts = [(⟨1, []⟩, 0), (⟨2, [0]⟩, 1)] := by
  exact ⟨timelyB_iff.mp rfl, _, rfl, rfl, rfl⟩

/-- and the D14 schedule is not timely -/
example : ¬ Timely .asFound 100 d14Schedule :=
  fun h => absurd (timelyB_iff.mpr h) (by decide)

/-! ## The repaired code (`pending/C11-fix.patch`) has the property, for all interleavings -/

/-- C11 for the repaired `tarsclient.go` (`close` marks the shared flag only for the current
connection; the sender re-checks `lost(conn)` after every dequeue and hands the request back; the
inner `select` also serves `sendFailQueue` and `connDone`): every capacity, every schedule. -/
theorem C11_repaired : C11_full .repaired := fun _ _ _ hrun => run_safe (.inl rfl) hrun

/-- non-vacuity of `C11_repaired`: under the repaired code the D14 prefix continues differently —
the old sender takes request 2, finds its connection lost, hands the request back; the new sender
takes it from `sendFailQueue` in its inner `select` and writes it to connection 1, where it arrives;
the flag stays "open" -/
example : ∃ s, run .repaired 100
    [.callBegin 1, .callReconnect 1, .markReconnected 1, .callEnq 1, .callRet 1,
     .mark .top 0, .sTopGo 0, .sNoFail 0, .mark .inner 0, .sTakeQ 0, .sCheckOk 0, .mark .got 0,
     .sWriteOk 0, .mark .top 0, .sTopGo 0, .sNoFail 0, .mark .inner 0,
     .pClose 0, .rEof 0, .mark .closing 0, .rClose 0, .rSignal 0,
     .callBegin 2, .callReconnect 2, .markReconnected 2,
     .mark .top 1, .sTopGo 1, .sNoFail 1, .mark .inner 1,
     .callEnq 2, .callRet 2,
     .sTakeQ 0, .sCheckLost 0, .sHandback 0,
     .sInnerFail 1, .sCheckOk 1, .mark .got 1, .sWriteOk 1] = some s ∧
    s.isClosed = false ∧ s.arrived = [(1, 0), (2, 1)] ∧ s.failQ = none ∧
    s.attempts = [(⟨1, []⟩, 0), (⟨2, [0]⟩, 1)] := by
  refine ⟨_, rfl, rfl, rfl, rfl, rfl⟩

/-- The extractor records the shape of `close` and `send` in `Generated/Consts.lean`; when it sees
the repaired shape (`treeVariant = .repaired`) the theorem is about the variant of the current tree. -/
theorem C11_current_tree (h : treeVariant = .repaired) : C11_full treeVariant := h ▸ C11_repaired

/-- The liveness part the model can exhibit (repaired: every schedule; as found: the timely ones):
the sender of a current connection that the client has not closed and the server still reads has not
exited and always has an enabled statement. (That the scheduler runs it, and the ticker fires, is
assumed.) -/
theorem C11_sender_progress (v : Variant) (cap : Nat) (acts : List Action) (s : State)
    (hg : v = .repaired ∨ Timely v cap acts) (hrun : run v cap acts = some s)
    (k : Nat) (c : Conn) (hc : s.conns[k]? = some c) (hcur : k + 1 = s.conns.length)
    (hk : c.known = false) (ha : c.alive = true) :
    c.spc ≠ .exited ∧ ∃ a ∈ senderActions k, (step v cap s a).isSome = true :=
  sender_progress (inv_run hg hrun) hc hcur hk ha

/-- The loss of a connection is always noticed, whatever its kind: once the server has left
connection `k` — orderly (`pClose`, the `Read` returns `io.EOF`) or abortively (`pReset`, the `Read`
returns a `*net.OpError`) — or the client has closed the socket itself, the receiver of `k` has an
enabled statement until it is done (every schedule, both variants); and (repaired: every schedule;
as found: the timely ones) a receiver that is done has run `close(conn_k)`: both error branches of
`recv` end in `close`. (That the scheduler runs the receiver is assumed.) -/
theorem C11_loss_noticed (v : Variant) (cap : Nat) (acts : List Action) (s : State)
    (hrun : run v cap acts = some s) (k : Nat) (c : Conn) (hc : s.conns[k]? = some c)
    (hl : c.alive = false ∨ c.known = true) :
    (c.rpc ≠ .done → ∃ a ∈ receiverActions k, (step v cap s a).isSome = true) ∧
    ((v = .repaired ∨ Timely v cap acts) → c.rpc = .done → c.known = true) :=
  ⟨receiver_progress hc hl,
   fun hg hd => ((inv_run hg hrun).conn k c hc).atR hd⟩

/-- non-vacuity of `C11_loss_noticed`: after an abortive close the receiver's enabled statement is
the `*net.OpError` branch, after an orderly one the `io.EOF` branch -/
example : ∃ s c, run .repaired 100 [.callBegin 1, .callReconnect 1, .pReset 0] = some s ∧
    s.conns[0]? = some c ∧ c.alive = false ∧ c.rpc ≠ .done ∧
    (step .repaired 100 s (.rErr 0)).isSome = true ∧ (step .repaired 100 s (.rEof 0)).isSome = false := by
  refine ⟨_, _, rfl, rfl, rfl,
    by decide, by decide, by decide⟩

/-- the repaired code across an abortive close: the receiver takes the `*net.OpError` branch, runs
`close`, the old sender ends on `connDone`; the call issued afterwards dials connection 1 and its
request arrives there -/
example : ∃ s, run .repaired 100
    [.callBegin 1, .callReconnect 1, .markReconnected 1, .callEnq 1, .callRet 1,
     .mark .top 0, .sTopGo 0, .sNoFail 0, .mark .inner 0, .sTakeQ 0, .sCheckOk 0, .mark .got 0,
     .sWriteOk 0, .mark .top 0, .sTopGo 0, .sNoFail 0, .mark .inner 0,
     .pReset 0, .rErr 0, .mark .closing 0, .rClose 0, .rSignal 0, .sInnerDone 0,
     .callBegin 2, .callReconnect 2, .markReconnected 2, .callEnq 2, .callRet 2,
     .mark .top 1, .sTopGo 1, .sNoFail 1, .mark .inner 1, .sTakeQ 1, .sCheckOk 1, .mark .got 1,
     .sWriteOk 1] = some s ∧
    s.isClosed = false ∧ s.arrived = [(1, 0), (2, 1)] ∧ s.attempts = [(⟨1, []⟩, 0), (⟨2, [0]⟩, 1)] := by
  refine ⟨_, rfl, rfl, rfl, rfl⟩

/-- non-vacuity of the hypotheses of `C11_sender_progress` -/
example : ∃ s c, run .repaired 100 [.callBegin 1, .callReconnect 1] = some s ∧
    s.conns[0]? = some c ∧ 0 + 1 = s.conns.length ∧ c.known = false ∧ c.alive = true := by
  refine ⟨_, _, rfl, rfl, rfl, rfl, rfl⟩

/-- Boundary, stated honestly: a reading of "never written to a connection known to be dead" at the
instant of the `Write` itself is not attainable by a check-then-write sender, repaired or not — the
receiver may close the connection between the sender's check and its `Write`. (`NoDeadWrite` is
about what was known when the call was ISSUED; it still holds here, `m.dead = []`.) -/
theorem C11_strict_reading_boundary :
    ∃ s, run .repaired 100
      [.callBegin 1, .callReconnect 1, .markReconnected 1, .callEnq 1, .callRet 1,
       .mark .top 0, .sTopGo 0, .sNoFail 0, .mark .inner 0, .sTakeQ 0, .sCheckOk 0, .mark .got 0,
       .pClose 0, .rEof 0, .mark .closing 0, .rClose 0, .sWriteFail 0] = some s ∧
      knownAt s 0 = true ∧ s.attempts = [(⟨1, []⟩, 0)] ∧ NoDeadWrite s :=
  ⟨_, rfl, rfl, rfl, forall_attempts (by decide)⟩

/-! ## Observed histories: what the replay of a run of the real code through the model means -/

/-- `admits` (the check the harness applies to every observed history, any state limit) is sound:
an admitted history is the visible history of a run of the LTS. -/
theorem C11_admits_sound (v : Variant) (cap limit : Nat) (idle : Bool) (h : List Event)
    (ha : admits v cap idle h limit = true) :
    ∃ s, Trace v cap (if idle then init else initNoIdle) h s ∧ Reachable v cap s := by
  obtain ⟨s, t⟩ := admits_sound ha
  exact ⟨s, t, trace_reachable t (reachable_start idle)⟩

/-- Every history the REPAIRED model admits that ends with a probe of the client's state: if the
probe read "closed", the client had really closed the current connection — a history of the real
code in which a healthy connection is found marked closed cannot be replayed through the repaired
model. -/
theorem C11_histories (cap limit : Nat) (idle : Bool) (h : List Event) (q f n : Nat)
    (ha : admits .repaired cap idle (h ++ [.probe true q f n]) limit = true) :
    ∃ s, Trace .repaired cap (if idle then init else initNoIdle) h s ∧ s.conns.length = n ∧
      NoFalseClose s ∧ s.isClosed = true := by
  obtain ⟨s', t⟩ := admits_sound ha
  obtain ⟨s, t1, hc, hn⟩ := trace_probe_last t
  exact ⟨s, t1, hn, (inv_reachable_repaired (trace_reachable t1 (reachable_start idle))).safe.1, hc⟩

/-! ## `ReConnect` holds the lock from the test of the flag to the installation -/

/-- With the idle close out of reach (runs from `initNoIdle`), for both variants and every
interleaving of any number of concurrent callers: the client only ever closes a connection the
server has left — `ReConnect` tests the flag, dials and installs the new connection in ONE step
under `connLock`, so two callers that both find the client closed cannot both dial, and nothing but
`close(conn)` (after a read or write error) closes a socket. -/
theorem C11_no_healthy_close (v : Variant) (cap : Nat) (acts : List Action) (s : State)
    (hrun : runFrom v cap initNoIdle acts = some s) :
    ∀ (k : Nat) (c : Conn), s.conns[k]? = some c → c.known = true → c.alive = false :=
  fun k c hc => ((inv2_run hrun).conn k c hc).known

/-- non-vacuity: four concurrent callers on a closed client; one connection is dialled, all four
requests are queued, the first is written to it and arrives -/
example : ∃ s, runFrom .repaired 100 initNoIdle
    [.callBegin 1, .callBegin 2, .callBegin 3, .callBegin 4, .callReconnect 3, .callReconnect 1,
     .callReconnect 4, .callReconnect 2, .markReconnected 1, .markReconnected 2, .markReconnected 3,
     .markReconnected 4, .callEnq 2, .callEnq 1, .callEnq 4, .callEnq 3,
     .mark .top 0, .sTopGo 0, .sNoFail 0, .mark .inner 0, .sTakeQ 0, .sCheckOk 0, .mark .got 0,
     .sWriteOk 0] = some s ∧ s.conns.length = 1 ∧ s.arrived = [(2, 0)] ∧ s.sendQ.length = 3 := by
  refine ⟨_, rfl, rfl, rfl, rfl⟩

/-- NOT the code as found — `ReConnect` with the dial outside the lock (flag read under the lock,
dial unlocked, lock re-taken, new connection installed without looking at the flag again, the socket
of the connection it replaces closed directly): two callers both find the client closed and both
dial; caller 1 installs connection 0, its request is written there and arrives at the server; caller
2 then installs connection 1 and closes connection 0 — a healthy connection the server still
serves, carrying a request whose answer can now never be read (its receiver's `Read` fails: `rErr`). -/
theorem C11_unlocked_dial_counterexample :
    ∃ s, runFrom .repaired 100 initUnlocked
      [.callBegin 1, .callBegin 2, .callCheckClosed 1, .callCheckClosed 2,
       .callInstall 1, .markReconnected 1, .callEnq 1, .callRet 1,
       .mark .top 0, .sTopGo 0, .sNoFail 0, .mark .inner 0, .sTakeQ 0, .sCheckOk 0, .mark .got 0,
       .sWriteOk 0, .callInstall 2] = some s ∧
      s.conns.length = 2 ∧ s.arrived = [(1, 0)] ∧ s.isClosed = false ∧
      (∃ c, s.conns[0]? = some c ∧ c.alive = true ∧ c.known = true ∧ c.reset = false) ∧
      (step .repaired 100 s (.rErr 0)).isSome = true ∧
      ¬ (∀ (k : Nat) (c : Conn), s.conns[k]? = some c → c.known = true → c.alive = false) := by
  refine ⟨_, rfl, rfl, rfl, rfl, ⟨_, rfl, rfl, rfl, rfl⟩, by decide, fun h => ?_⟩
  have := h 0 _ rfl rfl
  cases this

/-! ## The close notification (`AdapterProxy.Recv` → `onPush`, `Model/AdapterPush.lean`)

The server announces that it is closing (`"_reconnect_"` push, request id 0), stops reading the
connection and closes it only later. "A request is never written to a connection already known to
be dead" then means: once the client has processed the notification of a `TarsClient`, no later
`AdapterProxy.Send` hands a request to that `TarsClient` — it goes to a fresh one, whose first
`Send` dials a new connection. -/

/-- For `onPush` as it stands (the `reconnectMsg` test comes first), for every schedule of server
pushes, notifications, `Recv` goroutines (in any order), `SetPushCallback` and sends, with or
without a push callback: every request is handed to a `TarsClient` whose close notification had
not been processed when `Send` was entered, and every `TarsClient` whose notification has been
processed is older than the current one. -/
theorem C11_after_notification_fresh_conn (acts : List Tars.AdapterPush.Action)
    (s : Tars.AdapterPush.State) (hrun : Tars.AdapterPush.run .reconnectFirst acts = some s) :
    (∀ x ∈ s.sends, x.gen ∉ x.noticed) ∧ (∀ g ∈ s.noticed, g < s.gen) := by
  have hi := Tars.AdapterPush.inv_run hrun
  exact ⟨hi.sendsFresh, hi.noticedOld⟩

/-- non-vacuity: two calls, the notification, its `Recv`, a third call — no push callback: the third
request goes to generation 1, the old client is handed to `GraceClose` -/
example : ∃ s, Tars.AdapterPush.run .reconnectFirst
    [.send 1, .send 2, .pNotify 0, .recv 0, .send 3] = some s ∧
    s.sends = [⟨1, 0, []⟩, ⟨2, 0, []⟩, ⟨3, 1, [0]⟩] ∧ s.graceClosing = [0] ∧ s.hasCallback = false :=
  ⟨_, rfl, rfl, rfl, rfl⟩

/-- The fresh `TarsClient` made by `onPush` is a transport LTS in its initial state: its first
`Send` finds the flag "closed" and dials a new connection (both transport variants). -/
theorem C11_fresh_client_dials (v : Variant) (cap id : Nat) :
    ∃ s, run v cap [.callBegin id, .callReconnect id] = some s ∧ s.conns = [{}] ∧
      s.isClosed = false := by
  -- `findCall` compares the variable `id` with itself, which only `simp` decides; what is left
  -- is `some _ = some ?s`
  refine ⟨_, by simp [run, runFrom, step, init, findCall, setCall, knownList]; rfl, rfl, rfl⟩

/-- With the `pushCallback == nil → return` guard in front of the `reconnectMsg` test, a client that
never registered a push callback processes the notification and keeps its `TarsClient`: the next
request is handed to the client whose connection the server has announced as closing and no longer
reads. With a callback registered the same schedule switches to a fresh client. -/
theorem C11_notification_counterexample_guard_first :
    (∃ s, Tars.AdapterPush.run .guardFirst [.send 1, .pNotify 0, .recv 0, .send 2] = some s ∧
      s.sends = [⟨1, 0, []⟩, ⟨2, 0, [0]⟩] ∧ s.stopped = [0] ∧ s.gen = 0 ∧
      ¬ (∀ x ∈ s.sends, x.gen ∉ x.noticed)) ∧
    (∃ s, Tars.AdapterPush.run .guardFirst [.setCallback, .send 1, .pNotify 0, .recv 0, .send 2] = some s ∧
      s.sends = [⟨1, 0, []⟩, ⟨2, 1, [0]⟩]) := by
  refine ⟨⟨_, rfl, rfl, rfl, rfl, fun h => ?_⟩, ⟨_, rfl, rfl⟩⟩
  exact h ⟨2, 0, [0]⟩ (by decide) (by decide)

/-- Every close notification is honoured, however long earlier ones are still being handled:
`GraceClose` of an old client can keep an `onPush` handler busy for up to `ClientIdleTimeout` (the
old client's one-way requests are never answered), and the server may restart again meanwhile. In
EVERY state — any number of handlers still inside `GraceClose` — a pending notification can be
processed, and processing it switches to a fresh `TarsClient`; hence (`C11_after_notification_fresh_conn`)
no later request goes to the client it was sent on. -/
theorem C11_every_notification_switches (s : Tars.AdapterPush.State) (i g : Nat)
    (h : s.inbox[i]? = some (g, .reconnect)) :
    ∃ s', Tars.AdapterPush.step .reconnectFirst s (.recv i) = some s' ∧ s'.gen = s.gen + 1 ∧
      g ∈ s'.noticed ∧ s'.handlers = s.handlers ++ [s.gen] :=
  ⟨_, by simp only [Tars.AdapterPush.step, h]; rfl, rfl, by simp [Tars.AdapterPush.onPush], rfl⟩

/-- non-vacuity: two graceful restarts in a row, the handler of the first still waiting in
`GraceClose` (one-way requests 2 and 3 were never answered): the second notification switches
again, request 5 goes to generation 2 -/
example : ∃ s, Tars.AdapterPush.run .reconnectFirst
    [.send 1, .send 2, .send 3, .pNotify 0, .recv 0, .send 4, .pNotify 1, .recv 0, .send 5] = some s ∧
    s.handlers = [0, 1] ∧ s.sends.map (fun x => (x.id, x.gen)) = [(1, 0), (2, 0), (3, 0), (4, 1), (5, 2)] :=
  ⟨_, rfl, rfl, rfl⟩

/-- With a "handle one notification at a time" test-and-set around the reconnect branch, released
only when the handler returns from `GraceClose`, the notification of the next restart is dropped
while the first handler is still waiting: request 5 is handed to generation 1, whose connection the
server has announced as closing. Once the first handler has returned the same schedule is fine. -/
theorem C11_notification_counterexample_gated :
    (∃ s, Tars.AdapterPush.run .casGated
        [.send 1, .send 2, .send 3, .pNotify 0, .recv 0, .send 4, .pNotify 1, .recv 0, .send 5] = some s ∧
      s.gen = 1 ∧ s.stopped = [0, 1] ∧ s.noticed = [0, 1] ∧
      ¬ (∀ x ∈ s.sends, x.gen ∉ x.noticed)) ∧
    (∃ s, Tars.AdapterPush.run .casGated
        [.send 1, .pNotify 0, .recv 0, .graceDone 0, .send 4, .pNotify 1, .recv 0, .send 5] = some s ∧
      s.gen = 2 ∧ ∀ x ∈ s.sends, x.gen ∉ x.noticed) := by
  refine ⟨⟨_, rfl, rfl, rfl, rfl, fun h => ?_⟩, ⟨_, rfl, rfl, by decide⟩⟩
  exact h ⟨5, 1, [0, 1]⟩ (by decide) (by decide)

/-- The extractor records the order of the two tests in `onPush`
(`Consts.adapterOnPushReconnectFirst`), the number of `return`s in front of the switch and the
number of test-and-set gates; when the `reconnectMsg` test comes first and there is neither, the
theorem is about the function of the current tree. -/
theorem C11_notification_current_tree (h : Tars.AdapterPush.treeVariant = .reconnectFirst)
    (acts : List Tars.AdapterPush.Action) (s : Tars.AdapterPush.State)
    (hrun : Tars.AdapterPush.run Tars.AdapterPush.treeVariant acts = some s) :
    ∀ x ∈ s.sends, x.gen ∉ x.noticed :=
  (C11_after_notification_fresh_conn acts s (h ▸ hrun)).1

end Tars.ClientConn
