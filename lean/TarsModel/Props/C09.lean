/-
  C09 — Every call terminates by its deadline and leaves nothing behind.

  Property theorems only.  Models: `TarsModel/Model/Route.lean` (untimed LTS of the call path; the
  cleanup and late-reply clauses are proved there, for all schedules and all peer behaviours) and
  `TarsModel/Model/Call.lean` (the same LTS with a discrete clock: effective deadline, dial bound,
  write-timeout bound; the timing clauses are proved there).  Helper lemmas: `Proofs/RouteStep.lean`,
  `Proofs/RouteInv.lean`, `Proofs/CallTime.lean`.

  PARTIAL with respect to real time: the clock of the model counts abstract units; scheduling
  latency, timer slack (`rtimer`'s time wheel, the runtime timers behind `context.WithTimeout`) and the
  duration of computation are outside the model.  "Returns no later than …" is therefore a theorem
  about the model's clock only; the harness measures wall-clock time with a generous slack.
-/
import TarsModel.Props.C08
import TarsModel.Proofs.CallTime

namespace Tars.C09
open Tars.Route Tars.Call

/-- The timing clause of the property as a statement about the timed model: every call that has
    returned did so no later than its effective deadline (not before its start) plus the dial bound.
    It is FALSE for the code as it is: `C09_bound_vs_property` (D18: a full send queue delays the
    return by up to `WriteTimeout`, without bound when `WriteTimeout = 0`; and callers queue up behind
    the dial lock).  What holds is `C09_bound` / `C09_bound_property_partial`. -/
def C09_full_bound : Prop :=
  ∀ (cfg : Cfg) (ctr : Int) (ts : TState) (i : Nat) (c : Call) (t : Times) (o : Outcome),
    TReachable cfg ctr ts → ts.base.calls[i]? = some c → ts.times[i]? = some t → c.pc = .done o →
    t.ret ≤ propertyBound cfg t

/-- the literals the model is written over (re-extracted on every run): the counters move by 1,
    `WriteTimeout > 0` arms the timer of `TarsClient.Send`, and the decrement of `queueLen` in
    `doInvoke`'s deferred cleanup is on the same receiver as the increment (`&s.queueLen` both — the
    counter of the proxy the call was made on, not `adp.servantProxy`, the proxy that used the shared
    adapter last), and every way out of `doInvoke` and of `doKeepAlive` after the increment of `queueLen`
    runs the decrement (a `defer` installed before any `return`, or an explicit decrement on the path) -/
theorem C09_model_applicable :
    Consts.callQueueLenInc = 1 ∧ Consts.callInvokeNumInc = 1 ∧ Consts.callWriteTimeoutOffValue = 0 ∧
    Consts.callReplyChanCap = 0 ∧ Consts.callQueueLenDecSameReceiver = 1 ∧
    Consts.callInvokeSlotReleased = 1 ∧ Consts.callKeepAliveSlotReleased = 1 := by decide

/-- **Lock discipline of the transport client (current tree).**  The model treats
    `connection.close`, `connection.lost` and the non-dialling path of `connection.ReConnect` as atomic
    actions (`connClose`, `lockAcq`) that never leave `connLock` held, and the dialling path as holding
    it exactly from `lockAcq` to `dialOk` / `dialFail`.  That is an abstraction of the code only if every
    way out of these three functions releases the lock (a `defer c.connLock.Unlock()` after the `Lock()`,
    or an `Unlock()` before every `return` and before the end): re-extracted on every run. -/
theorem C09_lock_discipline_current_tree :
    Consts.callConnLockReleasedClose = 1 ∧ Consts.callConnLockReleasedReConnect = 1 ∧
    Consts.callConnLockReleasedLost = 1 := by decide

/-- **Effective deadline.** The caller's context deadline if it has one, otherwise now + the per-call
    timeout, otherwise now + the configured timeout. -/
theorem C09_deadline_selection (cfg : Cfg) (now : Nat) (par : Params) :
    effDeadline cfg now par =
      match par.ctxDeadline, par.callTimeout with
      | some d, _ => d
      | none, some t => now + t
      | none, none => now + cfg.timeout := by
  unfold effDeadline effTimeout
  cases par.ctxDeadline <;> cases par.callTimeout <;> rfl

/-- **C09_deadline_path_independent.** Whatever way `TarsInvoke` dispatches the call — directly, around
    pre/post filters, through the legacy single client filter or through the middleware chain — the
    context `doInvoke` waits on carries exactly the effective deadline.  (Stated over the re-extracted
    call-site constants: if one dispatch branch of `TarsInvoke` is handed another context than the one
    assigned by `context.WithTimeout`, this theorem no longer builds.) -/
theorem C09_deadline_path_independent (cfg : Cfg) (now : Nat) (par : Params) (p : Path) :
    handedDeadline cfg now par p = some (effDeadline cfg now par) := by
  have hp : passesInvokeCtx p = true := by cases p <;> decide
  have hw : wrapsWhateverTimeout = true := by decide
  unfold handedDeadline effDeadline
  cases par.ctxDeadline <;> simp [hp, hw]

/-- **Timeout 0 is a deadline, not "no deadline".**  A call whose context has no deadline and whose
    effective timeout (per-call, else configured) is 0 gets the time of the call as its effective deadline,
    and on every dispatch path `doInvoke` waits on a context with that deadline: one that has expired when
    the call starts.  (What this means for the return time is `C09_bound_property_partial` with
    `deadline = start`; the example below runs such a call.) -/
theorem C09_zero_timeout_expires_at_once (cfg : Cfg) (now : Nat) (par : Params) (p : Path)
    (hc : par.ctxDeadline = none) (h0 : effTimeout cfg par = 0) :
    effDeadline cfg now par = now ∧ handedDeadline cfg now par p = some now := by
  have h := C09_deadline_path_independent cfg now par p
  have he : effDeadline cfg now par = now := by simp [effDeadline, hc, h0]
  exact ⟨he, by rw [h, he]⟩

/-- a call with configured timeout 0 against a peer that never answers: it dials, enqueues its request
    and returns with a timeout without a single tick of the clock (model time 0) -/
example :
    let cfg : Cfg := ⟨1, 100, 4, 3, 3, 0⟩
    let acts : List TAction := ([CallAct.begin, .cas, .add, .pre, .selectAdp (some 0), .gate, .incQ, .store, .lockAcq,
      .dialOk, .enqueue, .timeout, .decQ, .del, .post].map (fun a => TAction.act (.call 0 a)))
    (trun cfg (tinit cfg 0) (TAction.act (.spawn ⟨false, 0, none, none, 0⟩) :: acts)).map
        (fun ts => (ts.now, ts.base.calls.map (·.pc), ts.times.map (fun t => (t.deadline, t.ret)))) =
      some (0, [.done .timeout], [(0, 0)]) ∧
    -- … and the clock may not advance while it still waits: `tick` is refused in `wait` at the deadline
    (trun cfg (tinit cfg 0) (TAction.act (.spawn ⟨false, 0, none, none, 0⟩) :: (acts.take 11 ++ [.tick]))) = none := by
  decide

/-- the three sources of the deadline, each on another dispatch path -/
example : handedDeadline ⟨1, 0, 1, 0, 0, 3000⟩ 10 ⟨false, 0, none, some 500, 0⟩ .middleware = some 510 ∧
    handedDeadline ⟨1, 0, 1, 0, 0, 3000⟩ 10 ⟨false, 0, none, none, 0⟩ .single = some 3010 ∧
    handedDeadline ⟨1, 0, 1, 0, 0, 3000⟩ 10 ⟨false, 0, some 700, some 500, 0⟩ .prePost = some 700 := by decide

/-- **C09_cleanup** (inductive invariant; all interleavings, all peer behaviours, any number of
    callers and of ServantProxy objects sharing the adapters).  In every reachable state the `queueLen`
    of every proxy is the number of ITS calls between `queueLen+1` and the deferred `queueLen-1` plus the
    number of keep-alive ticks (`doKeepAlive`) on it that are between theirs, `invokeNum` the number of
    calls between `preInvoke` and `postInvoke`, every
    entry of a pending-reply table belongs to a call between `resp.Store` and `resp.Delete` that carries
    the entry's id, and every such call is found under its id unless another call shares the id. -/
theorem C09_cleanup {cfg : Cfg} {ctr : Int} {s : State} (hr : Reachable cfg ctr s) :
    (∀ p : Nat, qGet s.queueLens p =
      (s.calls.countP (fun c => c.pc.inQueue && c.par.proxy == p) : Nat) + (s.kaHeld.count p : Nat)) ∧
    s.invokeNum = (s.calls.countP (fun c => c.pc.inInvoke) : Nat) ∧
    (∀ e ∈ s.table, ∃ c, s.calls[e.call]? = some c ∧ c.id = e.id ∧ c.adp = e.adp ∧ c.pc.registered = true) ∧
    (∀ (i : Nat) (c : Call), s.calls[i]? = some c → c.pc.registered = true →
      tLoad s.table c.adp c.id = some i ∨
      ∃ (j : Nat) (c' : Call), j ≠ i ∧ s.calls[j]? = some c' ∧ c'.pc.stored = true ∧ c'.id = c.id ∧ c'.adp = c.adp) :=
  let hI := inv_reachable hr
  ⟨hI.ql, hI.num, hI.tbl, hI.own⟩

/-- **C09_counters_per_proxy** (any number of ServantProxy objects of one object sharing the endpoint
    manager and its adapters, all interleavings of their calls).  The `queueLen` of proxy `p` counts
    exactly the calls made ON `p` that are between their increment and their deferred decrement —
    calls of other proxies that run through the same adapter, before, during or after, do not move it;
    it is never negative; and once every call made on `p` has returned (or has not started) and no
    keep-alive tick of `p` is between its increment and its deferred decrement it is 0, whatever the
    calls of the other proxies are doing.  Keep-alive ticks are part of the conservation: each tick in
    flight accounts for exactly one, at any moment and however often ticks were admitted or refused before. -/
theorem C09_counters_per_proxy {cfg : Cfg} {ctr : Int} {s : State} (hr : Reachable cfg ctr s) (p : Nat) :
    qGet s.queueLens p =
      (s.calls.countP (fun c => c.pc.inQueue && c.par.proxy == p) : Nat) + (s.kaHeld.count p : Nat) ∧
    0 ≤ qGet s.queueLens p ∧
    ((∀ c ∈ s.calls, c.par.proxy = p → c.pc = .idle ∨ ∃ o, c.pc = .done o) → p ∉ s.kaHeld →
      qGet s.queueLens p = 0) := by
  have hq := (inv_reachable hr).ql p
  refine ⟨hq, by rw [hq]; omega, ?_⟩
  intro h hk
  have hk0 : s.kaHeld.count p = 0 := List.count_eq_zero.mpr hk
  have : s.calls.countP (fun c => c.pc.inQueue && c.par.proxy == p) = 0 := by
    rw [List.countP_eq_zero]
    intro c hc
    by_cases hp : c.par.proxy = p
    · simp [(Pc.at_rest (h c hc hp)).1]
    · simp [hp]
  rw [hq, this, hk0]; rfl

/-- non-vacuity with keep-alive ticks: while proxy 0's call waits for its reply two ticks take a slot
    (counter 3), one gives it back (2), the call times out and the other tick finishes: 0 -/
example :
    let cfg : Cfg := ⟨1, 100, 4, 3, 3, 5⟩
    let pre : List Action :=
      [CallAct.begin, .cas, .add, .pre, .selectAdp (some 0), .gate, .incQ, .store, .lockAcq, .dialOk, .enqueue].map (Action.call 0)
    let fin : List Action := [CallAct.timeout, .decQ, .del, .post].map (Action.call 0)
    let mid := [Action.spawn ⟨false, 0, none, none, 0⟩] ++ pre ++ [.kaCas, .kaAdd, .kaTake 0, .kaCas, .kaAdd, .kaTake 0, .kaRelease 0]
    (run cfg (init cfg 0) mid).map (fun s => (s.queueLens, s.kaHeld)) = some ([2], [0]) ∧
    (run cfg (init cfg 0) (mid ++ fin ++ [.kaRelease 0])).map (fun s => (s.queueLens, s.kaHeld, s.gen.issued)) =
      some ([0], [], [3, 2, 1]) := by decide

/-- non-vacuity: proxy 0's call waits for its reply while proxy 1 makes and finishes a call through the
    same adapter, then proxy 0's call times out: in between proxy 0's counter is 1 and proxy 1's is back
    at 0, at the end both are 0 -/
example :
    let cfg : Cfg := ⟨1, 100, 4, 3, 3, 5⟩
    let pre (i : Nat) : List Action :=
      [CallAct.begin, .cas, .add, .pre, .selectAdp (some 0), .gate, .incQ, .store, .lockAcq].map (Action.call i)
    let fin (i : Nat) : List Action := [CallAct.decQ, .del, .post].map (Action.call i)
    let mid := [Action.spawn ⟨false, 0, none, none, 0⟩, .spawn ⟨false, 1, none, none, 1⟩] ++ pre 0 ++
      [.call 0 .dialOk, .call 0 .enqueue] ++ pre 1 ++ [.call 1 .enqueue, .emit 0 ⟨2, false, 1⟩, .lookup 0, .deliver 0] ++ fin 1
    (run cfg (init cfg 0) mid).map (·.queueLens) = some [1, 0] ∧
    (run cfg (init cfg 0) (mid ++ [.call 0 .timeout] ++ fin 0)).map (·.queueLens) = some [0, 0] := by decide

/-- A call that has returned — with a reply, an error or a timeout — holds nothing: it is counted in
    neither counter and no table entry refers to it. -/
theorem C09_cleanup_returned {cfg : Cfg} {ctr : Int} {s : State} (hr : Reachable cfg ctr s)
    {i : Nat} {c : Call} {o : Outcome} (hc : s.calls[i]? = some c) (hd : c.pc = .done o) :
    c.pc.inQueue = false ∧ c.pc.inInvoke = false ∧ ∀ e ∈ s.table, e.call ≠ i := by
  obtain ⟨hq, hn, hreg⟩ := Pc.at_rest (.inr ⟨o, hd⟩)
  refine ⟨hq, hn, fun e he hei => ?_⟩
  obtain ⟨c0, h0, _, _, h3⟩ := (inv_reachable hr).tbl e he
  rw [hei, hc] at h0; injection h0 with h0; subst h0
  rw [hreg] at h3; contradiction

/-- Once every call has returned (or has not started), the counters are back to 0 and the
    pending-reply tables are empty — whatever happened in between. -/
theorem C09_cleanup_quiescent {cfg : Cfg} {ctr : Int} {s : State} (hr : Reachable cfg ctr s)
    (hq : ∀ c ∈ s.calls, c.pc = .idle ∨ ∃ o, c.pc = .done o) (hk : s.kaHeld = []) :
    (∀ p : Nat, qGet s.queueLens p = 0) ∧ s.invokeNum = 0 ∧ s.table = [] := by
  have hI := inv_reachable hr
  have h2 : s.calls.countP (fun c => c.pc.inInvoke) = 0 := by
    rw [List.countP_eq_zero]
    intro c hc
    simp [(Pc.at_rest (hq c hc)).2.1]
  refine ⟨fun p => (C09_counters_per_proxy hr p).2.2 (fun c hc _ => hq c hc) (by rw [hk]; nofun),
    by rw [hI.num, h2]; rfl, ?_⟩
  cases ht : s.table with
  | nil => rfl
  | cons e es =>
    obtain ⟨c, h0, _, _, h3⟩ := hI.tbl e (by rw [ht]; exact List.mem_cons_self)
    rw [(Pc.at_rest (hq c (List.mem_of_getElem? h0))).2.2] at h3; contradiction

example : (run C08.demoCfg (init C08.demoCfg 0) C08.demoActs).map
    (fun s => s.calls.all (fun c => match c.pc with | .idle | .done _ => true | _ => false)) = some true := by
  decide

/-- **C09_late_reply.** Whatever arrives and whenever: the arrival of a packet, its decoding, the table
    lookup and the receiver's give-up change no call record, no table, no counter; a lookup for an id
    that is not registered (the call has returned, or the id was invented) ends the receiver; and the
    only remaining receiver action, the hand-over, changes exactly one call — one that is still
    waiting, carries the packet's id and uses the adapter the packet came from.  A reply that arrives
    after the return of its call therefore affects no call at all. -/
theorem C09_late_reply {cfg : Cfg} {ctr : Int} {s s' : State} (hr : Reachable cfg ctr s) :
    (∀ a, a.isRecvSide = true → step cfg s a = some s' →
      s'.calls = s.calls ∧ s'.table = s.table ∧ s'.queueLens = s.queueLens ∧ s'.invokeNum = s.invokeNum) ∧
    (∀ (r : Nat) (x : Rcv), s.rcvs[r]? = some x → tLoad s.table x.adp x.pkt.id = none →
      step cfg s (.lookup r) = some s' → ∃ pc, (pc = .dropped ∨ pc = .pushed) ∧ s' = s.setRcv r { x with pc := pc }) ∧
    (∀ (r : Nat), step cfg s (.deliver r) = some s' →
      s'.table = s.table ∧ s'.queueLens = s.queueLens ∧ s'.invokeNum = s.invokeNum ∧
      ∃ (x : Rcv) (i : Nat) (c : Call), s.rcvs[r]? = some x ∧ s.calls[i]? = some c ∧ c.pc = .wait ∧
        c.id = x.pkt.id ∧ c.adp = x.adp ∧
        ∀ (j : Nat), j ≠ i → s'.calls[j]? = s.calls[j]?) := by
  refine ⟨fun _ => recvSide_frame, fun _ _ => lookup_miss, fun r h => ?_⟩
  obtain ⟨x, i, c, hx, hc, hw, h1, h2, _, rfl⟩ := (C08.C08_route hr).2.2 r s' h
  exact ⟨rfl, rfl, rfl, x, i, c, hx, hc, hw, h1.symm, h2.symm, fun j hj => List.getElem?_set_ne hj.symm⟩

/-- A call that has returned is never the target of a hand-over: `deliver` needs its target in
    `wait`. -/
theorem C09_late_reply_returned {cfg : Cfg} {s s' : State} {r i : Nat} {c : Call} {o : Outcome}
    (hc : s.calls[i]? = some c) (hd : c.pc = .done o) (h : step cfg s (.deliver r) = some s') :
    s'.calls[i]? = some c := by
  obtain ⟨x, j, cj, _, _, hcj, hw, rfl⟩ := StepSpec.of_step h
  have hji : j ≠ i := by
    rintro rfl
    cases hc.symm.trans hcj
    rw [hd] at hw; contradiction
  exact (List.getElem?_set_ne hji).trans hc

/-- **C09_bound** (model clock).  A call that has returned did so no later than
    `budget = max start (max deadline (lockAt + DialTimeout + (WriteTimeout if it sat at a full send queue)))`
    where `lockAt` is the time it acquired the dial lock (= its start when nobody else was dialling).
    Hypothesis: if it sat at a full send queue then `WriteTimeout > 0` (otherwise there is no bound:
    `C09_unbounded_without_write_timeout`). -/
theorem C09_bound {cfg : Cfg} {ctr : Int} {ts : TState} (hr : TReachable cfg ctr ts)
    {i : Nat} {c : Call} {t : Times} {o : Outcome} (hc : ts.base.calls[i]? = some c) (ht : ts.times[i]? = some t)
    (hd : c.pc = .done o) (hw : t.blocked = true → 0 < cfg.writeTimeout) : t.ret ≤ budget cfg t := by
  have := (tinv_reachable hr).within i c t hc ht
  simp only [Within, hd] at this
  exact this hw

/-- … and while a call is in flight the clock cannot run away from it: computation steps take no model
    time, the dial ends within `DialTimeout`, the wait at a full send queue within `WriteTimeout` (if
    that is positive), the wait for the reply at the deadline.  (Waiting for the dial lock is not
    bounded by this theorem: it lasts as long as the callers ahead keep dialling.) -/
theorem C09_in_flight {cfg : Cfg} {ctr : Int} {ts : TState} (hr : TReachable cfg ctr ts)
    {i : Nat} {c : Call} {t : Times} (hc : ts.base.calls[i]? = some c) (ht : ts.times[i]? = some t) :
    (c.pc = .dial → ts.now ≤ t.lockAt + cfg.dialTimeout) ∧
    (c.pc = .enq → 0 < cfg.writeTimeout → ts.now ≤ t.lockAt + cfg.dialTimeout + cfg.writeTimeout) ∧
    (c.pc = .wait → (t.blocked = true → 0 < cfg.writeTimeout) → ts.now ≤ budget cfg t) := by
  have hB := (tinv_reachable hr).within i c t hc ht
  refine ⟨?_, ?_, ?_⟩
  · intro h; simp only [Within, h] at hB; exact hB
  · intro h hw
    simp only [Within, h] at hB
    obtain ⟨h1, h2, h3⟩ := hB
    by_cases hb : t.blocked = true
    · have := h3 hb hw; omega
    · have := h2 (by simpa using hb); omega
  · intro h hw; simp only [Within, h] at hB; exact hB hw

/-- **C09_establishment_bounded.**  What `C09_bound` assumes about connection establishment, for every
    transport kind: in the timed model a caller that holds the dial lock is in `dial` for at most
    `DialTimeout` (the clock may not advance past `lockAt + DialTimeout` while it dials: `tickOk`), i.e.
    `net.DialTimeout` for tcp/udp endpoints and `tls.DialWithDialer` with `Dialer.Timeout` for ssl
    endpoints return within `DialTimeout` — TLS handshake included.  The second part is re-extracted from
    `connection.ReConnect` (`Consts.callSslDialBounded`: the ssl dial goes through a dialer that carries the
    timeout, or sets a deadline before a hand-run handshake); the first is the model's own invariant. -/
theorem C09_establishment_bounded {cfg : Cfg} {ctr : Int} {ts : TState} (hr : TReachable cfg ctr ts)
    {i : Nat} {c : Call} {t : Times} (hc : ts.base.calls[i]? = some c) (ht : ts.times[i]? = some t)
    (hd : c.pc = .dial) :
    Consts.callSslDialBounded = 1 ∧ ts.now ≤ t.lockAt + cfg.dialTimeout :=
  ⟨by decide, (C09_in_flight hr hc ht).1 hd⟩

/-- No time-lock: in every reachable state either the clock can advance or some caller goroutine can
    take a step — the bounds above are not vacuous. -/
theorem C09_no_timelock {cfg : Cfg} {ctr : Int} {ts : TState} (hr : TReachable cfg ctr ts) :
    (∃ ts', tstep cfg ts .tick = some ts') ∨ ∃ i a ts', tstep cfg ts (.act (.call i a)) = some ts' := by
  cases h : canTick cfg ts
  · exact .inr (no_timelock hr h)
  · exact .inl ⟨_, if_pos h⟩

/-- **The property's bound, where it holds.**  If the call never sat at a full send queue and got the
    dial lock no later than its effective deadline (in particular: at once), it returned no later than
    effective deadline (not before its start) + `DialTimeout`. -/
theorem C09_bound_property_partial {cfg : Cfg} {ctr : Int} {ts : TState} (hr : TReachable cfg ctr ts)
    {i : Nat} {c : Call} {t : Times} {o : Outcome} (hc : ts.base.calls[i]? = some c) (ht : ts.times[i]? = some t)
    (hd : c.pc = .done o) (hnb : t.blocked = false) (hl : t.lockAt ≤ max t.start t.deadline) :
    t.ret ≤ propertyBound cfg t := by
  have := C09_bound hr hc ht hd (by simp [hnb])
  simp only [budget, hnb, propertyBound] at *
  simp at this
  omega

/-! ### counterexamples (D18 and the dial lock) -/

def par0 : Params := ⟨false, 0, none, none, 0⟩
def upToLock (i : Nat) : List TAction :=
  [CallAct.begin, .cas, .add, .pre, .selectAdp (some 0), .gate, .incQ, .store, .lockAcq].map
    (fun a => TAction.act (.call i a))
def finish (i : Nat) : List TAction := [CallAct.decQ, .del, .post].map (fun a => TAction.act (.call i a))

/-- D18: queue capacity 1, WriteTimeout 5, DialTimeout 2, call timeout 1 -/
def d18Cfg : Cfg := ⟨1, 100, 1, 5, 2, 1⟩

/-- call 0 fills the send queue and the peer never reads; call 1 (deadline 1) sits in
    `TarsClient.Send` until the write timer fires at 5 -/
def d18Acts : List TAction :=
  [.act (.spawn par0), .act (.spawn par0)] ++ upToLock 0 ++ [.act (.call 0 .dialOk), .act (.call 0 .enqueue)] ++
  upToLock 1 ++ [.tick, .act (.call 0 .timeout)] ++ finish 0 ++
  [.tick, .tick, .tick, .tick, .act (.call 1 .writeTimeout)] ++ finish 1

theorem C09_counterexample_D18 :
    (trun d18Cfg (tinit d18Cfg 0) d18Acts).map
        (fun ts => (ts.base.calls.map (·.pc), ts.times.map (fun t => (t.start, t.deadline, t.ret, propertyBound d18Cfg t)))) =
      some ([.done .timeout, .done .sendErr], [(0, 1, 1, 3), (0, 1, 5, 3)]) := by decide

/-- non-vacuity of `C09_bound` / `C09_bound_property_partial` on the same run: the second call sat at
    the full queue with `WriteTimeout = 5 > 0` and returned at 5 ≤ budget 7; the first call never sat at
    a full queue, got the lock at 0 ≤ max start deadline, and returned at 1 ≤ property bound 3 -/
example :
    (trun d18Cfg (tinit d18Cfg 0) d18Acts).map
        (fun ts => ts.times.map (fun t => (t.blocked, t.lockAt, t.ret, budget d18Cfg t, propertyBound d18Cfg t))) =
      some [(false, 0, 1, 2, 3), (true, 0, 5, 7, 3)] := by decide

/-- callers queue up behind the dial lock: DialTimeout 3, call timeout 1; the endpoint does not
    answer the dial; call 0 holds `connLock` for 3 units and fails, then call 1 dials for another 3 -/
def dialCfg : Cfg := ⟨1, 100, 4, 5, 3, 1⟩

def dialActs : List TAction :=
  [.act (.spawn par0), .act (.spawn par0)] ++ upToLock 0 ++ (upToLock 1).dropLast ++
  [.tick, .tick, .tick, .act (.call 0 .dialFail)] ++ finish 0 ++
  [.act (.call 1 .lockAcq), .tick, .tick, .tick, .act (.call 1 .dialFail)] ++ finish 1

theorem C09_counterexample_dial_lock :
    (trun dialCfg (tinit dialCfg 0) dialActs).map
        (fun ts => (ts.base.calls.map (·.pc), ts.times.map (fun t => (t.deadline, t.lockAt, t.ret, propertyBound dialCfg t)))) =
      some ([.done .sendErr, .done .sendErr], [(1, 0, 3, 4), (1, 3, 6, 4)]) := by decide

/-- **C09_bound_vs_property.** The property's bound (effective deadline + dial bound) does NOT hold
    for the code as modelled: the D18 trace is a reachable state in which a call with deadline 1 and
    dial bound 2 returned at time 5. -/
theorem C09_bound_vs_property : ¬ C09_full_bound := by
  intro h
  obtain ⟨ts, hts, hce⟩ := Option.map_eq_some_iff.mp C09_counterexample_D18
  simp only [Prod.mk.injEq] at hce
  have h1 := congrArg (·[1]?) hce.1
  have h2 := congrArg (·[1]?) hce.2
  simp only [List.getElem?_map, List.getElem?_cons_succ, List.getElem?_cons_zero, Option.map_eq_some_iff] at h1 h2
  obtain ⟨c, hc, hpc⟩ := h1
  obtain ⟨t, ht, htm⟩ := h2
  have := h d18Cfg 0 ts 1 c t _ (trun_reachable .init hts) hc ht hpc
  simp only [Prod.mk.injEq] at htm
  omega

/-- queue capacity 1, WriteTimeout 0 (no timer in `TarsClient.Send`) -/
def zeroCfg : Cfg := ⟨1, 100, 1, 0, 2, 1⟩

/-- call 0 fills the send queue, times out and returns; call 1 reaches the select of
    `TarsClient.Send` with the queue full -/
def zeroPrefix : List TAction :=
  [.act (.spawn par0), .act (.spawn par0)] ++ upToLock 0 ++ [.act (.call 0 .dialOk), .act (.call 0 .enqueue)] ++
  upToLock 1 ++ [.tick, .act (.call 0 .timeout)] ++ finish 0

/-- the state reached by `zeroPrefix`, at time `k` -/
def stuck (k : Nat) : TState :=
  { base := { gen := ⟨2, [2, 1]⟩,
              calls := [⟨par0, .done .timeout, 1, 0, 0⟩, ⟨par0, .enq, 2, 1, 0⟩],
              table := [⟨0, 2, 1⟩], queueLens := [1], kaHeld := [], invokeNum := 1,
              conns := [⟨false, false, [1]⟩], rcvs := [], emitted := [] },
    now := k, times := [⟨0, 1, 0, 0, false, 1⟩, ⟨0, 1, 0, 0, true, 0⟩] }

/-- **Unbounded without a write timeout.**  With `WriteTimeout = 0` a call that finds the send queue
    full (and a peer that never reads) never returns: for every time T there is a run in which the
    clock has reached T and the call still sits in `TarsClient.Send`. -/
theorem C09_unbounded_without_write_timeout (T : Nat) :
    ∃ (as : List TAction) (ts : TState) (c : Call), trun zeroCfg (tinit zeroCfg 0) as = some ts ∧ T ≤ ts.now ∧
      ts.base.calls[1]? = some c ∧ c.pc = .enq := by
  have h0 : trun zeroCfg (tinit zeroCfg 0) zeroPrefix = some (stuck 1) := by decide
  have htick : ∀ k, tstep zeroCfg (stuck k) .tick = some (stuck (k + 1)) := by
    intro k
    simp [tstep, canTick, stuck, tickOk, queueFull, zeroCfg, stampTick]
  have hticks : ∀ n k, trun zeroCfg (stuck k) (List.replicate n .tick) = some (stuck (k + n)) := by
    intro n
    induction n with
    | zero => intro k; rfl
    | succ n ih =>
      intro k
      simp only [List.replicate_succ, trun, htick]
      rw [ih (k + 1)]
      congr 2
      omega
  exact ⟨zeroPrefix ++ List.replicate T .tick, stuck (1 + T), ⟨par0, .enq, 2, 1, 0⟩,
    (isRun zeroCfg).append_eq_some.2 ⟨_, h0, hticks T 1⟩, by simp [stuck], rfl, rfl⟩

end Tars.C09
