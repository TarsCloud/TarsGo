import TarsModel.Proofs.TotalWitness
import TarsModel.Proofs.SkipIterSim

/-!
# C05 — Decoder totality

Property theorems only (helper lemmas: `Proofs/Total*.lean`; instrumented decoders:
`Model/Cost.lean`).  Subject: the reader of `codec.go` (`Model/Wire.lean`) and the generated
struct decoders (`Model/Schema.lean`), which validate every length (`CheckLength` before every
`make`, length guard before the array loop): `skipField`, `SkipToStructEnd`,
`SkipToNoCheck`, and `ReadFrom` (`decStruct`) for every schema environment, every struct, every
target, every input.

* **Termination** (`C05_skip_fuel_suffices`, `C05_skip_fuel_independent`, `C05_terminates`): the
  fuel of the model is never exhausted, i.e. the fuel-indexed model describes the unbounded Go
  recursion faithfully: every recursive call / loop iteration consumes an input byte or ends.
  No hypothesis on the schema is needed (entering a nested struct consumes its StructBegin head);
  Lean's totality gives "returns a value or an error".
* **Panics** (`C05_no_panic`, `C05_no_go_panic`): HOLDS at full strength: `ReadFrom` into a
  well-shaped target of a closed environment returns a value or a plain Go error, never a
  run-time panic.  The panic sites of D11 are theorems about the as-found copy
  (`C05_panic_counterexamples_asFound`); the code rejects the same inputs
  (`C05_former_witnesses_rejected`).
* **Allocation** (`C05_alloc_ok`, `C05_alloc`): HOLDS without hypothesis: every `make` follows a
  successful `CheckLength`, a successful decode allocates (elements + string/slice bytes + map
  entries) at most what it consumed, and any decode at most `(nest + 1)` times the input length
  (`nest` = deepest nesting of unfilled slices).  As found, 6 bytes requested 2^31 − 1 elements
  (`C05_alloc_counterexample_asFound`).
* **Stack** (D12): `skipField`/`SkipToStructEnd` are a loop over an explicit stack
  (`Model/SkipIter.lean`); the recursive family of `Model/Wire.lean` is its SPECIFICATION
  (`C05_skip_iter_is_spec`).  The explicit stack never holds more than `remaining + 1` entries
  (heap, linear in the input: `C05_skip_stack_bounded`, from `Proofs/SkipIterSim.lean`), which
  with `C05_decode_safe_holds` is `C05_full_holds`.  The theorems `C05_depth_*_asFound` are about
  the recursion depth of the specification = the Go call depth of the as-found copy: bounded by
  the input length and attained (`n` bytes `0x0A` give depth `n`), which is D12 (10 MiB of `0x0A`
  ⇒ fatal stack overflow).

Not in this file: the UDP handler's `req[4:]` on datagrams shorter than 4 bytes (D9) is transport
code outside `Model/Wire.lean`/`Model/Schema.lean`.
-/
namespace Tars
open Consts

/-! ## Full-strength statement -/

/-- the part of the property about values: no panic, allocation linear in the input -/
def C05_decode_safe : Prop :=
  ∀ (env : Env) (name : String) (old : Val) (r : Reader), EnvClosed env → Shape env (.struct name) old →
    PlainRes (decStruct env name old r).1 ∧
    (decStructA env name old r).2.alloc ≤ ((decStructA env name old r).2.nest + 1) * r.data.size ∧
    (∀ v, (decStructA env name old r).1.1 = .ok v → (decStructA env name old r).2.alloc ≤ r.data.size)

/-- the explicit stack of the iterative `skipField` (heap, not goroutine stack) never holds more
    than one entry per remaining input byte, plus one -/
def SkipStackBounded : Prop :=
  ∀ (ty : Nat) (r : Reader), maxStackFields r.iterFuel ty [] r ≤ r.remaining + 1

/-- The property at full strength, on the model of the code as it is: `C05_decode_safe`
    (proved: `C05_decode_safe_holds`), and skipping uses no call stack but an explicit stack
    bounded linearly by the input (proved: `C05_skip_stack_bounded`); together `C05_full_holds`. -/
def C05_full : Prop :=
  C05_decode_safe ∧ SkipStackBounded

/-! ## Termination: the fuel is never exhausted -/

/-- `skipField`, `SkipToStructEnd`, the element loop and `SkipToNoCheck`, started with the
    model's fuel `Reader.fuel r`, return a value or a plain Go error: never the artefact `.fuel`
    (and never a panic), for every reader state and every wire type code -/
theorem C05_skip_fuel_suffices (r : Reader) :
    (∀ ty, PlainRes (skipField r.fuel ty r).1) ∧
    (∀ n, PlainRes (skipElems r.fuel n r).1) ∧
    PlainRes (skipToStructEnd r.fuel r).1 ∧
    (∀ tag req, PlainRes (skipToNoCheck tag req r).1) :=
  ⟨fun ty => skipField_fuel_plain ty r, fun n => skipElems_fuel_plain n r,
   skipToStructEnd_fuel_plain r, fun tag req => skipToNoCheck_plain tag req r⟩

/-- `C05_skip_fuel_suffices` read as `≠ .error .fuel` -/
theorem C05_skip_never_fuel (r : Reader) (ty tag : Nat) (req : Bool) :
    (skipField r.fuel ty r).1 ≠ .error .fuel ∧ (skipToStructEnd r.fuel r).1 ≠ .error .fuel ∧
    (skipToNoCheck tag req r).1 ≠ .error .fuel :=
  ⟨(skipField_fuel_plain ty r).ne_fuel, (skipToStructEnd_fuel_plain r).ne_fuel,
   (skipToNoCheck_plain tag req r).ne_fuel⟩

/-- fuel independence: any two amounts of fuel of at least `2·remaining + 2` give the same
    result.  (This, not merely `≠ .fuel`, is what makes the model faithful: `skipFieldList` and
    `skipFieldMap` ignore the error of the inner `skipField`, so an inner `.fuel` would be
    swallowed.) -/
theorem C05_skip_fuel_independent (f f' ty : Nat) (n : Int) (r : Reader)
    (hf : 2 * r.remaining + 2 ≤ f) (hf' : 2 * r.remaining + 2 ≤ f') :
    skipField f ty r = skipField f' ty r ∧ skipElems f n r = skipElems f' n r ∧
    skipToStructEnd f r = skipToStructEnd f' r :=
  ⟨(skipFieldD_ok f ty r).fuel f' hf hf',
   (skipElemsD_ok f n r).fuel f' (by omega) (by omega),
   (skipToStructEndD_ok f r).fuel f' (by omega) (by omega)⟩

/-- `ReadFrom` of every struct of every environment, into any target, on any input, never
    exhausts the model's fuel `decFuel` (no well-formedness hypothesis is needed) -/
theorem C05_terminates (env : Env) (name : String) (old : Val) (r : Reader) :
    (decStruct env name old r).1 ≠ .error .fuel :=
  (decStruct_ok env name old r).ne_fuel

/-- the same for the decoders at any sufficient fuel (`env.width`: the largest member count of `env`) -/
theorem C05_terminates_decVar (env : Env) (f tag : Nat) (req : Bool) (ty : Ty) (old : Val) (r : Reader)
    (hf : (env.width + 3) * r.remaining + 1 ≤ f) :
    (decVar env f tag req ty old r).1 ≠ .error .fuel :=
  (decVar_ok env f tag req ty old r hf).ne_fuel

/-! ## Panics: none (D11) -/

/-- **No panic, full strength.**  `ReadFrom` of any struct of a closed environment into a
    well-shaped target (e.g. a fresh one, `C05_fresh_shape`), on any input, returns a value or a
    plain Go error: never a run-time panic (and never the model artefact `.fuel`). -/
theorem C05_no_panic {env : Env} (hwf : EnvClosed env) {name : String} {old : Val}
    (hsh : Shape env (.struct name) old) (r : Reader) :
    PlainRes (decStruct env name old r).1 :=
  (decStruct_ok env name old r).plainRes ⟨hwf, hsh⟩

theorem C05_no_panic' {env : Env} (hwf : EnvClosed env) {name : String} {old : Val}
    (hsh : Shape env (.struct name) old) (r : Reader) (s : String) :
    (decStruct env name old r).1 ≠ .error (.panic s) :=
  (C05_no_panic hwf hsh r).ne_panic s

/-- without any hypothesis on environment and target: the only panic-tagged outcome of the model
    is its own "ill-typed target" marker (which is not a behaviour of the Go code, whose targets
    are well-typed by construction) -/
theorem C05_no_go_panic (env : Env) (name : String) (old : Val) (r : Reader) (s : String)
    (h : (decStruct env name old r).1 = .error (.panic s)) : Err.panic s = illTyped :=
  (decStruct_ok env name old r).panic_eq h

/-- the same for every member/element decoder at sufficient fuel -/
theorem C05_no_go_panic_decVar (env : Env) (f tag : Nat) (req : Bool) (ty : Ty) (old : Val) (r : Reader)
    (hf : (env.width + 3) * r.remaining + 1 ≤ f) (s : String)
    (h : (decVar env f tag req ty old r).1 = .error (.panic s)) : Err.panic s = illTyped :=
  (decVar_ok env f tag req ty old r hf).panic_eq h

/-- `ReadBytes` (TUP) does not panic on a negative length -/
theorem C05_readBytes_no_panic (len : Int) (r : Reader) : PlainRes (readBytes len r).1 :=
  readBytes_plain len r

/-- a fresh target is well-shaped -/
theorem C05_fresh_shape {env : Env} (hwf : EnvClosed env) {name : String} {fs : List Field}
    (h : env.find name = some fs) : Shape env (.struct name) (freshStruct env name) :=
  shape_zeroOf hwf ⟨fs, h⟩

open C05 in
/-- **D11 as found**, by evaluation of the as-found vector head / array loop
    kept in `Model/Cost.lean`: `09 00 FF` (LIST, length −1) made `make([]T, -1)` panic; a LIST of
    4 elements decoded into `int a[3]` panicked with "index out of range" after the third. -/
theorem C05_panic_counterexamples_asFound :
    AsFound.vecMake 0 true (Reader.mk0 negLenInput)
      = (.error (.panic "makeslice"), ⟨negLenInput.toArray, 3⟩) ∧
    AsFound.arrLoop envA 50 .i32 3 [.int 0, .int 0, .int 0] ⟨overlongInput.toArray, 1⟩
      = (.error (.panic "index"), ⟨overlongInput.toArray, 9⟩) := by
  refine ⟨by rfl, ?_⟩
  have hl : readLen ⟨overlongInput.toArray, 1⟩ = (.ok 4, ⟨overlongInput.toArray, 3⟩) := by rfl
  have e0 : decVar envA (48 + 1) 0 true .i32 ([Val.int 0, .int 0, .int 0].getD 0 (zeroOf envA .i32))
      ⟨overlongInput.toArray, 3⟩ = (.ok (.int 1), ⟨overlongInput.toArray, 5⟩) := by
    rw [Tars.decVar_atom _ _ _ _ _ _ _ rfl]; rfl
  have e1 : decVar envA (47 + 1) 0 true .i32 ((listSet [Val.int 0, .int 0, .int 0] 0 (.int 1)).getD 1 (zeroOf envA .i32))
      ⟨overlongInput.toArray, 5⟩ = (.ok (.int 2), ⟨overlongInput.toArray, 7⟩) := by
    rw [Tars.decVar_atom _ _ _ _ _ _ _ rfl]; rfl
  have e2 : decVar envA (46 + 1) 0 true .i32
      ((listSet (listSet [Val.int 0, .int 0, .int 0] 0 (.int 1)) 1 (.int 2)).getD 2 (zeroOf envA .i32))
      ⟨overlongInput.toArray, 7⟩ = (.ok (.int 3), ⟨overlongInput.toArray, 9⟩) := by
    rw [Tars.decVar_atom _ _ _ _ _ _ _ rfl]; rfl
  unfold AsFound.arrLoop
  rw [hl]
  simp only
  rw [decArr_step envA _ .i32 3 0 4 _ (by decide) (by decide) e0,
    decArr_step envA _ .i32 3 1 4 _ (by decide) (by decide) e1,
    decArr_step envA _ .i32 3 2 4 _ (by decide) (by decide) e2,
    decArr_overflow envA _ .i32 3 3 4 _ _ (by decide) (by decide) rfl]

open C05 in
/-- the same inputs (and the allocation witness of D11) on the model of the code: plain errors,
    raised directly after the length prefix -/
theorem C05_former_witnesses_rejected :
    decStruct envV "V" (freshStruct envV "V") (Reader.mk0 negLenInput)
      = (.error .eof, ⟨negLenInput.toArray, 3⟩) ∧
    decStruct envA "A" (freshStruct envA "A") (Reader.mk0 overlongInput)
      = (.error .mismatch, ⟨overlongInput.toArray, 3⟩) ∧
    decStruct envV "V" (freshStruct envV "V") (Reader.mk0 hugeLenInput)
      = (.error .eof, ⟨hugeLenInput.toArray, 6⟩) := by
  rw [freshV, freshA]
  exact ⟨decStruct_first_err findV fun f o' => decVar_vec_checkfail
      (r1 := ⟨negLenInput.toArray, 1⟩) (len := -1) (by rfl) (by rfl) (by decide),
    decStruct_first_err findA fun f o' => decVar_arr_toolong
      (r1 := ⟨overlongInput.toArray, 1⟩) (len := 4) (by rfl) (by rfl) (by decide),
    decStruct_first_err findV fun f o' => decVar_vec_checkfail
      hugeLen_head hugeLen_readLen (by right; decide)⟩

/-- general form: a vector member whose length prefix is negative or exceeds the bytes left is
    rejected before anything is allocated; an array member receiving too long a LIST likewise -/
theorem C05_bad_length_rejected (env : Env) (f tag : Nat) (req : Bool) (e : Ty) (old : Val) (n : Nat)
    {r r1 r2 : Reader} {len : Int}
    (hs : skipToNoCheck tag req r = (.ok (true, tyLIST), r1)) (hl : readLen r1 = (.ok len, r2)) :
    ((len < 0 ∨ (r2.remaining : Int) < len) →
      decVar env (f+1) tag req (.vec e) old r = (.error .eof, r2)) ∧
    (len > (n : Int) → decVar env (f+1) tag req (.arr n e) old r = (.error .mismatch, r2)) :=
  ⟨decVar_vec_checkfail hs hl, decVar_arr_toolong hs hl⟩

/-! ## Recursion depth of the specification = call depth of the code as found (D12) -/

/-- the depth-instrumented skip family computes the original results -/
theorem C05_depth_instrument_faithful_asFound (f ty : Nat) (n : Int) (r : Reader) :
    (skipFieldD f ty r).1 = skipField f ty r ∧ (skipElemsD f n r).1 = skipElems f n r ∧
    (skipToStructEndD f r).1 = skipToStructEnd f r :=
  ⟨(skipFieldD_ok f ty r).run_eq, (skipElemsD_ok f n r).run_eq, (skipToStructEndD_ok f r).run_eq⟩

/-- Go call depth (in `skipField` frames) is at most the number of remaining input bytes
    (`+ 1` for the entry frame of `skipField` itself) -/
theorem C05_depth_le_asFound (ty : Nat) (r : Reader) :
    skipDepth ty r ≤ r.remaining + 1 ∧ structEndDepth r ≤ r.remaining :=
  ⟨(skipFieldD_ok r.fuel ty r).depth_le, (skipToStructEndD_ok r.fuel r).depth_le⟩

/-- … and this is attained: `n` bytes `0x0A` (nested StructBegin) give depth exactly `n` below
    `SkipToStructEnd` and `n + 1` for `skipField(StructBegin)`.  Stack use of the code as found was therefore unbounded
    in the input: no depth `D` bounds all inputs. -/
theorem C05_depth_linear_witness_asFound (n : Nat) :
    structEndDepth (Reader.mk0 (nestBytes n)) = n ∧
    skipDepth tyStructBegin (Reader.mk0 (nestBytes n)) = n + 1 ∧
    (nestBytes n).length = n :=
  ⟨structEndDepth_nest n, skipDepth_nest n, by simp [nestBytes]⟩

theorem C05_depth_unbounded_asFound : ¬ ∃ D, ∀ r : Reader, structEndDepth r ≤ D := by
  intro ⟨D, h⟩
  have := h (Reader.mk0 (nestBytes (D + 1)))
  rw [structEndDepth_nest] at this
  omega

/-! ## Allocation (D11) -/

/-- the allocation-instrumented decoders compute the original results -/
theorem C05_alloc_instrument_faithful (env : Env) (name : String) (old : Val) (r : Reader)
    (f tag : Nat) (req : Bool) (ty : Ty) :
    (decStructA env name old r).1 = decStruct env name old r ∧
    (decVarA env f tag req ty old r).1 = decVar env f tag req ty old r :=
  ⟨decStructA_eq env name old r, (decA_eq env f).var tag req ty old r⟩

/-- a successful decode allocated (elements + string/slice bytes + map entries) no more than the
    input it consumed — no hypothesis -/
theorem C05_alloc_ok (env : Env) (name : String) (old : Val) (r : Reader) (v : Val)
    (hok : (decStructA env name old r).1.1 = .ok v) :
    (decStructA env name old r).2.alloc + (decStructA env name old r).1.2.remaining ≤ r.remaining ∧
    (decStructA env name old r).2.alloc ≤ r.data.size := by
  have := (decStructA_ok env name old r).alloc_ok hok
  have := r.remaining_le_size
  exact ⟨by omega, by omega⟩

/-- any decode (also a failing one) allocated at most `(nest + 1)` times the input length, `nest`
    being the deepest nesting of slices allocated and not yet filled — no hypothesis.
    (`nest` is at most the nesting depth of vector types for a non-recursive schema; for a schema
    that is recursive through vectors it can grow with the input, giving a quadratic bound.) -/
theorem C05_alloc (env : Env) (name : String) (old : Val) (r : Reader) :
    (decStructA env name old r).2.alloc ≤ ((decStructA env name old r).2.nest + 1) * r.data.size :=
  Nat.le_trans (decStructA_ok env name old r).alloc_le
    (Nat.mul_le_mul_left _ r.remaining_le_size)

open C05 in
/-- **D11 as found**: on the 6-byte input `09 02 7F FF FF FF` the vector head handed
    2^31 − 1 to `make` (8 GiB for `[]int32`) without looking at what remains -/
theorem C05_alloc_counterexample_asFound :
    hugeLenInput.length = 6 ∧
    AsFound.vecMake 0 true (Reader.mk0 hugeLenInput) = (.ok 2147483647, ⟨hugeLenInput.toArray, 6⟩) := by
  refine ⟨rfl, ?_⟩
  unfold AsFound.vecMake
  rw [hugeLen_head]
  simp only [if_true, hugeLen_readLen]
  rfl

/-! ## The full property -/

theorem C05_decode_safe_holds : C05_decode_safe := by
  intro env name old r hwf hsh
  exact ⟨C05_no_panic hwf hsh r, C05_alloc env name old r,
    fun v hv => (C05_alloc_ok env name old r v hv).2⟩

theorem C05_full_of_stack_bound (h : SkipStackBounded) : C05_full :=
  ⟨C05_decode_safe_holds, h⟩

/-- the stack bound of the iterative skip (`Proofs/SkipIterSim.lean`, invariant
    `SkipIter.stack_bound`; for every amount of loop fuel: `skipIter_stack_bound`, Props/C04Iter) -/
theorem C05_skip_stack_bounded : SkipStackBounded :=
  fun ty r => SkipIter.stack_bound_nil _ ty r

/-- **C05 in full**: unconditional -/
theorem C05_full_holds : C05_full := C05_full_of_stack_bound C05_skip_stack_bounded

/-- the loop of the code computes the recursive specification all other C05 theorems are
    stated over (proved in `Proofs/SkipIterSim.lean`; C04 states the two halves as
    `skipFieldIter_eq`, `skipToStructEndIter_eq`), and never exhausts its fuel -/
theorem C05_skip_iter_is_spec (ty : Nat) (r : Reader) :
    skipFieldIter ty r = skipField r.fuel ty r ∧ skipToStructEndIter r = skipToStructEnd r.fuel r :=
  ⟨SkipIter.skipFieldIter_eq ty r, SkipIter.skipToStructEndIter_eq r⟩

/-! ## Non-vacuity -/

-- closed environments and well-shaped (fresh) targets exist
example : EnvClosed C05.envV := C05.envV_wf
example : EnvClosed C05.envA := C05.envA_wf
example : Shape C05.envV (.struct "V") (freshStruct C05.envV "V") := C05_fresh_shape C05.envV_wf C05.findV
example : Shape C05.envA (.struct "A") (freshStruct C05.envA "A") := C05_fresh_shape C05.envA_wf C05.findA
-- a successful decode with non-zero allocation (hypothesis of `C05_alloc_ok`): 2 elements, 7 bytes
example : (decStructA C05.envV "V" (freshStruct C05.envV "V") (Reader.mk0 C05.twoInts)).1.1
    = .ok (.struct [.list [.int 1, .int 2]]) := by
  rw [C05.twoInts_cost]
example : (decStructA C05.envV "V" (freshStruct C05.envV "V") (Reader.mk0 C05.twoInts)).2 = ⟨2, 1⟩ := by
  rw [C05.twoInts_cost]
-- hypotheses of `C05_skip_fuel_independent`: the model's own fuel qualifies
example (r : Reader) : 2 * r.remaining + 2 ≤ r.fuel := r.fuel_ge
-- hypotheses of `C05_bad_length_rejected` on the D11 witnesses
example : skipToNoCheck 0 true (Reader.mk0 C05.hugeLenInput)
    = (.ok (true, tyLIST), ⟨C05.hugeLenInput.toArray, 1⟩) := C05.hugeLen_head
example : readLen ⟨C05.hugeLenInput.toArray, 1⟩ = (.ok 2147483647, ⟨C05.hugeLenInput.toArray, 6⟩) :=
  C05.hugeLen_readLen
-- the stack bound on the D12 witness, small instance by evaluation: 5 nested StructBegin
example : maxStackFields (Reader.mk0 (nestBytes 5)).iterFuel tyStructBegin [] (Reader.mk0 (nestBytes 5))
    ≤ (Reader.mk0 (nestBytes 5)).remaining + 1 := by decide
-- depth witness, small instance by evaluation
example : structEndDepth (Reader.mk0 (nestBytes 5)) = 5 := by rfl

end Tars
