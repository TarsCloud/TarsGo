import TarsModel.Proofs.IdlTotal
import TarsModel.Proofs.IdlAccept
import TarsModel.Proofs.IdlLex
import TarsModel.Proofs.IdlSchema
import TarsModel.Proofs.IdlSem
import TarsModel.Generated.Consts

/-!
# C16 — tars2go: the tool always terminates; valid IDL is accepted and yields the declared schema

Property theorems only (helper lemmas live in `Proofs/Idl*.lean`).  The model is
`Model/Idl.lean`: the lexer (`lexer.go`), the recursive-descent parser and semantic analysis
(`parse.go`, `ast.go`) and the acceptance conditions of the generator (`typeDef`, `genEnum`), with
one `Variant` switch per repaired defect, each on exactly the affected definition:
D5 (`parseEnum` has no exit at end of input), D6 (`typeDef` has no case for `byte`), and three
case/array defects of `genEnum`, `analyzeDefault`, `checkDepTName`.

What is a theorem here and what is not: termination and acceptance are theorems about the front end
model.  That the *emitted Go text compiles* and that it *is what the codec model describes* is not a
Lean theorem (it concerns 1 600 lines of string templates and the Go compiler); it is established
per generated program by the harness (`go build` of the emitted packages + comparison of the
emitted struct tags/enum values with the declared schema): translation validation, not proof.
-/
namespace Tars.Idl

/-! ## Totality -/

/-- Full-strength statement of the termination clause: on every input the tool ends with `ok` or with
a diagnostic. -/
def C16_total_full : Prop :=
  ∀ input : Bytes, (∃ f, tool .repaired input = .ok f) ∨ (∃ d, tool .repaired input = .diag d)

/-- **Termination.**  All model functions are total Lean functions (the lexer by well-founded
recursion on the unread bytes, every parser loop and recursive call guarded by a progress check whose
failure is the explicit outcome `hang`).  For every input, the model with the D5 repair (whatever the
other switches) never fails a progress check: it answers `ok`, a diagnostic, or `unsupported`.
`_partial`: what is missing from `C16_total_full` are the inputs with a second `module` or an
`#include`, which leave the model (`unsupported`); the Go code handles them with a nested parser that
runs the same loops on the same lexer and with a recursion over included files that is bounded by
the include-chain check. -/
theorem C16_total_partial (v : Variant) (hv : v.enumEof = true) (input : Bytes) :
    (∃ f, tool v input = .ok f) ∨ (∃ d, tool v input = .diag d) ∨
      (∃ w, tool v input = .unsupported w) := by
  have h := (tool_sat v hv input).ne_hang
  cases hq : tool v input with
  | ok f => exact Or.inl ⟨f, rfl⟩
  | diag d => exact Or.inr (Or.inl ⟨d, rfl⟩)
  | hang => exact absurd hq h
  | unsupported w => exact Or.inr (Or.inr ⟨w, rfl⟩)

example : Variant.repaired.enumEof = true := rfl

/-- the same for the parser alone (`parse.NewParse`) -/
theorem C16_parse_never_hangs (input : Bytes) : parseFile .repaired input ≠ .hang :=
  (parseFile_sat .repaired rfl input).ne_hang

/-- the lexer delivers the `Eof` token again and again once it has reached the end (or a NUL byte):
this is why a parser loop that ignores `Eof` cannot make progress -/
theorem C16_lexer_eof_fixpoint (s : LexState) (h : s.cur = 0) : lLex s = some (.eof, s) :=
  lLex_eof s h

/-- every token other than `Eof` consumes input (the termination argument of the lexer) -/
theorem C16_lexer_progress (s s' : LexState) (t : Tok) (h : lLex s = some (t, s')) :
    s'.size ≤ s.size ∧ (t ≠ .eof → s'.size < s.size) :=
  lLex_size s t s' h

/-- parser state reproduced by `next`: only `⟨Eof, []⟩` -/
theorem C16_next_progress (s s' : PS) (h : s.next = .ok s') :
    s'.size < s.size ∨ (s.tk = .eof ∧ s.ts = [] ∧ s' = s) :=
  next_cases s s' h

/-! ## D5: the as-found `parseEnum` loop does not terminate at end of input -/

/-- **Counterexample (as found).**  On `module a { enum E {` the faithful model of the `LFOR` loop
repeats the same iteration (state `⟨Eof, []⟩`) for ever. -/
theorem C16_hang_counterexample : tool .asFound (asc "module a { enum E {") = .hang := by
  rw [asc_eq (by rfl)]
  decide +kernel

/-- the same input is diagnosed by the repaired parser -/
theorem C16_hang_repaired : tool .repaired (asc "module a { enum E {") = .diag "enum-eof" := by
  rw [asc_eq (by rfl)]
  decide +kernel

/-- sibling witness: end of input after an enumerator -/
theorem C16_hang_counterexample_member : tool .asFound (asc "module a { enum E { A") = .hang := by
  rw [asc_eq (by rfl)]
  decide +kernel

/-- the hang is confined to the enum loop: inputs that end inside the other productions (struct
members, interface functions, `key[...]`, the module body, a nested type) are diagnosed by the parser
as found -/
theorem C16_asFound_other_loops_diagnose :
    tool .asFound (asc "module a { struct S {") = .diag "expect-tags" ∧
    tool .asFound (asc "module a { interface I {") = .diag "expect-type" ∧
    tool .asFound (asc "module a { key[S,") = .diag "expect-name" ∧
    tool .asFound (asc "module a {") = .diag "module-not-expect" ∧
    tool .asFound (asc "module a { struct S { 0 require vector<") = .diag "expert-type" := by
  repeat rw [asc_eq (by rfl)]
  decide +kernel

/-- **Sibling loops.**  Every other loop and recursion of the parser — struct members, interface
functions, function arguments, `key[...]` members, nested types — consumes a token per iteration or
ends with a diagnostic, in the code as found (these functions do not depend on the variant): the
flaw of D5 is confined to `parseEnum`.  (The lexer loops are total by `C16_lexer_progress`.) -/
theorem C16_sibling_loops_terminate :
    (∀ acc s, structLoop acc s ≠ .hang) ∧ (∀ acc s, funLoop acc s ≠ .hang) ∧
    (∀ acc s, argLoop acc s ≠ .hang) ∧ (∀ acc s, keyLoop acc s ≠ .hang) ∧
    (∀ s, parseType s ≠ .hang) ∧ (∀ m s, parseConst m s ≠ .hang) :=
  ⟨fun acc s => (structLoop_sat acc s).ne_hang, fun acc s => (funLoop_sat acc s).ne_hang,
   fun acc s => (argLoop_sat acc s).ne_hang, fun acc s => (keyLoop_sat acc s).ne_hang,
   fun s => (parseType_sat s).ne_hang, fun m s => (parseConst_sat m s).ne_hang⟩

/-! ## D6: `optional byte` without default is rejected as found -/

theorem C16_typeDef_counterexample :
    tool .asFound (asc "module a { struct S { 0 optional byte b; }; };") = .diag "typeDef-unknown-type" := by
  rw [asc_eq (by rfl)]
  decide +kernel

theorem C16_typeDef_repaired :
    (match tool .repaired (asc "module a { struct S { 0 optional byte b; }; };") with
      | .ok f => decide (schemaOf f = [⟨asc "S", [⟨0, false, .prim .byte false, asc "b", asc "B", []⟩]⟩])
      | _ => false) = true := by
  repeat rw [asc_eq (by rfl)]
  decide +kernel

/-! ## Further boundaries found by the check (each with its repair switch) -/

/-- `genEnum`: as found, a reference to an enumerator whose name starts in lower case is rejected
("not define before use"); with the repair the program is accepted. -/
theorem C16_enumRef_counterexample :
    tool .asFound (asc "module a { enum E { x = 4, Y = x }; };") = .diag "enum-not-defined-before-use" ∧
    (match tool .repaired (asc "module a { enum E { x = 4, Y = x }; };") with | .ok _ => true | _ => false) = true := by
  repeat rw [asc_eq (by rfl)]
  decide +kernel

/-- `analyzeDefault`: as found, the default of a member whose enum type starts in lower case names a
constant that `genEnum` does not declare (`e_A` instead of `E_A`). -/
theorem C16_enumDefault_counterexample :
    (match tool .asFound (asc "module a { enum e { A }; struct S { 0 optional e x = A; }; };") with
      | .ok f => decide ((schemaOf f).map (fun s => s.fields.map (·.dflt)) = [[asc "e_A"]]) | _ => false) = true ∧
    (match tool .repaired (asc "module a { enum e { A }; struct S { 0 optional e x = A; }; };") with
      | .ok f => decide ((schemaOf f).map (fun s => s.fields.map (·.dflt)) = [[asc "E_A"]]) | _ => false) = true := by
  repeat rw [asc_eq (by rfl)]
  decide +kernel

/-- `checkDepTName`: as found, the element type of a fixed-size array is not resolved (an enum stays
`unresolved` and is then emitted as a struct). -/
theorem C16_arrayDepend_counterexample :
    (match tool .asFound (asc "module a { enum E { A }; struct S { 0 require E x[2]; }; };") with
      | .ok f => decide ((schemaOf f).map (fun s => s.fields.map (·.type)) =
          [[.array (.named (asc "E") .unresolved) 2]]) | _ => false) = true ∧
    (match tool .repaired (asc "module a { enum E { A }; struct S { 0 require E x[2]; }; };") with
      | .ok f => decide ((schemaOf f).map (fun s => s.fields.map (·.type)) =
          [[.array (.named (asc "E") .enum) 2]]) | _ => false) = true := by
  repeat rw [asc_eq (by rfl)]
  decide +kernel

/-! ## Acceptance of the grammar -/

/-- Full-strength statement: every program of the supported language (Appendix C: several modules,
includes, qualified names, …), in every layout, is accepted by the tool with the declared tree. -/
def C16_accepts_grammar_full : Prop :=
  ∀ (p : Prog) (lead : Sep) (seps : List Sep), p.WF = true → seps.length = p.toks.length →
    lead.all Trivia.WF = true → renderOK (p.toks.zip seps) = true →
    ∃ f, tool .repaired (p.render lead seps) = .ok f

/-- **Acceptance at token level.**  For every well-formed program of the grammar (one module;
enums with automatic/explicit/referencing enumerators and optional trailing comma; constants of every
scalar type; structs with `require`/`optional` members of every scalar, `unsigned`, `vector`, `map`,
named type, fixed-size arrays and defaults of every kind; `key[...]`; interfaces with `void`/typed
functions and in/out parameters) the parser reads the program's token sequence as exactly the syntax
tree the program declares — in both variants (a valid program never reaches the D5 branch). -/
theorem C16_accepts_tokens (v : Variant) (p : Prog) (h : p.WF = true) :
    parseTokens v p.toks = .ok p.ast :=
  parseTokens_accept v p h

/-- **The lexer on rendered programs.**  Any sequence of lexable tokens, each followed by an arbitrary
well-formed separator (blanks, line ends, `//` and `/* */` comments; non-empty after word-like tokens),
is lexed back to exactly that sequence. -/
theorem C16_lexer_accepts (lead : Sep) (hl : lead.all Trivia.WF = true) (l : List (Tok × Sep))
    (h : renderOK l = true) : tokens (lead.bytes ++ renderToks l) = l.map Prod.fst :=
  tokens_render lead hl l h

/-- **Acceptance of the grammar (syntax), from bytes.**  `parse (render p) = ok (ast p)` for every
well-formed program of the grammar in every layout.
`_partial`, missing relative to `C16_accepts_grammar_full`: (1) one module per file and no
`#include` (outside the model); (2) names are unqualified identifiers of letters, digits, `_` (the
lexer also admits `-` inside names and `a::b`); numeric literals are decimal (the lexer also admits
hex/octal) — both only restrict `renderOK`, `C16_accepts_tokens` has no such restriction;
(3) `/* */` comments without `*` inside; (4) the statement stops after syntax analysis; name
resolution (`analyze`) and the generator conditions (`genCheck`) are added by
`C16_tool_accepts_partial`. -/
theorem C16_accepts_grammar_partial (v : Variant) (p : Prog) (lead : Sep) (seps : List Sep)
    (hwf : p.WF = true) (hlen : seps.length = p.toks.length)
    (hlead : lead.all Trivia.WF = true) (hr : renderOK (p.toks.zip seps) = true) :
    parseTokens v (tokens (p.render lead seps)) = .ok p.ast := by
  unfold Prog.render
  rw [tokens_render lead hlead _ hr, List.map_fst_zip (Nat.le_of_eq hlen.symm)]
  exact parseTokens_accept v p hwf

/-- **Acceptance by the whole tool model** (`NewParse` + the generator's acceptance conditions): a
well-formed program of the grammar that also satisfies the semantic side conditions of the
language — named types are unqualified names of structs/enums of the module, defaults by name are
enumerators of exactly one enum, `= earlierName` enumerators are found by `genEnum`'s scan — is
accepted in every layout, by every variant that has the D6 repair (the D5 switch does not matter
for valid programs); the enums and the struct names of the result are the declared ones.
`_partial` for the same reasons as `C16_accepts_grammar_partial` (1)–(3).  On the unrepaired
`genEnum`/`checkDepTName`/`analyzeDefault` the same statement holds with the respective switch off
— but then `semOK` (as found) rejects lower-case enumerator references, and the emitted text no longer
compiles for lower-case enum names in defaults and for named types inside arrays: those are the
boundaries `C16_enumRef_counterexample`, `C16_enumDefault_counterexample`,
`C16_arrayDepend_counterexample`. -/
theorem C16_tool_accepts_partial (v : Variant) (hv : v.typeDefByte = true) (p : Prog) (lead : Sep)
    (seps : List Sep) (hwf : p.WF = true) (hlen : seps.length = p.toks.length)
    (hlead : lead.all Trivia.WF = true) (hr : renderOK (p.toks.zip seps) = true)
    (hsem : semOK v p.ast = true) :
    ∃ f, tool v (p.render lead seps) = .ok f ∧ f.module.enums = p.ast.module.enums ∧
      f.module.structs.map (·.name) = p.ast.module.structs.map (·.name) := by
  obtain ⟨f, hf, he, hn⟩ := (analyze_post v p.ast (.inr hsem)).exists
  obtain ⟨_, hg, -⟩ := (genCheck_post v p.ast f (.inr ⟨hv, hsem, he⟩)).exists
  refine ⟨f, ?_, he, hn⟩
  simp only [tool, parseFile, C16_accepts_grammar_partial v p lead seps hwf hlen hlead hr, hf, hg,
    Res.bind_ok, Res.pure_eq]

/-! ### non-vacuity: a concrete program with every declaration kind -/

/-- `module m { enum E { A, B = 5, C = A, }; const int K = 3; struct S { 7 require int x = 1;
2 optional vector<map<string, E>> v; 0 optional unsigned byte ub; 3 optional string s[4]; };
key[S, x, v]; interface I { int f(int a, out S b); void g(); }; };` -/
def exampleProg : Prog :=
  { modName := asc "m",
    decls := [
      .enum ⟨asc "E", [⟨asc "A", .auto⟩, ⟨asc "B", .int (asc "5") 5⟩, ⟨asc "C", .ref (asc "A")⟩], true⟩,
      .const ⟨.prim .int, asc "K", .int (asc "3") 3⟩,
      .struct ⟨asc "S", [
        ⟨asc "7", 7, true, .prim .int, asc "x", .dflt (.int (asc "1") 1)⟩,
        ⟨asc "2", 2, false, .vector (.map (.prim .string) (.named (asc "E"))), asc "v", .plain⟩,
        ⟨asc "0", 0, false, .unsigned .byte, asc "ub", .plain⟩,
        ⟨asc "3", 3, false, .prim .string, asc "s", .array (asc "4") 4⟩]⟩,
      .key ⟨asc "S", asc "x", [asc "v"]⟩,
      .interface ⟨asc "I", [
        ⟨some (.prim .int), asc "f", [⟨false, .prim .int, asc "a"⟩, ⟨true, .named (asc "S"), asc "b"⟩]⟩,
        ⟨none, asc "g", []⟩]⟩ ] }

/-- every token followed by a blank, a `//` comment and a `/* */` comment -/
def exampleSeps : List Sep :=
  List.replicate exampleProg.toks.length
    [.blank 32, .line (asc " c") 10, .blank 9, .block (asc " x\n y "), .blank 13, .blank 10]

private theorem exampleProg_wf : exampleProg.WF = true := by decide +kernel
private theorem exampleProg_renderOK : renderOK (exampleProg.toks.zip exampleSeps) = true := by
  decide +kernel
private theorem exampleProg_semOK : semOK .repaired exampleProg.ast = true := by decide +kernel

example : exampleProg.WF = true := exampleProg_wf
example : renderOK (exampleProg.toks.zip exampleSeps) = true := exampleProg_renderOK
example : parseTokens .repaired (tokens (exampleProg.render [.blank 10] exampleSeps)) = .ok exampleProg.ast :=
  C16_accepts_grammar_partial .repaired exampleProg [.blank 10] exampleSeps exampleProg_wf
    List.length_replicate rfl exampleProg_renderOK
example : semOK .repaired exampleProg.ast = true := exampleProg_semOK
/-- the example goes through name resolution and the generator conditions, too -/
example : (match tool .repaired (exampleProg.render [.blank 10] exampleSeps) with
    | .ok _ => true | _ => false) = true := by
  obtain ⟨f, hf, -⟩ := C16_tool_accepts_partial .repaired rfl exampleProg [.blank 10] exampleSeps
    exampleProg_wf List.length_replicate rfl exampleProg_renderOK exampleProg_semOK
  rw [hf]

/-! ## Schema -/

/-- on members with pairwise distinct tags the parser's `sortTag` returns the strictly ascending
permutation -/
theorem C16_sortTag_spec (l : List StructMember) (h : dupTag l = false) :
    (sortTag l).Pairwise (fun a b => a.tag < b.tag) ∧ (sortTag l).Perm l :=
  ⟨sortTag_strict l h, sortTag_perm l⟩

/-- **Declared schema.**  The struct schemas extracted from the syntax tree of a well-formed program
are, in declaration order, those of its struct declarations (names capitalised), and the members of
each are exactly the declared members (tag, `require`, type incl. `unsigned`/array, names, default)
arranged in strictly ascending tag order — the order in which `WriteTo`/`ReadFrom` are emitted. -/
theorem C16_schema (p : Prog) (h : p.WF = true) :
    (schemaOf p.ast).map (·.name) = p.structDecls.map (fun s => upperFirst s.name) ∧
    (schemaOf p.ast).map (·.fields) =
      p.structDecls.map (fun s => (sortTag (s.fields.map GField.ast)).map StructMember.schema) ∧
    ∀ s ∈ p.structDecls,
      ((sortTag (s.fields.map GField.ast)).map StructMember.schema).Pairwise (fun a b => a.tag < b.tag) ∧
      ((sortTag (s.fields.map GField.ast)).map StructMember.schema).Perm s.declared := by
  have hst : p.ast.module.structs =
      p.structDecls.map fun s => ⟨s.name, sortTag (s.fields.map GField.ast)⟩ := by
    have := structs_foldl p.decls { name := p.modName }
    simpa [Prog.ast, Prog.structDecls] using this
  refine ⟨?_, ?_, ?_⟩
  · simp [schemaOf, hst, List.map_map, Function.comp_def]
  · simp [schemaOf, hst, List.map_map, Function.comp_def]
  · intro s hs
    obtain ⟨h1, h2⟩ := C16_sortTag_spec _ (declsWF_structs p.decls _ (Prog.wf_decls h) s hs)
    exact ⟨List.pairwise_map.2 h1,
      by simpa [GStruct.declared, List.map_map, Function.comp_def] using h2.map StructMember.schema⟩

/-! ## Tie of the keyword table to `token/token.go` (regenerated constants) -/

/-- base-256 numeral of at most 7 bytes -/
def num256 (b : Bytes) : Nat := b.foldl (fun a x => a * 256 + x.val) 0

/-- The table `readIdent` searches in the model is, entry by entry and in order, the spelling table
extracted from `token.go` (`tokenMap` between `DummyKeywordBegin`/`DummyKeywordEnd` and
`DummyTypeBegin`/`DummyTypeEnd`, positions from the `iota` block). -/
theorem C16_keyword_table :
    kwTable.map (fun e => (num256 (e.1.take 7), num256 (e.1.drop 7))) =
      [ (Consts.idlSpellModuleA, Consts.idlSpellModuleB), (Consts.idlSpellEnumA, Consts.idlSpellEnumB),
        (Consts.idlSpellStructA, Consts.idlSpellStructB), (Consts.idlSpellInterfaceA, Consts.idlSpellInterfaceB),
        (Consts.idlSpellRequireA, Consts.idlSpellRequireB), (Consts.idlSpellOptionalA, Consts.idlSpellOptionalB),
        (Consts.idlSpellConstA, Consts.idlSpellConstB), (Consts.idlSpellUnsignedA, Consts.idlSpellUnsignedB),
        (Consts.idlSpellVoidA, Consts.idlSpellVoidB), (Consts.idlSpellOutA, Consts.idlSpellOutB),
        (Consts.idlSpellKeyA, Consts.idlSpellKeyB), (Consts.idlSpellTrueA, Consts.idlSpellTrueB),
        (Consts.idlSpellFalseA, Consts.idlSpellFalseB),
        (Consts.idlSpellTIntA, Consts.idlSpellTIntB), (Consts.idlSpellTBoolA, Consts.idlSpellTBoolB),
        (Consts.idlSpellTShortA, Consts.idlSpellTShortB), (Consts.idlSpellTByteA, Consts.idlSpellTByteB),
        (Consts.idlSpellTLongA, Consts.idlSpellTLongB), (Consts.idlSpellTFloatA, Consts.idlSpellTFloatB),
        (Consts.idlSpellTDoubleA, Consts.idlSpellTDoubleB), (Consts.idlSpellTStringA, Consts.idlSpellTStringB),
        (Consts.idlSpellTVectorA, Consts.idlSpellTVectorB), (Consts.idlSpellTMapA, Consts.idlSpellTMapB),
        (Consts.idlSpellTArrayA, Consts.idlSpellTArrayB) ] ∧
    [ Consts.idlPosModule, Consts.idlPosEnum, Consts.idlPosStruct, Consts.idlPosInterface, Consts.idlPosRequire,
      Consts.idlPosOptional, Consts.idlPosConst, Consts.idlPosUnsigned, Consts.idlPosVoid, Consts.idlPosOut,
      Consts.idlPosKey, Consts.idlPosTrue, Consts.idlPosFalse, Consts.idlPosDummyKeywordEnd ] =
      (List.range 14).map (· + Consts.idlPosDummyKeywordBegin + 1) ∧
    [ Consts.idlPosTInt, Consts.idlPosTBool, Consts.idlPosTShort, Consts.idlPosTByte, Consts.idlPosTLong,
      Consts.idlPosTFloat, Consts.idlPosTDouble, Consts.idlPosTString, Consts.idlPosTVector, Consts.idlPosTMap,
      Consts.idlPosTArray, Consts.idlPosDummyTypeEnd ] =
      (List.range 12).map (· + Consts.idlPosDummyTypeBegin + 1) ∧
    (num256 ((asc "#include").take 7), num256 ((asc "#include").drop 7)) =
      (Consts.idlSpellIncludeA, Consts.idlSpellIncludeB) := by
  decide +kernel

end Tars.Idl
