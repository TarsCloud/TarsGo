/-
  C04 — Schema evolution, unknown fields merged into the encoding of a well-typed value.
  This file combines the C04 slot theorem (Props/C04.lean) with the C03 member round trip
  (`rt_all`, Proofs/SchemaRTKinds.lean).  It is separate from Props/C04.lean so that C04 proper does
  not depend on the C03 development.
-/
import TarsModel.Props.C04
import TarsModel.Proofs.EvolveRT
import TarsModel.Proofs.SchemaCheck
import TarsModel.Proofs.SchemaFuel

namespace Tars
open Consts WFField Evolve

/-- **C04_unknown_ignored**: for every well-formed schema (`EnvWF`), every struct `S` of it, every
    well-typed value `vals` of `S`, a target `ovs` whose members are as `ResetDefault` leaves a
    fresh struct (`OldOK`, inside `MembersTyped`), and every admissible interleaving (`gaps`,
    `tail`) of well-formed fields whose tags are not in the schema: `ReadFrom` returns the same
    outcome on the merged message as on `encStruct` of the value alone.

    `MembersTyped` says member by member what C03 asks of schema, value and target (tag < 256,
    `TyOK`, `DfltOK`, `WT`, `OldOK`).  No hypothesis about the model fuel is left: `decFuel` of
    either run exceeds the fuel the members' reads need (C03's `needElems_le_members`: at most
    `(width+3)·bytes + members + 2`) plus the member count, and the rank of the struct
    (`C04_resetDefault_decFuel`). -/
theorem C04_unknown_ignored (env : Env) (rk : String → Nat) (hE : EnvWF env rk)
    (S : String) (fs : List Field) (vals ovs : List Val) (gaps : List (List WFField))
    (tail : List WFField) (r r' : Reader) (t t' : Bytes)
    (hfind : env.find S = some fs) (hlo : ovs.length = fs.length) (hlv : vals.length = fs.length)
    (hlg : gaps.length = fs.length)
    (hok : MembersTyped env rk fs (resetDefault env (decFuel env r) fs ovs) vals)
    (hadm : Admissible 0
      (gaps.zip (encSlots env fs (resetDefault env (decFuel env r) fs ovs) vals)) tail)
    (ht : Evolve.Terminated t) (ht' : Evolve.Terminated t')
    (h : r.rest = merged
      (gaps.zip (encSlots env fs (resetDefault env (decFuel env r) fs ovs) vals)) tail ++ t)
    (h' : r'.rest = encStruct env S (.struct vals) ++ t') :
    (decStruct env S (.struct ovs) r).1 = (decStruct env S (.struct ovs) r').1 := by
  obtain ⟨hwt, hslots⟩ := MembersTyped.slots env rk hE (needElems vals) fs _ vals hok
  have hb := needElems_le_members env fs vals hwt
  have hw := Env.find_width hfind
  have hol := resetDefault_decFuel_length env r fs ovs hlo
  have hsz' : (encMembers env fs vals).length ≤ r'.data.size :=
    r'.length_le_size_of_rest (t := t') (by simpa [encStruct, hfind] using h')
  have hsz : (encMembers env fs vals).length ≤ r.data.size := by
    have h1 := merged_length_ge
      (gaps.zip (encSlots env fs (resetDefault env (decFuel env r) fs ovs) vals)) tail
    obtain ⟨_, _, hstrip, _⟩ := zip_encSlots env fs _ vals gaps hol hlv hlg
    rw [hstrip] at h1
    exact Nat.le_trans h1 (r.length_le_size_of_rest h)
  have key : ∀ x : Reader, (encMembers env fs vals).length ≤ x.data.size →
      needElems vals + fs.length < decFuel env x := fun x hl => by
    have := decFuel_lb env hl
    omega
  exact C04_unknown_ignored_enc_partial env rk (envAcyclic_of_envWF hE) (needElems vals) S fs vals ovs
    gaps tail r r' t t' hfind hlo hlv hlg hadm
    (hslots (Nat.le_refl _))
    (key r hsz) (key r' hsz') ht ht' h h'

/-- non-vacuity: all hypotheses hold together for the schema, value and unknown fields of the
    example in Props/C04.lean (`a = 5`, `b = ""` left out by the writer) -/
example :
    (decStruct C04_exEnv "S" (.struct [.int 0, .str []]) (Reader.mk0 (merged C04_exItems C04_exTail))).1
      = (decStruct C04_exEnv "S" (.struct [.int 0, .str []])
          (Reader.mk0 (encStruct C04_exEnv "S" (.struct [.int 5, .str []])))).1 := by
  have hwf : EnvWF C04_exEnv (fun _ => 0) := EnvWF.of_check (by decide)
  have hitems : ([[.zero 0, .string1 1 [Tars.byte 65]], [.list 3 [.zero 0, .zero 0]]] : List (List WFField)).zip
      (encSlots C04_exEnv C04_exFs [.int 0, .str []] [.int 5, .str []]) = C04_exItems := by
    simp [encSlots, C04_exFs, C04_exItems, encVar, Ty.isScalar, scalarNeDefault, scalarZero, writeScalar]
  refine C04_unknown_ignored C04_exEnv (fun _ => 0) hwf "S" C04_exFs [.int 5, .str []] _
    [[.zero 0, .string1 1 [Tars.byte 65]], [.list 3 [.zero 0, .zero 0]]] C04_exTail _ _ [] []
    C04_ex_find rfl rfl rfl ?_ ?_ (.inl rfl) (.inl rfl) ?_ (Reader.rest_mk0_append_nil _)
  · rw [C04_ex_fuel, C04_ex_reset]
    simp [MembersTyped, C04_exFs, TyOK, DfltOK, WT, ScalarOK, OldOK, Ready, Ty.isAtom, Ty.isScalar, scalarZero]
  · rw [C04_ex_fuel, C04_ex_reset, hitems]; exact C04_ex_adm
  · rw [C04_ex_fuel, C04_ex_reset, hitems]; exact Reader.rest_mk0_append_nil _
end Tars
